/-
`==` is an equivalence on structured keys: atoms (null, booleans, functions, all strings) and
lists — nested to any depth, any separator, bracketed or not — of such keys (C13), proved by
mapping a key to a canonical tree on which `==` is plain equality (mutual structural induction).
Numbers and colours are excluded on purpose (tolerances are not transitive), maps because their
`==` is set-like.
-/
import RsassModel.Value.SimpleKeys
namespace Val
open Num
variable {ν : Type} [NumCmpOps ν]

/-- canonical tree of a structured key -/
inductive CanonT where
  | atom (c : Canon)
  | list (xs : List CanonT) (sep : Sep) (br : Bool)

mutual
/-- atoms, and lists of good keys -/
def V.goodKey : V ν → Bool
  | .null | .tt | .ff | .fn _ | .str _ _ => true
  | .list xs _ _ => goodKeys xs
  | _ => false
def goodKeys : List (V ν) → Bool
  | [] => true
  | x :: xs => V.goodKey x && goodKeys xs
end

mutual
def V.canonT : V ν → CanonT
  | .list xs s b => .list (canonTs xs) s b
  | v => .atom v.canonA
def canonTs : List (V ν) → List CanonT
  | [] => []
  | x :: xs => V.canonT x :: canonTs xs
end

section
variable (q : ValQuirks) (hq : q.strEqSameQuotesRaw = false) (env : Env ν)
include hq
set_option linter.unusedSectionVars false

-- The other key is split by the definition of `V.goodKey`: it is no structured key (its
-- hypothesis is `false = true`), or a list against an atom (then `==` is false by kind and the
-- trees differ), or both are atoms, or both are lists.
mutual
theorem eq_good : (a : V ν) → a.goodKey = true → ∀ b : V ν, b.goodKey = true →
    (V.eq q env a b = true ↔ a.canonT = b.canonT)
  | .null, _, b, hb | .tt, _, b, hb | .ff, _, b, hb | .fn _, _, b, hb | .str _ _, _, b, hb => by
    revert hb
    fun_cases V.goodKey b <;> intro hb
    case case6 => exact V.eq_iff_of_kind_ne q env rfl nofun
    case case7 => contradiction
    all_goals
      exact Iff.trans (eq_atom q env _ _ rfl rfl fun s1 q1 s2 q2 _ _ => hq ▸ strEq_iff_unquote s1 q1 s2 q2)
        ⟨congrArg CanonT.atom, CanonT.atom.inj⟩
  | .list xs s1 b1, ha, b, hb => by
    revert hb
    fun_cases V.goodKey b <;> intro hb
    case case6 ys s2 b2 =>
      rw [V.eq_list_list, Bool.and_eq_true, Bool.and_eq_true, beq_iff_eq, beq_iff_eq, eqList_good xs ha ys hb,
        and_assoc]
      exact (CanonT.list.injEq ..).symm ▸ Iff.rfl
    all_goals first
      | contradiction
      | exact V.eq_iff_of_kind_ne q env rfl nofun
theorem eqList_good : (xs : List (V ν)) → goodKeys xs = true → ∀ ys : List (V ν), goodKeys ys = true →
    (eqList q env xs ys = true ↔ canonTs xs = canonTs ys)
  | [], _, [], _ => iff_of_true (eqList_nil_nil q env) rfl
  | [], _, _ :: _, _ => iff_of_false (Bool.eq_false_iff.mp (eqList_nil_cons q env _ _)) nofun
  | _ :: _, _, [], _ => iff_of_false (Bool.eq_false_iff.mp (eqList_cons_nil q env _ _)) nofun
  | x :: xs, hx, y :: ys, hy => by
    have hx : x.goodKey = true ∧ goodKeys xs = true := Bool.and_eq_true_iff.mp hx
    have hy : y.goodKey = true ∧ goodKeys ys = true := Bool.and_eq_true_iff.mp hy
    rw [eqList_cons_cons, Bool.and_eq_true, eq_good x hx.1 y hy.1, eqList_good xs hx.2 ys hy.2]
    exact (List.cons.injEq ..).symm ▸ Iff.rfl
end

end

/-- the key type: structured keys -/
def GoodKey (ν : Type) := { x : V ν // x.goodKey = true }
def keqGood (q : ValQuirks) (env : Env ν) (a b : GoodKey ν) : Bool := V.eq q env a.1 b.1

/-- `==` is an equivalence on structured keys (atoms incl. all strings, and lists of them to any
depth), for every flag setting with the unquote-based string comparison. -/
theorem kequiv_good (q : ValQuirks) (hq : q.strEqSameQuotesRaw = false) (env : Env ν) :
    OM.KEquiv (keqGood q env) :=
  OM.KEquiv.of_canon _ (fun a => a.1.canonT) fun a b => eq_good q hq env a.1 a.2 b.1 b.2

end Val
