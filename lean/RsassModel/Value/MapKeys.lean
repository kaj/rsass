/-
Maps used as keys (C13): on maps whose keys and values are structured keys (`V.goodKey`), the
set-like map `==` (same length, inclusion both ways) is an equivalence.  Proved by showing that it
is "same length and the same set of canonical (key, value) pairs".
-/
import RsassModel.Value.StructKeys
namespace Val
open Num
variable {ν : Type} [NumCmpOps ν]

/-- every key and value of the map is a structured key -/
def GoodPairs (m : List (V ν × V ν)) : Prop := ∀ p ∈ m, p.1.goodKey = true ∧ p.2.goodKey = true

def canonPairs (m : List (V ν × V ν)) : List (CanonT × CanonT) := m.map fun p => (p.1.canonT, p.2.canonT)

section
variable (q : ValQuirks) (hq : q.strEqSameQuotesRaw = false) (env : Env ν)
include hq

theorem pair_eq_iff {p e : V ν × V ν} (hp : p.1.goodKey = true ∧ p.2.goodKey = true)
    (he : e.1.goodKey = true ∧ e.2.goodKey = true) :
    (V.eq q env p.1 e.1 && V.eq q env p.2 e.2) = true ↔ (e.1.canonT, e.2.canonT) = (p.1.canonT, p.2.canonT) := by
  rw [Bool.and_eq_true, eq_good q hq env _ hp.1 _ he.1, eq_good q hq env _ hp.2 _ he.2, Prod.mk.injEq]
  exact ⟨fun h => ⟨h.1.symm, h.2.symm⟩, fun h => ⟨h.1.symm, h.2.symm⟩⟩

theorem inclF_iff (a m : List (V ν × V ν)) (ha : GoodPairs a) (hm : GoodPairs m) :
    inclF q env a m = true ↔ ∀ c ∈ canonPairs a, c ∈ canonPairs m := by
  rw [inclF_eq_all, List.all_eq_true, canonPairs, List.forall_mem_map]
  simp only [List.any_eq_true, canonPairs, List.mem_map]
  exact forall₂_congr fun p hp => exists_congr fun e => and_congr_right fun he =>
    pair_eq_iff q hq env (ha p hp) (hm e he)

theorem all_hasMatch_iff (a m : List (V ν × V ν)) (ha : GoodPairs a) (hm : GoodPairs m) :
    m.all (fun p => hasMatch q env a p) = true ↔ ∀ c ∈ canonPairs m, c ∈ canonPairs a := by
  rw [List.all_eq_true, canonPairs, List.forall_mem_map]
  simp only [hasMatch_eq_any, List.any_eq_true, canonPairs, List.mem_map]
  exact forall₂_congr fun p hp => exists_congr fun e => and_congr_right fun he =>
    (pair_eq_iff q hq env (ha e he) (hm p hp)).trans eq_comm

/-- map `==` (specification = code since 3dd7990) on maps of structured keys/values: same length
and the same set of canonical pairs -/
theorem mapEq_good_iff (hm1 : q.mapEqOrdered = false) (hm2 : q.mapEqOneSided = false)
    (a b : List (V ν × V ν)) (ha : GoodPairs a) (hb : GoodPairs b) :
    V.eq q env (.map a) (.map b) = true ↔
      a.length = b.length ∧ (∀ c ∈ canonPairs a, c ∈ canonPairs b) ∧ (∀ c ∈ canonPairs b, c ∈ canonPairs a) := by
  simp only [V.eq_map_map, hm1, hm2, Bool.false_eq_true, if_false, Bool.and_eq_true, beq_iff_eq,
    inclF_iff q hq env a b ha hb, all_hasMatch_iff q hq env a b ha hb]
  exact and_assoc

end

/-- the key type: maps of structured keys and values -/
def MapKey (ν : Type) := { m : List (V ν × V ν) // GoodPairs m }
def keqMap (q : ValQuirks) (env : Env ν) (a b : MapKey ν) : Bool := V.eq q env (.map a.1) (.map b.1)

/-- `==` is an equivalence on maps (used as keys) whose keys and values are structured keys. -/
theorem kequiv_map (q : ValQuirks) (hq : q.strEqSameQuotesRaw = false) (hm1 : q.mapEqOrdered = false)
    (hm2 : q.mapEqOneSided = false) (env : Env ν) : OM.KEquiv (keqMap q env) :=
  OM.KEquiv.of_iff _
    (R := fun a b => a.1.length = b.1.length ∧ (∀ c ∈ canonPairs a.1, c ∈ canonPairs b.1) ∧
      (∀ c ∈ canonPairs b.1, c ∈ canonPairs a.1))
    ⟨fun _ => ⟨rfl, fun _ h => h, fun _ h => h⟩, fun ⟨h1, h2, h3⟩ => ⟨h1.symm, h3, h2⟩,
      fun ⟨h1, h2, h3⟩ ⟨k1, k2, k3⟩ => ⟨h1.trans k1, fun c hc => k2 c (h2 c hc), fun c hc => h3 c (k3 c hc)⟩⟩
    fun a b => mapEq_good_iff q hq env hm1 hm2 a.1 b.1 a.2 b.2

end Val
