/-
`==` is an equivalence on the "simple" keys — null, booleans, functions and strings without
backslash escapes in any quote style — used to instantiate `OM.KEquiv` (C13) with actual
SassScript values.  (Numbers are excluded on purpose: `==` within ε is not transitive.)
-/
import RsassModel.Value.Lemmas
import RsassModel.Value.OrderMapLemmas
namespace Val
open Num

variable {ν : Type} [NumCmpOps ν]

/-- what `==` looks at in a simple key -/
inductive Canon | null | tt | ff | fn (i : Nat) | str (s : List Nat)
  deriving DecidableEq

def V.simpleKey : V ν → Bool
  | .null | .tt | .ff | .fn _ => true
  | .str s _ => !s.contains 92
  | _ => false

/-- atoms that may be keys: null, booleans, functions, and ANY string -/
def V.atomKey : V ν → Bool
  | .null | .tt | .ff | .fn _ | .str _ _ => true
  | _ => false

/-- what `==` looks at in an atom key: strings by their unquoted text -/
def V.canonA : V ν → Canon
  | .tt => .tt
  | .ff => .ff
  | .fn i => .fn i
  | .str s q => .str (unquote s q)
  | _ => .null

theorem unq_no_backslash : ∀ s : List Nat, s.contains 92 = false → unq s none = s
  | [], _ => by simp [unq]
  | c :: rest, h => by
    simp only [List.contains_cons, Bool.or_eq_false_iff, beq_eq_false_iff_ne, ne_eq] at h
    have hc : ¬ c = 92 := fun e => h.1 e.symm
    simp [unq, hc, unq_no_backslash rest h.2]

/-- without a backslash a string is its own unquoted text, and both forms of `CssString::eq`
compare the texts -/
theorem strEq_no_backslash (r : Bool) (s1 s2 : List Nat) (q1 q2 : Quotes)
    (h1 : s1.contains 92 = false) (h2 : s2.contains 92 = false) :
    strEq r s1 q1 s2 q2 = (unquote s1 q1 == unquote s2 q2) := by
  have e : ∀ s q, s.contains 92 = false → unquote s q = s := fun s q h => by
    unfold unquote
    split <;> simp [unq_no_backslash s h]
  unfold strEq
  rw [e s1 q1 h1, e s2 q2 h2]
  cases r
  · by_cases hq : q1 = q2 <;> simp [hq]
  · by_cases hq : q1 = q2 <;> simp [hq]

/-- the current `CssString::eq` is exactly "equal after unquoting" -/
theorem strEq_iff_unquote (s1 : List Nat) (q1 : Quotes) (s2 : List Nat) (q2 : Quotes) :
    strEq false s1 q1 s2 q2 = (unquote s1 q1 == unquote s2 q2) := by
  simp only [strEq, Bool.false_eq_true, if_false]
  cases h : (unquote s1 q1 == unquote s2 q2)
  · simp only [Bool.or_false, Bool.and_eq_false_imp, decide_eq_true_eq]
    intro hq
    rw [Bool.eq_false_iff]
    intro hs
    have hs' : s1 = s2 := by simpa using hs
    subst hq
    subst hs'
    simp at h
  · simp

omit [NumCmpOps ν] in
theorem atomKey_of_simpleKey {a : V ν} (h : a.simpleKey = true) : a.atomKey = true := by
  revert h
  fun_cases V.simpleKey a <;> first | exact fun _ => rfl | exact fun h => nomatch h

/-- `==` on atoms compares their canonical forms, as soon as on two strings it compares the
unquoted texts -/
theorem eq_atom (q : ValQuirks) (env : Env ν) (a b : V ν) (ha : a.atomKey = true) (hb : b.atomKey = true)
    (hs : ∀ s1 q1 s2 q2, a = .str s1 q1 → b = .str s2 q2 →
      strEq q.strEqSameQuotesRaw s1 q1 s2 q2 = (unquote s1 q1 == unquote s2 q2)) :
    V.eq q env a b = true ↔ a.canonA = b.canonA := by
  revert ha hb hs
  -- cases in the order of the lines of `V.atomKey`: null, true, false, function, string, other
  fun_cases V.atomKey a <;> fun_cases V.atomKey b <;> intro ha hb hs
  case case1.case1 => exact iff_of_true (V.eq_null q env) rfl
  case case2.case2 => exact iff_of_true (V.eq_tt q env) rfl
  case case3.case3 => exact iff_of_true (V.eq_ff q env) rfl
  case case4.case4 i j =>
    rw [V.eq_fn_fn, beq_iff_eq]
    exact Canon.fn.injEq i j ▸ Iff.rfl
  case case5.case5 s1 q1 s2 q2 =>
    rw [V.eq_str_str, hs s1 q1 s2 q2 rfl rfl, beq_iff_eq]
    exact Canon.str.injEq _ _ ▸ Iff.rfl
  -- no atom (a hypothesis is `false = true`), or two different forms: `==` is false by kind and
  -- the canonical forms differ
  all_goals first
    | contradiction
    | exact V.eq_iff_of_kind_ne q env rfl Canon.noConfusion

/-- the key type: simple values -/
def SimpleKey (ν : Type) := { x : V ν // x.simpleKey = true }

def keqSimple (q : ValQuirks) (env : Env ν) (a b : SimpleKey ν) : Bool := V.eq q env a.1 b.1

/-- `==` is an equivalence on simple keys, for every flag setting. -/
theorem kequiv_simple (q : ValQuirks) (env : Env ν) : OM.KEquiv (keqSimple q env) :=
  OM.KEquiv.of_canon _ (fun a => a.1.canonA) fun a b =>
    eq_atom q env a.1 b.1 (atomKey_of_simpleKey a.2) (atomKey_of_simpleKey b.2) fun s1 q1 s2 q2 h1 h2 =>
      strEq_no_backslash _ s1 s2 q1 q2 ((Bool.not_eq_true' _).mp (show (V.str s1 q1 : V ν).simpleKey = true from h1 ▸ a.2))
        ((Bool.not_eq_true' _).mp (show (V.str s2 q2 : V ν).simpleKey = true from h2 ▸ b.2))

def AtomKey (ν : Type) := { x : V ν // x.atomKey = true }
def keqAtom (q : ValQuirks) (env : Env ν) (a b : AtomKey ν) : Bool := V.eq q env a.1 b.1

/-- `==` is an equivalence on null, booleans, functions and all strings (escapes included, any
quote kinds), for every flag setting with the unquote-based string comparison. -/
theorem kequiv_atom (q : ValQuirks) (hq : q.strEqSameQuotesRaw = false) (env : Env ν) :
    OM.KEquiv (keqAtom q env) :=
  OM.KEquiv.of_canon _ (fun a => a.1.canonA) fun a b =>
    eq_atom q env a.1 b.1 a.2 b.2 fun s1 q1 s2 q2 _ _ => hq ▸ strEq_iff_unquote s1 q1 s2 q2

end Val
