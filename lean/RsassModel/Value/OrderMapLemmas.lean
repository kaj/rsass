/-
Laws of the association-list model `OM` (C13), for an arbitrary key equality.
-/
import RsassModel.Value.OrderMap
namespace OM

variable {K V : Type} (keq : K → K → Bool)

/-- no two stored keys are `==` (earlier against later, the direction `insert` tests) -/
def NoDup (m : List (K × V)) : Prop := m.Pairwise (fun a b => keq a.1 b.1 = false)

/-- `==` is an equivalence on the key type the laws are instantiated with -/
structure KEquiv : Prop where
  refl : ∀ a, keq a a = true
  symm : ∀ a b, keq a b = keq b a
  trans : ∀ a b c, keq a b = true → keq b c = true → keq a c = true

theorem KEquiv.of_iff {R : K → K → Prop} (hR : Equivalence R) (h : ∀ a b, keq a b = true ↔ R a b) :
    KEquiv keq where
  refl a := (h a a).mpr (hR.refl a)
  symm a b := Bool.eq_iff_iff.mpr ((h a b).trans (Iff.trans ⟨hR.symm, hR.symm⟩ (h b a).symm))
  trans a b c hab hbc := (h a c).mpr (hR.trans ((h a b).mp hab) ((h b c).mp hbc))

theorem KEquiv.of_canon {γ : Type} (f : K → γ) (h : ∀ a b, keq a b = true ↔ f a = f b) : KEquiv keq :=
  KEquiv.of_iff keq (R := fun a b => f a = f b) ⟨fun _ => rfl, Eq.symm, Eq.trans⟩ h

theorem KEquiv.not_both (E : KEquiv keq) {key key' : K} (h : keq key key' = false) (e : K)
    (he : keq e key = true) : keq e key' = false :=
  Bool.eq_false_iff.mpr fun he' => Bool.eq_false_iff.mp h (E.trans key e key' (E.symm e key ▸ he) he')

theorem contains_iff (m : List (K × V)) (key : K) :
    contains keq m key = true ↔ ∃ e ∈ m, keq e.1 key = true := by
  simp [contains, List.any_eq_true]

theorem get_isSome (m : List (K × V)) (key : K) : (get keq m key).isSome = contains keq m key := by
  induction m with
  | nil => simp [get, contains]
  | cons e m ih =>
    obtain ⟨k, v⟩ := e
    simp only [get, contains, List.any_cons] at *
    cases h : keq k key <;> simp [ih]

theorem get_some_mem (m : List (K × V)) (key : K) (v : V) (h : get keq m key = some v) :
    ∃ k, (k, v) ∈ m ∧ keq k key = true := by
  induction m with
  | nil => simp [get] at h
  | cons e m ih =>
    obtain ⟨k, w⟩ := e
    simp only [get] at h
    by_cases hk : keq k key = true
    · simp only [hk, if_true, Option.some.injEq] at h
      exact ⟨k, by simp [h], hk⟩
    · simp only [hk, Bool.false_eq_true, if_false] at h
      obtain ⟨k', hm, hk'⟩ := ih h
      exact ⟨k', by simp [hm], hk'⟩

theorem insert_snd (m : List (K × V)) (key : K) (v : V) : (insert keq m key v).2 = contains keq m key := by
  induction m with
  | nil => simp [insert, contains]
  | cons e m ih =>
    obtain ⟨k, w⟩ := e
    simp only [insert, contains, List.any_cons] at *
    cases h : keq k key <;> simp [ih]

theorem insert_of_not_contains (m : List (K × V)) (key : K) (v : V) (h : contains keq m key = false) :
    (insert keq m key v).1 = m ++ [(key, v)] := by
  induction m with
  | nil => simp [insert]
  | cons e m ih =>
    obtain ⟨k, w⟩ := e
    simp only [contains, List.any_cons, Bool.or_eq_false_iff] at h
    simp only [insert, h.1, Bool.false_eq_true, if_false, List.cons_append, List.cons.injEq, true_and]
    exact ih (by simpa [contains] using h.2)

theorem keys_insert (m : List (K × V)) (key : K) (v : V) :
    keys (insert keq m key v).1 = if contains keq m key then keys m else keys m ++ [key] := by
  induction m with
  | nil => simp [insert, contains, keys]
  | cons e m ih =>
    obtain ⟨k, w⟩ := e
    by_cases h : keq k key = true
    · simp [insert, contains, keys, h]
    · have h' : keq k key = false := by simpa using h
      have ih' : List.map (fun x => x.1) (insert keq m key v).1
          = if contains keq m key then List.map (fun x => x.1) m else List.map (fun x => x.1) m ++ [key] := ih
      simp only [insert, h', Bool.false_eq_true, if_false, keys, List.map_cons, ih', contains, List.any_cons,
        Bool.false_or]
      split <;> rename_i hh <;> simp [hh]

theorem get_insert_same (m : List (K × V)) (key : K) (v : V) (hrefl : keq key key = true) :
    get keq (insert keq m key v).1 key = some v := by
  induction m with
  | nil => simp [insert, get, hrefl]
  | cons e m ih =>
    obtain ⟨k, w⟩ := e
    simp only [insert]
    cases h : keq k key
    · simp [get, h, ih]
    · simp [get, h]

theorem get_insert_other (m : List (K × V)) (key key' : K) (v : V)
    (h1 : ∀ e ∈ m, keq e.1 key = true → keq e.1 key' = false) (h2 : keq key key' = false) :
    get keq (insert keq m key v).1 key' = get keq m key' := by
  induction m with
  | nil => simp [insert, get, h2]
  | cons e m ih =>
    obtain ⟨k, w⟩ := e
    have ih' := ih (fun e he => h1 e (by simp [he]))
    simp only [insert]
    cases h : keq k key
    · simp only [Bool.false_eq_true, if_false, get, ih']
    · have := h1 (k, w) (by simp) h
      simp only [if_true, get]
      simp only [] at this
      simp [this]

theorem remove_eq_eraseP (m : List (K × V)) (key : K) :
    remove keq m key = m.eraseP (fun e => keq e.1 key) := by
  induction m with
  | nil => simp [remove]
  | cons e m ih =>
    obtain ⟨k, w⟩ := e
    simp only [remove, List.eraseP_cons]
    cases h : keq k key <;> simp [ih]

theorem get_remove_other (m : List (K × V)) (key key' : K)
    (h1 : ∀ e ∈ m, keq e.1 key = true → keq e.1 key' = false) :
    get keq (remove keq m key) key' = get keq m key' := by
  induction m with
  | nil => simp [remove]
  | cons e m ih =>
    obtain ⟨k, w⟩ := e
    have ih' := ih (fun e he => h1 e (by simp [he]))
    simp only [remove]
    cases h : keq k key
    · simp only [Bool.false_eq_true, if_false, get, ih']
    · have := h1 (k, w) (by simp) h
      simp only [] at this
      simp [get, this]

theorem contains_remove_same (E : KEquiv keq) (m : List (K × V)) (key : K) (hd : NoDup keq m) :
    contains keq (remove keq m key) key = false := by
  induction m with
  | nil => simp [remove, contains]
  | cons e m ih =>
    obtain ⟨k, w⟩ := e
    have hd' := List.pairwise_cons.mp hd
    simp only [remove]
    cases h : keq k key
    · simp only [Bool.false_eq_true, if_false, contains, List.any_cons, h, Bool.false_or]
      exact ih hd'.2
    · simp only [if_true]
      -- every later key is not == k, hence (equivalence) not == key
      rw [Bool.eq_false_iff]
      intro hc
      obtain ⟨e', he', hk'⟩ := (contains_iff keq m key).mp hc
      have h1 := hd'.1 e' he'
      have : keq k e'.1 = true := E.trans k key e'.1 h (by rw [E.symm]; exact hk')
      simp [this] at h1

theorem literal_some_iff (acc kvs r : List (K × V)) :
    literal keq acc kvs = some r ↔
      r = acc ++ kvs ∧ (∀ a ∈ acc, ∀ b ∈ kvs, keq a.1 b.1 = false) ∧ NoDup keq kvs := by
  induction kvs generalizing acc with
  | nil =>
    simp only [literal, NoDup, List.append_nil, Option.some.injEq, List.not_mem_nil, false_imp_iff, implies_true,
      List.Pairwise.nil, and_true]
    exact eq_comm
  | cons e rest ih =>
    obtain ⟨k, v⟩ := e
    simp only [literal, insert_snd]
    cases hc : contains keq acc k
    · simp only [Bool.false_eq_true, if_false, insert_of_not_contains keq acc k v hc, ih]
      have hc' : ∀ a ∈ acc, keq a.1 k = false := by
        intro a ha
        rw [Bool.eq_false_iff]
        intro h
        have := (contains_iff keq acc k).mpr ⟨a, ha, h⟩
        simp [hc] at this
      constructor
      · rintro ⟨hr, h1, h2⟩
        refine ⟨by simp [hr], ?_, ?_⟩
        · intro a ha b hb
          rcases List.mem_cons.mp hb with hb | hb
          · subst hb; exact hc' a ha
          · exact h1 a (by simp [ha]) b hb
        · exact List.pairwise_cons.mpr ⟨fun b hb => h1 (k, v) (by simp) b hb, h2⟩
      · rintro ⟨hr, h1, h2⟩
        have h2' := List.pairwise_cons.mp h2
        refine ⟨by simp [hr], ?_, h2'.2⟩
        intro a ha b hb
        rcases List.mem_append.mp ha with ha | ha
        · exact h1 a ha b (by simp [hb])
        · simp only [List.mem_singleton] at ha; subst ha; exact h2'.1 b hb
    · simp only [if_true]
      constructor
      · intro h; simp at h
      · rintro ⟨_, h1, _⟩
        obtain ⟨a, ha, hk⟩ := (contains_iff keq acc k).mp hc
        have := h1 a ha (k, v) (by simp)
        simp [hk] at this

theorem contains_append (m : List (K × V)) (k : K) (v : V) (key : K) :
    contains keq (m ++ [(k, v)]) key = (contains keq m key || keq k key) := by
  simp [contains]

theorem contains_insert (m : List (K × V)) (k : K) (v : V) (key : K) (h : keq k key = false) :
    contains keq (insert keq m k v).1 key = contains keq m key := by
  have hk := keys_insert keq m k v
  have e : ∀ m' : List (K × V), contains keq m' key = (keys m').any (fun s => keq s key) := by
    intro m'
    simp [contains, keys, List.any_map, Function.comp_def]
  rw [e, e, hk]
  split
  · rfl
  · simp [h]

theorem keys_merge (m1 m2 : List (K × V)) (hd : NoDup keq m2) :
    keys (merge keq m1 m2) = keys m1 ++ (keys m2).filter (fun k => !contains keq m1 k) := by
  induction m2 generalizing m1 with
  | nil => simp [merge, keys]
  | cons e rest ih =>
    obtain ⟨k, v⟩ := e
    have hd' := List.pairwise_cons.mp hd
    simp only [merge]
    rw [ih _ hd'.2, keys_insert]
    have hf : (keys rest).filter (fun k' => !contains keq (insert keq m1 k v).1 k')
        = (keys rest).filter (fun k' => !contains keq m1 k') := by
      apply List.filter_congr
      intro k' hk'
      obtain ⟨e', he', rfl⟩ := List.mem_map.mp hk'
      rw [contains_insert keq m1 k v e'.1 (hd'.1 e' he')]
    rw [hf]
    cases hc : contains keq m1 k
    · simp [keys, hc]
    · simp [keys, hc]

theorem get_merge_other (E : KEquiv keq) (m1 m2 : List (K × V)) (key' : K)
    (h : ∀ e ∈ m2, keq e.1 key' = false) :
    get keq (merge keq m1 m2) key' = get keq m1 key' := by
  induction m2 generalizing m1 with
  | nil => simp [merge]
  | cons e rest ih =>
    obtain ⟨k, v⟩ := e
    simp only [merge]
    rw [ih _ (fun e he => h e (by simp [he]))]
    have hk : keq k key' = false := h (k, v) (by simp)
    exact get_insert_other keq m1 k key' v (fun e _ => E.not_both keq hk e.1) hk

theorem get_merge_right (E : KEquiv keq) (m1 m2 : List (K × V)) (hd : NoDup keq m2)
    (k : K) (v : V) (hm : (k, v) ∈ m2) :
    get keq (merge keq m1 m2) k = some v := by
  induction m2 generalizing m1 with
  | nil => simp at hm
  | cons e rest ih =>
    obtain ⟨k0, v0⟩ := e
    have hd' := List.pairwise_cons.mp hd
    simp only [merge]
    rcases List.mem_cons.mp hm with h | h
    · have hk : k = k0 := congrArg Prod.fst h
      have hv : v = v0 := congrArg Prod.snd h
      subst hk
      subst hv
      rw [get_merge_other keq E _ rest k (fun e he => by rw [E.symm]; exact hd'.1 e he)]
      exact get_insert_same keq m1 k v (E.refl k)
    · exact ih _ hd'.2 h

end OM
