/-
`V.eq` (C12): its equations, symmetry (given symmetric numbers), reflexivity (off NaN), and the
comparison operators on two numbers.  `V.eq` is defined by well-founded recursion and its last line
covers all remaining pairs of constructors: use the equations stated here and `V.eq_of_kind_ne`;
`simp [V.eq]` is slow.
-/
import RsassModel.Value.Eq
namespace Val
open Num Num.NumCmpOps

variable {ν : Type} [NumCmpOps ν]

theorem numEq_spec_symm (L : NumCmpLaws ν) (a b : ν) : numEq cmpSpec a b = numEq cmpSpec b a := by
  simp only [numEq, cmpSpec]
  rw [L.abs_sub_comm a b, L.feq_comm a b,
    Bool.or_comm (fle (abs (sub b a)) (mul eps (abs a)))]
  simp

theorem ieeeCmp_eq_iff (a b : ν) (L : NumCmpLaws ν) : (ieeeCmp a b == some .eq) = (feq a b) := by
  unfold ieeeCmp
  cases h1 : lt a b
  · cases h2 : feq a b
    · cases h3 : lt b a <;> simp
    · simp
  · have := L.lt_not_feq a b h1
    simp [this]

theorem ieeeCmp_some (L : NumCmpLaws ν) (x y : ν) (hx : isNaN x = false) (hy : isNaN y = false) :
    ieeeCmp x y ≠ none := by
  unfold ieeeCmp
  rcases L.total x y hx hy with h | h | h
  · simp [h]
  · cases h1 : lt x y <;> simp [h]
  · cases h1 : lt x y
    · cases h2 : feq x y <;> simp [h]
    · simp

/-- `Number::partial_cmp(a, b) == Some(Equal)` -/
theorem numCmp_eq_iff (L : NumCmpLaws ν) (q : CmpQuirks) (a b : ν) :
    (numCmp q a b == some .eq) = (numEq q a b || feq a b) := by
  unfold numCmp
  cases h : numEq q a b
  · simp [ieeeCmp_eq_iff a b L]
  · simp

theorem numCmp_spec_eq_symm (L : NumCmpLaws ν) (a b : ν) :
    (numCmp cmpSpec a b == some .eq) = (numCmp cmpSpec b a == some .eq) := by
  rw [numCmp_eq_iff L, numCmp_eq_iff L, numEq_spec_symm L a b, L.feq_comm a b]


theorem noEqual_ne (o : Option Ordering) : (noEqual o == some .eq) = false := by
  rcases o with _ | o
  · rfl
  · cases o <;> rfl

theorem twoWayCmp_eq_symm (L : NumCmpLaws ν) (x y f g : ν) :
    (twoWayCmp cmpSpec x y f g == some .eq) = (twoWayCmp cmpSpec y x g f == some .eq) := by
  unfold twoWayCmp
  rw [Bool.or_comm (numCmp cmpSpec y (mul x g) == some .eq)]
  cases hc : (numCmp cmpSpec x (mul y f) == some .eq || numCmp cmpSpec y (mul x g) == some .eq)
  · simp only [Bool.false_eq_true, if_false]
    rw [Bool.or_eq_false_iff] at hc
    rw [numCmp_eq_iff L, numCmp_eq_iff L, Bool.or_eq_false_iff, Bool.or_eq_false_iff] at hc
    rw [ieeeCmp_eq_iff _ _ L, ieeeCmp_eq_iff _ _ L, hc.1.2, hc.2.2]
  · simp

theorem numericEq_symm (L : NumCmpLaws ν) {q : ValQuirks} (h1 : q.numEqAsymmetric = false)
    (h2 : q.convCmpOneWay = false) (env : Env ν) (x : ν) (ux : Nat) (y : ν) (uy : Nat) :
    numericEq q env x ux y uy = numericEq q env y uy x ux := by
  have hcmp : q.cmp = cmpSpec := by simp [ValQuirks.cmp, cmpSpec, h1]
  unfold numericEq numericCmp
  rw [hcmp, h2]
  by_cases hu : ux = uy
  · subst hu
    simp only [ne_eq, not_true_eq_false, false_and, if_false, if_true]
    exact numCmp_spec_eq_symm L x y
  · have hu' : ¬ uy = ux := fun e => hu e.symm
    by_cases h0 : ux = 0 ∨ uy = 0
    · simp only [ne_eq, hu, hu', not_false_eq_true, h0, h0.symm, and_self, if_true]
    · have h0' : ¬ (uy = 0 ∨ ux = 0) := fun e => h0 e.symm
      simp only [ne_eq, hu, hu', h0, h0', and_false, if_false, Bool.false_eq_true]
      cases env.conv uy ux <;> cases env.conv ux uy <;> simp only []
      exact twoWayCmp_eq_symm L x y _ _

theorem cmpChan_eq_iff (L : NumCmpLaws ν) (a b : ν) :
    (cmpChan a b == .eq) =
      (lt (abs (sub a b)) chanTol || (isNaN a && isNaN b) || (!isNaN a && !isNaN b && feq a b)) := by
  unfold cmpChan
  cases h : lt (abs (sub a b)) chanTol
  · cases ha : isNaN a <;> cases hb : isNaN b <;> simp
    cases h1 : lt a b
    · cases h2 : feq a b <;> simp
    · simp [L.lt_not_feq a b h1]
  · simp

theorem cmpChan_eq_symm (L : NumCmpLaws ν) (a b : ν) : (cmpChan a b == .eq) = (cmpChan b a == .eq) := by
  rw [cmpChan_eq_iff L, cmpChan_eq_iff L, L.abs_sub_comm a b, L.feq_comm a b,
    Bool.and_comm (isNaN a) (isNaN b), Bool.and_comm (!isNaN a) (!isNaN b)]

theorem colorEq_symm (L : NumCmpLaws ν) (r1 g1 b1 a1 r2 g2 b2 a2 : ν) :
    colorEq r1 g1 b1 a1 r2 g2 b2 a2 = colorEq r2 g2 b2 a2 r1 g1 b1 a1 := by
  unfold colorEq
  rw [cmpChan_eq_symm L r1 r2, cmpChan_eq_symm L g1 g2, cmpChan_eq_symm L b1 b2, cmpChan_eq_symm L a1 a2]

theorem strEq_symm (r : Bool) (s1 : List Nat) (q1 : Quotes) (s2 : List Nat) (q2 : Quotes) :
    strEq r s1 q1 s2 q2 = strEq r s2 q2 s1 q1 := by
  unfold strEq
  by_cases h : q1 = q2
  · subst h; cases r <;> simp [Bool.beq_comm]
  · have h' : ¬ q2 = q1 := fun e => h e.symm
    cases r <;> simp [h, h', Bool.beq_comm]

section equations
variable (q : ValQuirks) (env : Env ν)

section
variable (x : ν) (ux : Nat) (y : ν) (uy : Nat) (s1 : List Nat) (q1 : Quotes) (s2 : List Nat) (q2 : Quotes)
  (r1 g1 b1 a1 r2 g2 b2 a2 : ν) (i j : Nat) (xs : List (V ν)) (sep1 : Sep) (br1 : Bool) (ys : List (V ν))
  (sep2 : Sep) (br2 : Bool) (kv1 kv2 : List (V ν × V ν)) (v w : V ν)

@[simp] theorem V.eq_null : V.eq q env .null .null = true := by rw [V.eq.eq_def]
@[simp] theorem V.eq_tt : V.eq q env .tt .tt = true := by rw [V.eq.eq_def]
@[simp] theorem V.eq_ff : V.eq q env .ff .ff = true := by rw [V.eq.eq_def]
@[simp] theorem V.eq_parenNull : V.eq q env .parenNull .parenNull = true := by rw [V.eq.eq_def]
@[simp] theorem V.eq_num_num : V.eq q env (.num x ux) (.num y uy) = numericEq q env x ux y uy := by
  rw [V.eq.eq_def]
@[simp] theorem V.eq_num_numAtomic : V.eq q env (.num x ux) (.numAtomic y uy) = numericEq q env x ux y uy := by
  rw [V.eq.eq_def]
@[simp] theorem V.eq_numAtomic_num : V.eq q env (.numAtomic x ux) (.num y uy) = numericEq q env x ux y uy := by
  rw [V.eq.eq_def]
@[simp] theorem V.eq_numAtomic_numAtomic :
    V.eq q env (.numAtomic x ux) (.numAtomic y uy) = numericEq q env x ux y uy := by rw [V.eq.eq_def]
@[simp] theorem V.eq_str_str :
    V.eq q env (.str s1 q1) (.str s2 q2) = strEq q.strEqSameQuotesRaw s1 q1 s2 q2 := by rw [V.eq.eq_def]
@[simp] theorem V.eq_color_color :
    V.eq q env (.color r1 g1 b1 a1) (.color r2 g2 b2 a2) = colorEq r1 g1 b1 a1 r2 g2 b2 a2 := by rw [V.eq.eq_def]
@[simp] theorem V.eq_fn_fn : V.eq q env (.fn i) (.fn j) = (i == j) := by rw [V.eq.eq_def]
@[simp] theorem V.eq_list_list :
    V.eq q env (.list xs sep1 br1) (.list ys sep2 br2) = (eqList q env xs ys && sep1 == sep2 && br1 == br2) := by
  rw [V.eq.eq_def]
@[simp] theorem V.eq_map_map :
    V.eq q env (.map kv1) (.map kv2) =
      if q.mapEqOrdered then eqPairs q env kv1 kv2
      else if q.mapEqOneSided then kv1.length == kv2.length && inclF q env kv1 kv2
      else kv1.length == kv2.length && inclF q env kv1 kv2 && kv2.all (fun p => hasMatch q env kv1 p) := by
  rw [V.eq.eq_def]
@[simp] theorem V.eq_list_map : V.eq q env (.list xs sep1 br1) (.map kv1) = (xs.isEmpty && kv1.isEmpty) := by
  rw [V.eq.eq_def]
@[simp] theorem V.eq_map_list : V.eq q env (.map kv1) (.list ys sep2 br2) = (kv1.isEmpty && ys.isEmpty) := by
  rw [V.eq.eq_def]
@[simp] theorem V.eq_arglist_arglist :
    V.eq q env (.arglist xs) (.arglist ys) = if q.argListNeverEqual then false else eqList q env xs ys := by
  rw [V.eq.eq_def]
@[simp] theorem V.eq_notOf_notOf : V.eq q env (.notOf v) (.notOf w) = V.eq q env v w := by rw [V.eq.eq_def]
end

/-- Values that `==` can relate have the same kind: one number per constructor, except that the
two forms of number share one and that lists and maps share one (the empty list is `==` to the
empty map).  Reducible, so that `simp` can evaluate `a.kind == b.kind` for two constructors. -/
@[reducible] def V.kind : V ν → Nat
  | .null => 0
  | .tt => 1
  | .ff => 2
  | .num .. => 3
  | .numAtomic .. => 3
  | .str .. => 4
  | .color .. => 5
  | .fn _ => 6
  | .list .. => 7
  | .map _ => 7
  | .arglist _ => 8
  | .notOf _ => 9
  | .parenNull => 10

/-- the last line of the definition: all other pairs of constructors -/
theorem V.eq_of_kind_ne {a b : V ν} (h : (a.kind == b.kind) = false) : V.eq q env a b = false := by
  revert h
  fun_cases V.eq q env a b
  all_goals first
    | exact fun _ => rfl
    | exact fun h => nomatch h

theorem V.eq_iff_of_kind_ne {a b : V ν} {P : Prop} (h : (a.kind == b.kind) = false) (hP : ¬ P) :
    V.eq q env a b = true ↔ P :=
  iff_of_false (Bool.eq_false_iff.mp (V.eq_of_kind_ne q env h)) hP

@[simp] theorem eqList_nil_nil : eqList q env [] [] = true := by rw [eqList.eq_def]
@[simp] theorem eqList_cons_cons (x : V ν) (xs : List (V ν)) (y : V ν) (ys : List (V ν)) :
    eqList q env (x :: xs) (y :: ys) = (V.eq q env x y && eqList q env xs ys) := by rw [eqList.eq_def]
@[simp] theorem eqList_nil_cons (y : V ν) (ys : List (V ν)) : eqList q env [] (y :: ys) = false := by
  rw [eqList.eq_def]
@[simp] theorem eqList_cons_nil (x : V ν) (xs : List (V ν)) : eqList q env (x :: xs) [] = false := by
  rw [eqList.eq_def]

@[simp] theorem eqPairs_nil_nil : eqPairs q env [] [] = true := by rw [eqPairs.eq_def]
@[simp] theorem eqPairs_cons_cons (p : V ν × V ν) (xs : List (V ν × V ν)) (p' : V ν × V ν) (ys : List (V ν × V ν)) :
    eqPairs q env (p :: xs) (p' :: ys) =
      (V.eq q env p.1 p'.1 && V.eq q env p.2 p'.2 && eqPairs q env xs ys) := by rw [eqPairs.eq_def]
@[simp] theorem inclF_nil (m : List (V ν × V ν)) : inclF q env [] m = true := by rw [inclF.eq_def]
@[simp] theorem inclF_cons (p : V ν × V ν) (a m : List (V ν × V ν)) :
    inclF q env (p :: a) m =
      (m.any (fun e => V.eq q env p.1 e.1 && V.eq q env p.2 e.2) && inclF q env a m) := by rw [inclF.eq_def]
@[simp] theorem hasMatch_nil (p : V ν × V ν) : hasMatch q env [] p = false := by rw [hasMatch.eq_def]
@[simp] theorem hasMatch_cons (e : V ν × V ν) (a : List (V ν × V ν)) (p : V ν × V ν) :
    hasMatch q env (e :: a) p = (V.eq q env e.1 p.1 && V.eq q env e.2 p.2 || hasMatch q env a p) := by
  rw [hasMatch.eq_def]

theorem inclF_eq_all (a m : List (V ν × V ν)) :
    inclF q env a m = a.all fun p => m.any fun e => V.eq q env p.1 e.1 && V.eq q env p.2 e.2 := by
  induction a with
  | nil => exact inclF_nil q env m
  | cons p a ih => rw [inclF_cons, List.all_cons, ih]

theorem hasMatch_eq_any (a : List (V ν × V ν)) (p : V ν × V ν) :
    hasMatch q env a p = a.any fun e => V.eq q env e.1 p.1 && V.eq q env e.2 p.2 := by
  induction a with
  | nil => exact hasMatch_nil q env p
  | cons e a ih => rw [hasMatch_cons, List.any_cons, ih]

end equations

section symm
variable (q : ValQuirks) (env : Env ν)

/-- `x` compares symmetrically against everything -/
def SymAt (x : V ν) : Prop := ∀ y, V.eq q env x y = V.eq q env y x

set_option linter.unusedSectionVars false
variable (L : NumCmpLaws ν)
variable (hnum : ∀ x ux y uy, numericEq q env x ux y uy = numericEq q env y uy x ux)
variable (hmap : q.mapEqOneSided = false)
include L hnum hmap

/-- One direction suffices, and it lets the induction follow the definition of `V.eq`: each of the
five functions of the mutual definition, with its arguments exchanged.  Pairs of constructors that
`V.eq` sends to `false` need no argument.  `V.eq.induct` numbers its cases by the lines of the
definitions in `Value/Eq.lean`, an `if` counting once per branch: 1–21 `V.eq`, 22–23 `hasMatch`,
24–25 `inclF`, 26–28 `eqPairs`, 29–31 `eqList`. -/
theorem V.eq_symm_imp (a b : V ν) : V.eq q env a b = true → V.eq q env b a = true := by
  induction a, b using V.eq.induct (q := q)
    (motive2 := fun a p => hasMatch q env a p = true →
      a.any (fun e => V.eq q env p.1 e.1 && V.eq q env p.2 e.2) = true)
    (motive3 := fun a m => inclF q env a m = true → a.all (fun p => hasMatch q env m p) = true)
    (motive4 := fun xs ys => eqPairs q env xs ys = true → eqPairs q env ys xs = true)
    (motive5 := fun xs ys => eqList q env xs ys = true → eqList q env ys xs = true)
  -- `V.eq`: null, true, false, `parenNull`
  case case1 | case2 | case3 | case20 => exact id
  -- two numbers
  case case4 | case5 | case6 | case7 =>
    simp only [V.eq_num_num, V.eq_num_numAtomic, V.eq_numAtomic_num, V.eq_numAtomic_numAtomic, hnum, imp_self]
  -- strings, colours, functions
  case case8 =>
    rw [V.eq_str_str, V.eq_str_str, strEq_symm]
    exact id
  case case9 =>
    rw [V.eq_color_color, V.eq_color_color, colorEq_symm L]
    exact id
  case case10 =>
    rw [V.eq_fn_fn, V.eq_fn_fn, Bool.beq_comm]
    exact id
  -- two lists
  case case11 ih =>
    simp only [V.eq_list_list, Bool.and_eq_true, beq_iff_eq]
    exact fun ⟨⟨h, hs⟩, hb⟩ => ⟨⟨ih h, hs.symm⟩, hb.symm⟩
  -- two maps: ordered, one-sided (excluded), inclusion both ways
  case case12 ho ih =>
    simp only [V.eq_map_map, ho, if_true]
    exact ih
  case case13 h _ =>
    rw [hmap] at h
    cases h
  case case14 kv1 kv2 ho _ ihF ihM =>
    simp only [V.eq_map_map, ho, hmap, Bool.false_eq_true, if_false, Bool.and_eq_true, beq_iff_eq]
    rintro ⟨⟨hl, hF⟩, hM⟩
    refine ⟨⟨hl.symm, ?_⟩, ihF hF⟩
    rw [inclF_eq_all, List.all_eq_true]
    exact fun p hp => ihM p (List.all_eq_true.mp hM p hp)
  -- a list and a map
  case case15 | case16 =>
    rw [V.eq_list_map q env, V.eq_map_list q env, Bool.and_comm]
    exact id
  -- argument lists, `notOf`
  case case17 h =>
    simp only [V.eq_arglist_arglist, h, if_true]
    exact id
  case case18 h ih =>
    simp only [V.eq_arglist_arglist, h]
    exact ih
  case case19 ih =>
    rw [V.eq_notOf_notOf, V.eq_notOf_notOf]
    exact ih
  -- all other pairs: `V.eq` is false
  case case21 =>
    intro h
    rw [V.eq.eq_18] at h
    · cases h
    all_goals assumption
  -- `hasMatch`
  case case22 h =>
    rw [hasMatch_nil] at h
    cases h
  case case23 ih1 ih2 ih h =>
    simp only [hasMatch_cons, List.any_cons, Bool.or_eq_true, Bool.and_eq_true] at h ⊢
    exact h.imp (And.imp ih1 ih2) ih
  -- `inclF`
  case case24 => rfl
  case case25 k v xs m hk hv ih h =>
    simp only [inclF_cons, Bool.and_eq_true, List.any_eq_true] at h
    obtain ⟨⟨e, he, h1, h2⟩, h'⟩ := h
    rw [List.all_cons, Bool.and_eq_true, hasMatch_eq_any, List.any_eq_true]
    exact ⟨⟨e, he, Bool.and_eq_true_iff.mpr ⟨hk e h1, hv e h2⟩⟩, ih h'⟩
  -- `eqPairs` and `eqList`: both empty, both non-empty, otherwise false
  case case26 | case29 => assumption
  case case27 ih1 ih2 ih h =>
    simp only [eqPairs_cons_cons, Bool.and_eq_true] at h ⊢
    exact ⟨⟨ih1 h.1.1, ih2 h.1.2⟩, ih h.2⟩
  case case30 ih1 ih h =>
    simp only [eqList_cons_cons, Bool.and_eq_true] at h ⊢
    exact ⟨ih1 h.1, ih h.2⟩
  case case28 h =>
    rw [eqPairs.eq_3] at h
    · cases h
    all_goals assumption
  case case31 h =>
    rw [eqList.eq_3] at h
    · cases h
    all_goals assumption

theorem symAt (a : V ν) : SymAt q env a :=
  fun b => Bool.eq_iff_iff.mpr ⟨V.eq_symm_imp q env L hnum hmap a b, V.eq_symm_imp q env L hnum hmap b a⟩

theorem symAtList : (xs : List (V ν)) → ∀ x ∈ xs, SymAt q env x :=
  fun _ x _ => symAt q env L hnum hmap x

theorem symAtPairs : (kv : List (V ν × V ν)) → ∀ p ∈ kv, SymAt q env p.1 ∧ SymAt q env p.2 :=
  fun _ p _ => ⟨symAt q env L hnum hmap p.1, symAt q env L hnum hmap p.2⟩

end symm

section rel
variable (q : ValQuirks) (env : Env ν) {a b : V ν} {x y : ν} {ux uy : Nat} {ca cb : Bool}

theorem eq_of_asNumber (ha : a.asNumber = some (x, ux, ca)) (hb : b.asNumber = some (y, uy, cb)) :
    V.eq q env a b = numericEq q env x ux y uy := by
  revert ha hb
  fun_cases V.asNumber a <;> fun_cases V.asNumber b <;> intro ha hb
  all_goals first
    | contradiction
    | (cases ha
       cases hb
       simp only [V.eq_num_num, V.eq_num_numAtomic, V.eq_numAtomic_num, V.eq_numAtomic_numAtomic])

theorem flagThen_same (pc : Option Ordering) (c : Bool) : flagThen pc c c = pc := by
  unfold flagThen
  split <;> simp

/-- `hflag`: the `calculated` flag is kept out of the order. -/
theorem rel_of_asNumber (hflag : q.ordCalcFlag = false ∨ ca = cb)
    (ha : a.asNumber = some (x, ux, ca)) (hb : b.asNumber = some (y, uy, cb))
    (hcomp : comparable env ux uy = true) (op : RelOp) :
    V.rel q env op a b = .bool (match op with
      | .eq => numericEq q env x ux y uy
      | .ne => !numericEq q env x ux y uy
      | op => ordHolds op (numericCmp q env x ux y uy)) := by
  have hf : (if q.ordCalcFlag then flagThen (numericCmp q env x ux y uy) ca cb else numericCmp q env x ux y uy)
      = numericCmp q env x ux y uy := by
    rcases hflag with h | rfl
    · rw [h]
      rfl
    · rw [flagThen_same, ite_self]
  cases op <;>
    simp only [V.rel, ha, hb, hf, eq_of_asNumber q env ha hb, hcomp, Bool.not_true, Bool.and_false,
      Bool.false_eq_true, if_false]

end rel

theorem numericEq_refl (L : NumCmpLaws ν) (q : ValQuirks) (env : Env ν) (x : ν) (u : Nat)
    (hx : isNaN x = false) : numericEq q env x u x u = true := by
  unfold numericEq numericCmp
  simp only [ne_eq, not_true_eq_false, false_and, if_false, if_true]
  rw [numCmp_eq_iff L, L.feq_refl x hx, Bool.or_true]

theorem cmpChan_refl (L : NumCmpLaws ν) (a : ν) : (cmpChan a a == .eq) = true := by
  rw [cmpChan_eq_iff L]
  cases h : isNaN a
  · simp [L.feq_refl a h]
  · simp

theorem colorEq_refl (L : NumCmpLaws ν) (r g b a : ν) : colorEq r g b a r g b a = true := by
  simp [colorEq, cmpChan_refl L]

theorem strEq_refl (r : Bool) (s : List Nat) (qq : Quotes) : strEq r s qq s qq = true := by
  cases r <;> simp [strEq]

section refl
variable (q : ValQuirks) (env : Env ν)

/-- `x == x` -/
def ReflAt (x : V ν) : Prop := V.eq q env x x = true

theorem eqList_refl_of : ∀ xs : List (V ν), (∀ x ∈ xs, ReflAt q env x) → eqList q env xs xs = true
  | [], _ => eqList_nil_nil q env
  | x :: xs, h => by
    rw [eqList_cons_cons, Bool.and_eq_true]
    exact ⟨h x List.mem_cons_self, eqList_refl_of xs fun z hz => h z (List.mem_cons_of_mem x hz)⟩

theorem eqPairs_refl_of : ∀ kv : List (V ν × V ν), (∀ p ∈ kv, ReflAt q env p.1 ∧ ReflAt q env p.2) →
    eqPairs q env kv kv = true
  | [], _ => eqPairs_nil_nil q env
  | p :: kv, h => by
    rw [eqPairs_cons_cons, Bool.and_eq_true, Bool.and_eq_true]
    exact ⟨h p List.mem_cons_self, eqPairs_refl_of kv fun z hz => h z (List.mem_cons_of_mem p hz)⟩

theorem hasMatch_of_mem (m : List (V ν × V ν)) (p : V ν × V ν) (hp : p ∈ m)
    (h1 : ReflAt q env p.1) (h2 : ReflAt q env p.2) : hasMatch q env m p = true := by
  rw [hasMatch_eq_any]
  exact List.any_eq_true.mpr ⟨p, hp, Bool.and_eq_true_iff.mpr ⟨h1, h2⟩⟩

theorem inclF_of_sub (a m : List (V ν × V ν)) (h : ∀ p ∈ a, p ∈ m ∧ ReflAt q env p.1 ∧ ReflAt q env p.2) :
    inclF q env a m = true := by
  rw [inclF_eq_all]
  exact List.all_eq_true.mpr fun p hp =>
    List.any_eq_true.mpr ⟨p, (h p hp).1, Bool.and_eq_true_iff.mpr (h p hp).2⟩

theorem mapEq_refl_of (kv : List (V ν × V ν)) (h : ∀ p ∈ kv, ReflAt q env p.1 ∧ ReflAt q env p.2) :
    V.eq q env (.map kv) (.map kv) = true := by
  have hF : inclF q env kv kv = true := inclF_of_sub q env kv kv fun p hp => ⟨hp, h p hp⟩
  have hM : kv.all (fun p => hasMatch q env kv p) = true :=
    List.all_eq_true.mpr fun p hp => hasMatch_of_mem q env kv p hp (h p hp).1 (h p hp).2
  rw [V.eq_map_map, eqPairs_refl_of q env kv h, hF, hM, beq_self_eq_true]
  simp only [Bool.and_self, ite_self]

variable (L : NumCmpLaws ν)
include L
set_option linter.unusedSectionVars false

-- `V.noNaN` and `V.noArgList` of a constructor unfold by computation: a hypothesis about the value
-- is used as the hypothesis about its parts.
mutual
theorem reflAt : (a : V ν) → V.noNaN a = true →
    (q.argListNeverEqual = false ∨ V.noArgList a = true) → ReflAt q env a
  | .null, _, _ => V.eq_null q env
  | .tt, _, _ => V.eq_tt q env
  | .ff, _, _ => V.eq_ff q env
  | .parenNull, _, _ => V.eq_parenNull q env
  | .num x u, hn, _ =>
    (V.eq_num_num q env x u x u).trans (numericEq_refl L q env x u ((Bool.not_eq_true' (isNaN x)).mp hn))
  | .numAtomic x u, hn, _ =>
    (V.eq_numAtomic_numAtomic q env x u x u).trans (numericEq_refl L q env x u ((Bool.not_eq_true' (isNaN x)).mp hn))
  | .str s qq, _, _ => (V.eq_str_str q env s qq s qq).trans (strEq_refl _ s qq)
  | .color r g b a, _, _ => (V.eq_color_color q env r g b a r g b a).trans (colorEq_refl L r g b a)
  | .fn i, _, _ => (V.eq_fn_fn q env i i).trans (beq_self_eq_true i)
  | .list xs s br, hn, ha => by
    rw [ReflAt, V.eq_list_list, eqList_refl_of q env xs (reflAtList xs hn ha)]
    simp only [beq_self_eq_true, Bool.and_self]
  | .map kv, hn, ha => mapEq_refl_of q env kv (reflAtPairs kv hn ha)
  | .arglist xs, hn, ha => by
    have hq : q.argListNeverEqual = false := ha.resolve_right Bool.false_ne_true
    rw [ReflAt, V.eq_arglist_arglist, hq]
    exact eqList_refl_of q env xs (reflAtList xs hn (Or.inl hq))
  | .notOf v, hn, ha => (V.eq_notOf_notOf q env v v).trans (reflAt v hn ha)
theorem reflAtList : (xs : List (V ν)) → noNaNList xs = true →
    (q.argListNeverEqual = false ∨ noArgListL xs = true) → ∀ x ∈ xs, ReflAt q env x
  | [], _, _ => fun _ hx => nomatch hx
  | y :: ys, hn, ha => fun x hx => by
    have hn : V.noNaN y = true ∧ noNaNList ys = true := Bool.and_eq_true_iff.mp hn
    have ha := ha.imp_right fun (e : (V.noArgList y && noArgListL ys) = true) => Bool.and_eq_true_iff.mp e
    rcases List.mem_cons.mp hx with h | h
    · rw [h]
      exact reflAt y hn.1 (ha.imp_right And.left)
    · exact reflAtList ys hn.2 (ha.imp_right And.right) x h
theorem reflAtPairs : (kv : List (V ν × V ν)) → noNaNPairs kv = true →
    (q.argListNeverEqual = false ∨ noArgListP kv = true) → ∀ p ∈ kv, ReflAt q env p.1 ∧ ReflAt q env p.2
  | [], _, _ => fun _ hp => nomatch hp
  | (k, v) :: rest, hn, ha => fun p hp => by
    have hn : (V.noNaN k && V.noNaN v && noNaNPairs rest) = true := hn
    have ha := ha.imp_right fun (e : (V.noArgList k && V.noArgList v && noArgListP rest) = true) => e
    simp only [Bool.and_eq_true] at hn ha
    rcases List.mem_cons.mp hp with h | h
    · rw [h]
      exact ⟨reflAt k hn.1.1 (ha.imp_right fun e => e.1.1), reflAt v hn.1.2 (ha.imp_right fun e => e.1.2)⟩
    · exact reflAtPairs rest hn.2 (ha.imp_right And.right) p h
end

end refl

end Val
