/- Lemma for C14: how an evaluation log grows. -/
import RsassModel.Value.Logic
namespace Val

theorem suffix_step {ids1 ids2 log l1 l : List Nat} (h1 : ∃ s, l1 = log ++ s ∧ ∀ i ∈ s, i ∈ ids1)
    (h2 : l = l1 ∨ ∃ s, l = l1 ++ s ∧ ∀ i ∈ s, i ∈ ids2) :
    ∃ s, l = log ++ s ∧ ∀ i ∈ s, i ∈ ids1 ++ ids2 := by
  obtain ⟨s1, rfl, hm1⟩ := h1
  rcases h2 with rfl | ⟨s2, rfl, hm2⟩
  · exact ⟨s1, rfl, fun i hi => List.mem_append_left _ (hm1 i hi)⟩
  · exact ⟨s1 ++ s2, List.append_assoc .., fun i hi => (List.mem_append.mp hi).elim
      (fun h => List.mem_append_left _ (hm1 i h)) (fun h => List.mem_append_right _ (hm2 i h))⟩

end Val
