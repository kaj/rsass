/- C37 — the module model (`Mod/Module.lean`): `lookup` under `insert` and `exposeStar`, the
`with` loop `preload` on a repeated name, what `runDecls` keeps, the last url segment. -/
import RsassModel.Mod.Module
namespace Mod

theorem norm_norm (n : Name) : norm (norm n) = norm n := by
  simp only [norm, List.map_map]
  apply List.map_congr_left
  intro c _
  by_cases hc : c = '-' <;> simp [hc]

theorem lookup_cons (x : Member) (ms : Members) (k : Kind) (n : Name) :
    lookup (x :: ms) k n = if x.kind = k ∧ x.name = n then some x.val else lookup ms k n := by
  unfold lookup
  simp only [List.find?_cons]
  by_cases h : x.kind = k ∧ x.name = n <;> simp [h]

theorem lookup_insert (ms : Members) (m : Member) (k : Kind) (n : Name) :
    lookup (insert ms m) k n = if m.kind = k ∧ m.name = n then some m.val else lookup ms k n := by
  simp only [insert, lookup_cons]
  split
  · rfl
  · next h =>
    induction ms with
    | nil => rfl
    | cons y ys ih =>
      simp only [List.filter_cons]
      by_cases hy : y.kind = m.kind ∧ y.name = m.name
      · simp only [hy, and_self, decide_true, Bool.not_true, Bool.false_eq_true, ↓reduceIte,
          lookup_cons, ih, h]
      · simp only [hy, decide_false, Bool.not_false, ↓reduceIte, lookup_cons, ih]

/-- `expose_star` = the module's member if it has one, else the scope's own -/
theorem lookup_exposeStar (own m : Members) (k : Kind) (n : Name) :
    lookup (exposeStar own m) k n = match lookup m k n with
      | some v => some v
      | none => lookup own k n := by
  induction m with
  | nil => simp [exposeStar, lookup]
  | cons x xs ih =>
    rw [show exposeStar own (x :: xs) = insert (exposeStar own xs) x from rfl, lookup_insert, lookup_cons]
    by_cases h : x.kind = k ∧ x.name = n
    · simp [h]
    · simp [h, ih]

theorem preload_present (withs : List (Name × Nat)) (acc : Members) (n : Name)
    (hacc : (lookup acc .var n).isSome = true) (hn : n ∈ withs.map Prod.fst) :
    preload withs acc = .error .configuredTwice := by
  induction withs generalizing acc with
  | nil => simp at hn
  | cons w rest ih =>
    obtain ⟨m, v⟩ := w
    simp only [preload]
    by_cases hm : (lookup acc .var m).isSome = true
    · simp [hm]
    · simp only [hm, Bool.false_eq_true, ↓reduceIte]
      have hne : m ≠ n := by
        intro e; subst e; exact hm hacc
      have hn' : n ∈ rest.map Prod.fst := by
        simp only [List.map_cons, List.mem_cons] at hn
        rcases hn with h | h
        · exact absurd h.symm hne
        · exact h
      apply ih _ _ hn'
      rw [lookup_insert, if_neg (by simp [hne])]
      exact hacc

theorem preload_dup (withs : List (Name × Nat)) (acc : Members)
    (h : ¬(withs.map Prod.fst).Nodup) : preload withs acc = .error .configuredTwice := by
  induction withs generalizing acc with
  | nil => simp at h
  | cons w rest ih =>
    obtain ⟨m, v⟩ := w
    simp only [preload]
    by_cases hm : (lookup acc .var m).isSome = true
    · simp [hm]
    · simp only [hm, Bool.false_eq_true, ↓reduceIte]
      simp only [List.map_cons, List.nodup_cons] at h
      by_cases hmem : m ∈ rest.map Prod.fst
      · exact preload_present rest _ m (by simp [lookup_insert]) hmem
      · exact ih _ (fun hnd => h ⟨hmem, hnd⟩)

/-- a configured value survives declarations that are all `!default` -/
theorem runDecls_default_keeps (decls : List Decl) (acc : Members) (n : Name) (v : Nat)
    (hall : ∀ d ∈ decls, d.kind = .var → d.name = n → d.dflt = true)
    (hacc : lookup acc .var n = some v) : lookup (runDecls decls acc) .var n = some v := by
  induction decls generalizing acc with
  | nil => simpa [runDecls]
  | cons d rest ih =>
    simp only [runDecls]
    have hrest : ∀ d' ∈ rest, d'.kind = .var → d'.name = n → d'.dflt = true :=
      fun d' hd' => hall d' (List.mem_cons_of_mem _ hd')
    split
    · exact ih acc hrest hacc
    · next hcond =>
      apply ih _ hrest
      by_cases hd : d.kind = .var ∧ d.name = n
      · exfalso
        apply hcond
        refine ⟨hd.1, hall d (by simp) hd.1 hd.2, ?_⟩
        rw [hd.2, hacc]; rfl
      · rw [lookup_insert, if_neg hd]
        exact hacc

theorem runDecls_untouched (decls : List Decl) (acc : Members) (k : Kind) (n : Name)
    (hno : ∀ d ∈ decls, ¬(d.kind = k ∧ d.name = n)) :
    lookup (runDecls decls acc) k n = lookup acc k n := by
  induction decls generalizing acc with
  | nil => simp [runDecls]
  | cons d rest ih =>
    simp only [runDecls]
    have hrest : ∀ d' ∈ rest, ¬(d'.kind = k ∧ d'.name = n) :=
      fun d' hd' => hno d' (List.mem_cons_of_mem _ hd')
    split
    · exact ih acc hrest
    · rw [ih _ hrest, lookup_insert, if_neg (hno d (by simp))]

theorem lastSegment_slash (dir seg : Name) (h : ∀ c ∈ seg, c ≠ '/' ∧ c ≠ ':') :
    lastSegment (dir ++ '/' :: seg) = seg := by
  unfold lastSegment
  have hseg : ∀ x ∈ seg.reverse, decide (x ≠ '/' ∧ x ≠ ':') = true := fun x hx => by
    simpa using h x (List.mem_reverse.mp hx)
  have : (dir ++ '/' :: seg).reverse = seg.reverse ++ '/' :: dir.reverse := by simp
  rw [this, List.takeWhile_append_of_pos hseg]
  simp

end Mod
