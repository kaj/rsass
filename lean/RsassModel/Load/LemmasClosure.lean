/-
Loader family — a concrete, finite, *checkable* set of names for the real finder.

`C02.load_terminates` needs a finite list `K` containing every name that lookups can return.
For `fsFinder` such a list cannot be given once and for all from the file table alone (an alias
like `sub//_index.scss`, or a url containing `://`, is a name that is not a path of the table),
but for every concrete world it can be *computed and checked*: `closedUnder q W K` decides
whether every load statement in the body of every name in `K` resolves — in the fault-free
world — to a name in `K`.  Faults only turn results into errors, never into other names
(`findFile_found_quiet`), so a closed `K` bounds the names of every run, with any fault oracle.
-/
import RsassModel.Load.LemmasFind
import RsassModel.Load.LemmasGraph
namespace Load

/-- the same world with a loader that never fails -/
def World.quiet (W : World) : World := { W with fail := fun _ => none }

theorem scan_found_quiet (E E0 : Env) (hp : E0.paths = E.paths) (h0 : NoFaults E0)
    (ps : List Probe) (calls calls0 : List Call) (n p : Str) (c : List Call)
    (h : scan E ps calls = .found n p c) : ∃ c0, scan E0 ps calls0 = .found n p c0 := by
  induction ps generalizing calls calls0 with
  | nil => simp [scan] at h
  | cons pr ps ih =>
    have hf : E0.fail calls0.length = none := h0 _
    simp only [scan] at h ⊢
    rw [hf, hp]
    split at h
    · cases h
    · cases hl : loaderHit E.paths pr.roots pr.name with
      | none =>
        rw [hl] at h
        exact ih _ _ h
      | some phys =>
        rw [hl] at h
        -- reduce the `match` on `some phys`
        simp only [] at h ⊢
        split at h
        · cases h
        · cases h
          exact ⟨calls0 ++ [⟨pr.label, true⟩], by simp⟩

theorem findFile_found_quiet (q : LoadQuirks) (W : World) (self : Str) (k : Kind) (url : Str)
    (calls : List Call) (name : Str) (c : List Call)
    (h : findFile q W.env self k url calls = .found name c) :
    ∃ c0, findFile q W.quiet.env self k url [] = .found name c0 := by
  obtain ⟨p, hs, hok⟩ := findFile_found.mp h
  rw [findScan_eq_scan] at hs
  obtain ⟨c0, h0⟩ := scan_found_quiet W.env W.quiet.env rfl (fun _ => rfl) _ calls [] name p c hs
  exact ⟨c0, findFile_found.mpr ⟨p, by rw [findScan_eq_scan]; exact h0, hok⟩⟩

/-- the names that the load statements of the file `n` resolve to (fault-free) -/
def namesFrom (q : LoadQuirks) (W : World) (n : Str) : List Str :=
  (bodyItems (fsFinder q W) n).filterMap fun it =>
    match it.target with
    | none => none
    | some (k, url) =>
      match findFile q W.quiet.env n k url [] with
      | .found name _ => some name
      | _ => none

/-- every load statement in the body of every name of `K` resolves to a name of `K` -/
def closedUnder (q : LoadQuirks) (W : World) (K : List Str) : Bool :=
  K.all fun n => (namesFrom q W n).all fun m => K.contains m

/-- breadth-first closure of `K` under `namesFrom`, `n` rounds -/
def reach (q : LoadQuirks) (W : World) : Nat → List Str → List Str
  | 0, K => K
  | n + 1, K => reach q W n (K ++ (K.flatMap (namesFrom q W)).filter fun m => !K.contains m).eraseDups

theorem closedUnder_fail (q : LoadQuirks) (W : World) (fail : Nat → Option Fault) (K : List Str) :
    closedUnder q { W with fail := fail } K = closedUnder q W K := rfl

theorem closedUnder_found {q : LoadQuirks} {W : World} {K : List Str} (hc : closedUnder q W K = true)
    {self : Str} (hs : self ∈ K) {it : Item} (hit : it ∈ bodyItems (fsFinder q W) self)
    {k : Kind} {url : Str} (ht : it.target = some (k, url)) {calls : List Call} {name : Str}
    {c : List Call} (hf : (fsFinder q W).find self k url calls = .found name c) : name ∈ K := by
  obtain ⟨c0, h0⟩ := findFile_found_quiet q W self k url calls name c hf
  have hall := List.all_eq_true.mp hc self hs
  have hmem : name ∈ namesFrom q W self := by
    unfold namesFrom
    rw [List.mem_filterMap]
    exact ⟨it, hit, by simp [ht, h0]⟩
  have := List.all_eq_true.mp hall name hmem
  simpa using this

end Load
