/-
Loader family — `scan` / `findScan` / `findFile`: a scan without faults returns the first probe
that hits; `allProbes`, the probes of one `find_file` as one list (`findScan_eq_scan`); `findFile`
in terms of `findScan`.
-/
import RsassModel.Load.Find
namespace Load

def NoFaults (E : Env) : Prop := ∀ i, E.fail i = none

/-- does this probe find a file, and which -/
def Probe.hit (E : Env) (p : Probe) : Option (Str × Str) :=
  (loaderHit E.paths p.roots p.name).map fun phys => (p.name, phys)

/-- what a scan found: (name handed to the loader, file) -/
def ScanRes.hit : ScanRes → Option (Str × Str)
  | .found n p _ => some (n, p)
  | _ => none

def ScanRes.isFault : ScanRes → Bool
  | .fault _ => true
  | _ => false

def ScanRes.calls : ScanRes → List Call
  | .found _ _ c | .missing c | .fault c => c

theorem scan_append (E : Env) (A B : List Probe) (calls : List Call) :
    scan E (A ++ B) calls =
      match scan E A calls with
      | .missing c => scan E B c
      | r => r := by
  induction A generalizing calls with
  | nil => simp [scan]
  | cons p ps ih =>
    simp only [List.cons_append, scan]
    split
    · rfl
    · split
      · exact ih _
      · split <;> rfl

theorem scan_hit (E : Env) (h : NoFaults E) (ps : List Probe) (calls : List Call) :
    (scan E ps calls).hit = ps.findSome? (Probe.hit E) ∧ (scan E ps calls).isFault = false := by
  induction ps generalizing calls with
  | nil => simp [scan, ScanRes.hit, ScanRes.isFault]
  | cons p ps ih =>
    have hf : E.fail calls.length = none := h _
    simp only [scan, hf, List.findSome?_cons, Probe.hit]
    cases hl : loaderHit E.paths p.roots p.name with
    | none => simpa using ih _
    | some phys => simp [ScanRes.hit, ScanRes.isFault]

theorem scan_missing_iff (E : Env) (h : NoFaults E) (ps : List Probe) (calls : List Call) :
    (∃ c, scan E ps calls = .missing c) ↔ ∀ p ∈ ps, Probe.hit E p = none := by
  have := scan_hit E h ps calls
  constructor
  · rintro ⟨c, hc⟩
    rw [hc] at this
    simpa [ScanRes.hit, List.findSome?_eq_none_iff] using this.1.symm
  · intro hall
    have hnone : ps.findSome? (Probe.hit E) = none := by
      simpa [List.findSome?_eq_none_iff] using hall
    cases hs : scan E ps calls with
    | missing c => exact ⟨c, rfl⟩
    | found n p c => rw [hs] at this; simp [ScanRes.hit, hnone] at this
    | fault c => rw [hs] at this; simp [ScanRes.isFault] at this

theorem scan_calls_prefix (E : Env) (ps : List Probe) (calls : List Call) :
    ∃ ext, (scan E ps calls).calls = calls ++ ext := by
  induction ps generalizing calls with
  | nil => exact ⟨[], by simp [scan, ScanRes.calls]⟩
  | cons p ps ih =>
    simp only [scan]
    split
    · exact ⟨_, rfl⟩
    · split
      · obtain ⟨ext, he⟩ := ih (calls ++ [⟨p.label, false⟩])
        exact ⟨[⟨p.label, false⟩] ++ ext, by simp [he]⟩
      · split <;> exact ⟨_, rfl⟩

/-- every probe of one `find_file`, in order, for any configuration: the candidates of the
relative url over the search path, then (unless switched off, or the two urls coincide) the
candidates of the unchanged url over the search path -/
def allProbesAux (cm noFb : Bool) (roots : List Str) (k : Kind) (u u' : Str) : List Probe :=
  mkProbes cm roots (namesFor k u') ++
    (if noFb || u' == u then [] else mkProbes cm roots (namesFor k u))

def allProbes (q : LoadQuirks) (E : Env) (self : Str) (k : Kind) (url : Str) : List Probe :=
  allProbesAux q.candidateMajor q.noLoadPathFallback E.roots k (normUrl q url)
    (relUrl q self (normUrl q url))

theorem findScan_eq_scan (q : LoadQuirks) (E : Env) (self : Str) (k : Kind) (url : Str)
    (calls : List Call) :
    findScan q E self k url calls = scan E (allProbes q E self k url) calls := by
  simp only [findScan, allProbes, allProbesAux, scan_append]
  split
  · split <;> simp_all [scan]
  · split <;> simp_all

theorem ScanRes.hit_eq_some {r : ScanRes} {n p : Str} :
    r.hit = some (n, p) ↔ ∃ c, r = .found n p c := by
  cases r <;> simp [ScanRes.hit]

theorem findFile_found {q : LoadQuirks} {E : Env} {self : Str} {k : Kind} {url : Str}
    {calls : List Call} {name : Str} {c : List Call} :
    findFile q E self k url calls = .found name c ↔
      ∃ phys, findScan q E self k url calls = .found name phys c ∧ okFormat name = true := by
  unfold findFile
  split
  · simp [*]
  · simp [*]
  · next n p c' hs =>
    rw [hs]
    split
    · next hok =>
      constructor
      · rintro ⟨⟩
        exact ⟨p, rfl, hok⟩
      · rintro ⟨_, ⟨⟩, -⟩
        rfl
    · next hbad =>
      constructor
      · nofun
      · rintro ⟨_, ⟨⟩, hok⟩
        exact absurd hok hbad

theorem findFile_missing {q : LoadQuirks} {E : Env} {self : Str} {k : Kind} {url : Str}
    {calls c : List Call} :
    findFile q E self k url calls = .missing c ↔ findScan q E self k url calls = .missing c := by
  unfold findFile
  split
  · simp [*]
  · simp [*]
  · split <;> simp [*]

/-- the probes of the specification, in order: for the url relative to the importing file,
each search location in order (base directory = the root importer's directory, then the load
paths) and in it every candidate; then the same for the unchanged url (`allProbes` at `spec`) -/
def specProbes (E : Env) (self : Str) (k : Kind) (url : Str) : List Probe :=
  allProbes LoadQuirks.spec E self k url

theorem findScan_spec_eq (E : Env) (self : Str) (k : Kind) (url : Str) (calls : List Call) :
    findScan LoadQuirks.spec E self k url calls = scan E (specProbes E self k url) calls :=
  findScan_eq_scan _ _ _ _ _ _

theorem findSome_hit_congr (E : Env) (A B : List Probe)
    (h : A.map (fun p => (p.name, p.roots)) = B.map (fun p => (p.name, p.roots))) :
    A.findSome? (Probe.hit E) = B.findSome? (Probe.hit E) := by
  induction A generalizing B with
  | nil => cases B with
    | nil => rfl
    | cons b B => simp at h
  | cons a A ih =>
    cases B with
    | nil => simp at h
    | cons b B =>
      simp only [List.map_cons, List.cons.injEq, Prod.mk.injEq] at h
      obtain ⟨⟨hn, hr⟩, ht⟩ := h
      simp only [List.findSome?_cons, Probe.hit, hn, hr]
      rw [ih B ht]

/-- with a single search location the two probing orders visit the same (name, location)
sequence -/
theorem mkProbes_single (r : Str) (cands : List Str) :
    (mkProbes true [r] cands).map (fun p => (p.name, p.roots)) =
      (mkProbes false [r] cands).map (fun p => (p.name, p.roots)) := by
  simp [mkProbes, Function.comp_def]

theorem allProbesAux_single (noFb : Bool) (r : Str) (k : Kind) (u u' : Str) :
    (allProbesAux true noFb [r] k u u').map (fun p => (p.name, p.roots)) =
      (allProbesAux false noFb [r] k u u').map (fun p => (p.name, p.roots)) := by
  simp only [allProbesAux, List.map_append, mkProbes_single]
  split
  · rfl
  · rw [mkProbes_single]

end Load
