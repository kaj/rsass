/-
Loader family — the load graph semantics of `Load/Graph.lean`: what a successful or failed run of
each step function looks like (`…_ok`, `…_err`); `execBody_rel`, a reflexive and transitive
relation on states that holds across every statement holds across every body; and the invariants
handed to it (`loading` balanced, the cache only grows, the call log, no module run twice).
-/
import RsassModel.Load.Graph
namespace Load

def Res.markers : Res → List Marker
  | .ok s => s.imports ++ s.out
  | .err _ _ => []

def Res.errOf : Res → Option Err
  | .ok _ => none
  | .err e _ => some e

theorem lock_eq_some {name : Str} {s s1 : St} :
    lock name s = some s1 ↔ name ∉ s.loading ∧ s1 = { s with loading := name :: s.loading } := by
  unfold lock
  split <;> simp [*, eq_comm]

theorem lock_none {name : Str} {s : St} : lock name s = none ↔ name ∈ s.loading := by
  unfold lock
  split <;> simp [*]

@[simp] theorem unlock_loading (name : Str) (s : St) :
    (unlock name s).loading = s.loading.erase name := rfl

@[simp] theorem cacheIn_loading (q : LoadQuirks) (s : St) : (cacheIn q s).loading = s.loading := by
  unfold cacheIn
  split <;> rfl

@[simp] theorem cacheOut_loading (q : LoadQuirks) (s s' : St) : (cacheOut q s s').loading = s'.loading := by
  unfold cacheOut
  split <;> rfl

@[simp] theorem cacheIn_calls (q : LoadQuirks) (s : St) : (cacheIn q s).calls = s.calls := by
  unfold cacheIn
  split <;> rfl

@[simp] theorem cacheOut_calls (q : LoadQuirks) (s s' : St) : (cacheOut q s s').calls = s'.calls := by
  unfold cacheOut
  split <;> rfl

theorem enterSub_ok {enter : Str → St → Res} {name : Str} {s s' : St} :
    enterSub enter name s = .ok s' ↔
      ∃ s2, enter name { s with fwdSeen := false } = .ok s2 ∧ s' = { s2 with fwdSeen := s.fwdSeen } := by
  unfold enterSub
  split <;> simp [*, eq_comm]

theorem enterSub_err {enter : Str → St → Res} {name : Str} {s s' : St} {e : Err} :
    enterSub enter name s = .err e s' ↔ enter name { s with fwdSeen := false } = .err e s' := by
  unfold enterSub
  split <;> simp [*]

theorem loadModule_ok {F : Finder} {enter : Str → St → Res} {name : Str} {s s' : St} {id : Nat}
    (h : loadModule F enter name s = (.ok s', id)) :
    (s.modules.lookup name = some id ∧ s' = s) ∨
    (s.modules.lookup name = none ∧
      ∃ s2, enter name { s with execLog := name :: s.execLog, fwdSeen := false } = .ok s2 ∧
        id = s2.modTags.length ∧
        s' = { s2 with modules := (name, id) :: s2.modules,
                       modTags := s2.modTags ++ [(F.body name).tag],
                       counters := s2.counters ++ [0],
                       modFwd := s2.modFwd ++ [s2.fwdSeen],
                       fwdSeen := s.fwdSeen }) := by
  unfold loadModule at h
  split at h
  · next id' hc =>
    cases h
    exact .inl ⟨hc, rfl⟩
  · next hc =>
    split at h
    · next s2 hs =>
      cases h
      exact .inr ⟨hc, s2, hs, rfl, rfl⟩
    · cases h

theorem loadModule_err {F : Finder} {enter : Str → St → Res} {name : Str} {s s' : St} {e : Err}
    (h : (loadModule F enter name s).1 = .err e s') :
    enter name { s with execLog := name :: s.execLog, fwdSeen := false } = .err e s' := by
  unfold loadModule at h
  split at h
  · cases h
  · split at h
    · cases h
    · next hs =>
      cases h
      exact hs

theorem bindModule_core (q : LoadQuirks) (id : Nat) (s : St) :
    (bindModule q id s).1.loading = s.loading ∧ (bindModule q id s).1.modules = s.modules ∧
    (bindModule q id s).1.calls = s.calls ∧ (bindModule q id s).1.execLog = s.execLog := by
  unfold bindModule
  split <;> simp

/-- the four ways a load site completes: the module kinds through `load_module`, `@import`
between the cache swaps, load-css with the file unlocked before or after its body -/
theorem runFound_ok {q : LoadQuirks} {F : Finder} {enter : Str → St → Res} {name : Str} {j : Nat}
    {b b' : Binds} {s1 s' : St} {k : Kind} (h : runFound q F enter name j b s1 k = (.ok s', b')) :
    (∃ s2 id, loadModule F enter name s1 = (.ok s2, id) ∧ s'.loading = s2.loading.erase name ∧
      s'.modules = s2.modules ∧ s'.calls = s2.calls ∧ s'.execLog = s2.execLog) ∨
    (∃ s2, enterSub enter name (cacheIn q s1) = .ok s2 ∧ s' = unlock name (cacheOut q s1 s2)) ∨
    (q.loadCssUnlockEarly = true ∧ enterSub enter name (unlock name s1) = .ok s') ∨
    (∃ s2, enterSub enter name s1 = .ok s2 ∧ s' = unlock name s2) := by
  cases k with
  | use =>
    simp only [runFound, runUse] at h
    split at h
    · next s2 id hm =>
      cases h
      exact .inl ⟨s2, id, hm, by simp [unlock, bindModule_core]⟩
    · cases h
  | forward =>
    simp only [runFound, runForward] at h
    split at h
    · next s2 id hm =>
      cases h
      exact .inl ⟨s2, id, hm, rfl, rfl, rfl, rfl⟩
    · cases h
  | «import» =>
    simp only [runFound, runImport, Prod.mk.injEq] at h
    split at h
    · next s2 hs =>
      cases h.1
      exact .inr (.inl ⟨s2, hs, rfl⟩)
    · cases h.1
  | loadCss =>
    simp only [runFound, runLoadCss, Prod.mk.injEq] at h
    split at h
    · next hq => exact .inr (.inr (.inl ⟨hq, h.1⟩))
    · split at h
      · next s2 hs =>
        cases h.1
        exact .inr (.inr (.inr ⟨s2, hs, rfl⟩))
      · cases h.1

theorem runFound_err {q : LoadQuirks} (hq : q.loadCssUnlockEarly = false) {F : Finder}
    {enter : Str → St → Res} {name : Str} {j : Nat} {b : Binds} {s1 s' : St} {k : Kind} {e : Err}
    (h : (runFound q F enter name j b s1 k).1 = .err e s') :
    ∃ s2, s2.loading = s1.loading ∧ enter name s2 = .err e s' := by
  cases k with
  | use =>
    simp only [runFound, runUse] at h
    split at h
    · cases h
    · next hm =>
      cases h
      exact ⟨_, by rfl, loadModule_err (by rw [hm])⟩
  | forward =>
    simp only [runFound, runForward] at h
    split at h
    · cases h
    · next hm =>
      cases h
      exact ⟨_, by rfl, loadModule_err (by rw [hm])⟩
  | «import» =>
    simp only [runFound, runImport] at h
    split at h
    · cases h
    · next hs =>
      cases h
      exact ⟨_, by simp, enterSub_err.mp hs⟩
  | loadCss =>
    simp only [runFound, runLoadCss, hq, Bool.false_eq_true, if_false] at h
    split at h
    · cases h
    · next hs =>
      cases h
      exact ⟨_, by rfl, enterSub_err.mp hs⟩

/-- the `.missing` disjunct is the plain-CSS `@import` fallback, the only local step that writes
the call log -/
theorem execItem_ok {q : LoadQuirks} {F : Finder} {enter : Str → St → Res} {self : Str} {j : Nat}
    {b b' : Binds} {s s' : St} {it : Item} (h : execItem q F enter self j b s it = (.ok s', b')) :
    (s'.loading = s.loading ∧ s'.modules = s.modules ∧ s'.execLog = s.execLog ∧
      (s'.calls = s.calls ∨
        ∃ k url, it.target = some (k, url) ∧ F.find self k url s.calls = .missing s'.calls)) ∨
    ∃ k url name calls, it.target = some (k, url) ∧ F.find self k url s.calls = .found name calls ∧
      name ∉ s.loading ∧
      runFound q F enter name j b { s with calls := calls, loading := name :: s.loading } k
        = (.ok s', b') := by
  cases it with
  | mark =>
    cases h
    exact .inl ⟨rfl, rfl, rfl, .inl rfl⟩
  | bump k t =>
    simp only [execItem] at h
    split at h
    · cases h
    · split at h
      · cases h
        exact .inl ⟨rfl, rfl, rfl, .inl rfl⟩
      · cases h
  | load k url uq =>
    simp only [execItem] at h
    split at h
    · cases h
    · cases h
    · next calls hf =>
      split at h
      · cases h
        exact .inl ⟨rfl, rfl, rfl, .inr ⟨k, url, rfl, hf⟩⟩
      · cases h
    · next name calls hf =>
      split at h
      · cases h
      · next s1 hl =>
        obtain ⟨hn, rfl⟩ := lock_eq_some.mp hl
        exact .inr ⟨k, url, name, calls, rfl, hf, hn, h⟩
  | loadWith k url =>
    simp only [execItem] at h
    split at h
    · cases h
    · cases h
    · cases h
    · next name calls hf =>
      split at h
      · cases h
      · next s1 hl =>
        obtain ⟨hn, rfl⟩ := lock_eq_some.mp hl
        split at h
        · cases h
        · exact .inr ⟨k, url, name, calls, rfl, hf, hn, h⟩

theorem execItem_err {q : LoadQuirks} {F : Finder} {enter : Str → St → Res} {self : Str} {j : Nat}
    {b b' : Binds} {s s' : St} {it : Item} {e : Err}
    (h : execItem q F enter self j b s it = (.err e s', b')) :
    (e ≠ .fuel ∧ e ≠ .loop) ∨
    ∃ k url name calls, it.target = some (k, url) ∧ F.find self k url s.calls = .found name calls ∧
      ((e = .loop ∧ name ∈ s.loading) ∨
       (name ∉ s.loading ∧
        (runFound q F enter name j b { s with calls := calls, loading := name :: s.loading } k).1
          = .err e s')) := by
  have own : ∀ {e0 : Err} {s0 : St} {b0 : Binds},
      ((Res.err e0 s0, b0) : Res × Binds) = (.err e s', b') → e0 ≠ .fuel → e0 ≠ .loop →
      e ≠ .fuel ∧ e ≠ .loop := by
    intro e0 s0 b0 heq h1 h2
    cases heq
    exact ⟨h1, h2⟩
  cases it with
  | mark => cases h
  | bump k t =>
    simp only [execItem] at h
    split at h
    · exact .inl (own h nofun nofun)
    · split at h
      · cases h
      · exact .inl (own h nofun nofun)
  | load k url uq =>
    simp only [execItem] at h
    split at h
    · exact .inl (own h nofun nofun)
    · exact .inl (own h nofun nofun)
    · split at h
      · cases h
      · exact .inl (own h nofun nofun)
    · next name calls hf =>
      refine .inr ⟨k, url, name, calls, rfl, hf, ?_⟩
      split at h
      · next hl =>
        cases h
        have hin := lock_none.mp hl
        exact .inl ⟨rfl, hin⟩
      · next s1 hl =>
        obtain ⟨hn, rfl⟩ := lock_eq_some.mp hl
        exact .inr ⟨hn, by rw [h]⟩
  | loadWith k url =>
    simp only [execItem] at h
    split at h
    · exact .inl (own h nofun nofun)
    · exact .inl (own h nofun nofun)
    · exact .inl (own h nofun nofun)
    · next name calls hf =>
      split at h
      · next hl =>
        cases h
        have hin := lock_none.mp hl
        exact .inr ⟨k, url, name, calls, rfl, hf, .inl ⟨rfl, hin⟩⟩
      · next s1 hl =>
        obtain ⟨hn, rfl⟩ := lock_eq_some.mp hl
        split at h
        · exact .inl (own h nofun nofun)
        · exact .inr ⟨k, url, name, calls, rfl, hf, .inr ⟨hn, by rw [h]⟩⟩

theorem execItems_cons_ok {q : LoadQuirks} {F : Finder} {enter : Str → St → Res} {self : Str}
    {it : Item} {rest : List Item} {j : Nat} {b : Binds} {s s' : St}
    (h : execItems q F enter self (it :: rest) j b s = .ok s') :
    ∃ s1 b1, execItem q F enter self j b s it = (.ok s1, b1) ∧
      execItems q F enter self rest (j + 1) b1 s1 = .ok s' := by
  simp only [execItems] at h
  split at h
  · next s1 b1 h1 => exact ⟨s1, b1, h1, h⟩
  · cases h

theorem execItems_rel {R : St → St → Prop} (refl : ∀ s, R s s)
    (trans : ∀ {a b c}, R a b → R b c → R a c) {q : LoadQuirks} {F : Finder}
    {enter : Str → St → Res} {self : Str}
    (hitem : ∀ {j b b' s s' it}, execItem q F enter self j b s it = (.ok s', b') → R s s')
    (items : List Item) {j : Nat} {b : Binds} {s s' : St}
    (h : execItems q F enter self items j b s = .ok s') : R s s' := by
  induction items generalizing j b s with
  | nil =>
    cases h
    exact refl _
  | cons it rest ih =>
    obtain ⟨s1, b1, h1, h2⟩ := execItems_cons_ok h
    exact trans (hitem h1) (ih h2)

theorem execBody_rel {R : St → St → Prop} (refl : ∀ s, R s s)
    (trans : ∀ {a b c}, R a b → R b c → R a c) {q : LoadQuirks} {F : Finder}
    (hitem : ∀ {enter : Str → St → Res}, (∀ n s1 s2, enter n s1 = .ok s2 → R s1 s2) →
      ∀ {self j b b' s s' it}, execItem q F enter self j b s it = (.ok s', b') → R s s')
    (fuel : Nat) : ∀ n s1 s2, execBody q F fuel n s1 = .ok s2 → R s1 s2 := by
  induction fuel with
  | zero =>
    intro n s1 s2 h
    cases h
  | succ fuel ih =>
    intro n s1 s2 h
    exact execItems_rel refl trans (hitem ih) _ h

theorem compile_ok {q : LoadQuirks} {F : Finder} {fuel : Nat} {root : Str} {s : St} :
    compile q F fuel root = .ok s ↔
      ∃ s', execBody q F fuel root { loading := [root] } = .ok s' ∧ s = unlock root s' := by
  unfold compile
  split <;> simp [*, eq_comm]

theorem compile_errOf (q : LoadQuirks) (F : Finder) (fuel : Nat) (root : Str) :
    (compile q F fuel root).errOf = (execBody q F fuel root { loading := [root] }).errOf := by
  unfold compile
  split <;> simp [Res.errOf, *]

def Balanced (enter : Str → St → Res) : Prop :=
  ∀ n s1 s2, enter n s1 = .ok s2 → s2.loading = s1.loading

theorem enterSub_balanced {enter : Str → St → Res} (h : Balanced enter) : Balanced (enterSub enter) := by
  intro n s1 s2 he
  obtain ⟨s3, h3, rfl⟩ := enterSub_ok.mp he
  -- `(e :)` elaborates `e` before looking at the goal: the goal speaks of `{ s3 with … }`, which
  -- is the wanted state only up to unfolding a projection, and would otherwise fix `_` wrongly
  exact (h n _ s3 h3 :)

theorem loadModule_loading {F : Finder} {enter : Str → St → Res} (h : Balanced enter)
    {name : Str} {s s' : St} {id : Nat} (hl : loadModule F enter name s = (.ok s', id)) :
    s'.loading = s.loading := by
  rcases loadModule_ok hl with ⟨-, rfl⟩ | ⟨-, s2, h2, -, rfl⟩
  · rfl
  · exact (h name _ s2 h2 :)

theorem runFound_loading {q : LoadQuirks} {F : Finder} {enter : Str → St → Res} (h : Balanced enter)
    {name : Str} {j : Nat} {b b' : Binds} {s1 s' : St} {L : List Str} {k : Kind}
    (hl1 : s1.loading = name :: L)
    (he : runFound q F enter name j b s1 k = (.ok s', b')) : s'.loading = L := by
  rcases runFound_ok he with ⟨s2, id, hm, hl, -⟩ | ⟨s2, hs, rfl⟩ | ⟨-, hs⟩ | ⟨s2, hs, rfl⟩
  · simp [hl, loadModule_loading h hm, hl1]
  · simp [enterSub_balanced h _ _ _ hs, hl1]
  · simpa [hl1] using enterSub_balanced h _ _ _ hs
  · simp [enterSub_balanced h _ _ _ hs, hl1]

theorem execItem_loading {q : LoadQuirks} {F : Finder} {enter : Str → St → Res} (h : Balanced enter)
    {self : Str} {j : Nat} {b b' : Binds} {s s' : St} {it : Item}
    (he : execItem q F enter self j b s it = (.ok s', b')) : s'.loading = s.loading := by
  rcases execItem_ok he with ⟨hl, -⟩ | ⟨k, url, name, calls, -, -, -, hr⟩
  · exact hl
  · exact runFound_loading h rfl hr

theorem execBody_balanced (q : LoadQuirks) (F : Finder) (fuel : Nat) : Balanced (execBody q F fuel) :=
  execBody_rel (R := fun s s' => s'.loading = s.loading) (fun _ => rfl) (fun h1 h2 => h2.trans h1)
    execItem_loading fuel

/-! ### errors that only a nested body can raise

`fuel` is raised by `execBody` alone, and `loop` by a statement only when the file it found is
being loaded (`execItem_err`). -/

/-- Generic invariant lemma for a statement list.  `Pre n L'` is what is known when the body of
`n` is entered with `loading = L'`; a statement of `self` (running with `loading = L`) that finds
`n` unlocked must establish it; for the loop error, found files must be unlocked.  Load-css has to
keep its file locked during the body (`loadCssUnlockEarly` off). -/
theorem execItems_bad {e : Err} (hb : e = .fuel ∨ e = .loop) {q : LoadQuirks}
    (hq : q.loadCssUnlockEarly = false) {F : Finder} {enter : Str → St → Res} (hbal : Balanced enter)
    (Pre : Str → List Str → Prop)
    (henter : ∀ n (s1 : St), Pre n s1.loading → (enter n s1).errOf ≠ some e)
    {self : Str} (L : List Str) (items : List Item)
    (hstep : ∀ it k url calls n c, it ∈ items → it.target = some (k, url) →
      F.find self k url calls = .found n c → n ∉ L → Pre n (n :: L))
    (hloop : e = .loop → ∀ it k url calls n c, it ∈ items → it.target = some (k, url) →
      F.find self k url calls = .found n c → n ∉ L)
    {j : Nat} {b : Binds} {s : St} (hL : s.loading = L) :
    (execItems q F enter self items j b s).errOf ≠ some e := by
  induction items generalizing j b s with
  | nil => simp [execItems, Res.errOf]
  | cons it rest ih =>
    simp only [execItems]
    split
    · next s' b' h1 =>
      apply ih
      · intro it' k url calls n c hm
        exact hstep it' k url calls n c (List.mem_cons_of_mem _ hm)
      · intro hl it' k url calls n c hm
        exact hloop hl it' k url calls n c (List.mem_cons_of_mem _ hm)
      · rw [execItem_loading hbal h1, hL]
    · next e' s' _ h1 =>
      subst hL
      rintro ⟨⟩
      rcases execItem_err h1 with ⟨h2, h3⟩ | ⟨k, url, name, calls, ht, hf, ⟨rfl, hin⟩ | ⟨hn, hr⟩⟩
      · exact hb.elim h2 h3
      · exact hloop rfl it k url _ name calls (List.mem_cons_self ..) ht hf hin
      · obtain ⟨s2, hl2, h2⟩ := runFound_err hq hr
        have hpre := hstep it k url _ name calls (List.mem_cons_self ..) ht hf hn
        exact henter name s2 (hl2 ▸ hpre) (by rw [h2]; rfl)

/-- how many of the names `K` are not being loaded -/
def room : List Str → List Str → Nat
  | [], _ => 0
  | k :: K, L => (if k ∈ L then 0 else 1) + room K L

theorem room_le (K L : List Str) : room K L ≤ K.length := by
  induction K with
  | nil => simp [room]
  | cons k K ih =>
    simp only [room, List.length_cons]
    split <;> omega

theorem room_cons_le (K L : List Str) (n : Str) : room K (n :: L) ≤ room K L := by
  induction K with
  | nil => exact Nat.le_refl _
  | cons k K ih =>
    simp only [room, List.mem_cons]
    by_cases h1 : k ∈ L <;> by_cases h2 : k = n <;>
      simp only [h1, h2, or_true, true_or, or_self, ↓reduceIte] <;> omega

theorem room_cons_lt {K L : List Str} {n : Str} (hn : n ∈ K) (hnl : n ∉ L) :
    room K (n :: L) < room K L := by
  induction K with
  | nil => cases hn
  | cons k K ih =>
    have hle := room_cons_le K L n
    simp only [room, List.mem_cons]
    by_cases hk : k = n
    · subst hk
      simp only [hnl, true_or, ↓reduceIte]
      omega
    · have := ih ((List.mem_cons.mp hn).resolve_left (Ne.symm hk))
      by_cases h1 : k ∈ L <;> simp only [h1, hk, or_true, or_self, ↓reduceIte] <;> omega

/-! ### the module cache only grows (when `@import` does not swap it: `importFreshCache` off) -/

def CacheLe (s s' : St) : Prop :=
  ∀ k id, s.modules.lookup k = some id → s'.modules.lookup k = some id

theorem CacheLe.refl (s : St) : CacheLe s s := fun _ _ h => h
theorem CacheLe.trans {a b c : St} (h1 : CacheLe a b) (h2 : CacheLe b c) : CacheLe a c :=
  fun k id h => h2 k id (h1 k id h)

theorem CacheLe.of_eq {s s' : St} (h : s'.modules = s.modules) : CacheLe s s' :=
  fun _ _ hk => h ▸ hk

def CacheMono (enter : Str → St → Res) : Prop :=
  ∀ n s1 s2, enter n s1 = .ok s2 → CacheLe s1 s2

theorem enterSub_cacheMono {enter : Str → St → Res} (h : CacheMono enter) : CacheMono (enterSub enter) := by
  intro n s1 s2 he
  obtain ⟨s3, h3, rfl⟩ := enterSub_ok.mp he
  exact (h n _ s3 h3 :)

theorem loadModule_cacheLe {F : Finder} {enter : Str → St → Res} (h : CacheMono enter)
    {name : Str} {s s' : St} {id : Nat} (hl : loadModule F enter name s = (.ok s', id)) :
    CacheLe s s' ∧ s'.modules.lookup name = some id := by
  rcases loadModule_ok hl with ⟨hc, rfl⟩ | ⟨hc, s2, h2, -, rfl⟩
  · exact ⟨CacheLe.refl _, hc⟩
  · refine ⟨fun k id' hk => ?_, by simp [List.lookup]⟩
    have hkn : (k == name) = false := by
      rw [beq_eq_false_iff_ne]
      rintro rfl
      rw [hc] at hk
      cases hk
    simpa [List.lookup, hkn] using h name _ s2 h2 k id' hk

theorem runFound_cacheLe {q : LoadQuirks} (hq : q.importFreshCache = false) {F : Finder}
    {enter : Str → St → Res} (h : CacheMono enter) {name : Str} {j : Nat} {b b' : Binds} {s1 s' : St}
    {k : Kind} (he : runFound q F enter name j b s1 k = (.ok s', b')) : CacheLe s1 s' := by
  rcases runFound_ok he with ⟨s2, id, hm, -, hmod, -⟩ | ⟨s2, hs, rfl⟩ | ⟨-, hs⟩ | ⟨s2, hs, rfl⟩
  · exact (loadModule_cacheLe h hm).1.trans (.of_eq hmod)
  · simpa [CacheLe, unlock, cacheIn, cacheOut, hq] using enterSub_cacheMono h _ _ _ hs
  · exact (enterSub_cacheMono h _ _ _ hs :)
  · exact (enterSub_cacheMono h _ _ _ hs :)

theorem execItem_cacheLe {q : LoadQuirks} (hq : q.importFreshCache = false) {F : Finder}
    {enter : Str → St → Res} (h : CacheMono enter)
    {self : Str} {j : Nat} {b b' : Binds} {s s' : St} {it : Item}
    (he : execItem q F enter self j b s it = (.ok s', b')) : CacheLe s s' := by
  rcases execItem_ok he with ⟨-, hm, -⟩ | ⟨k, url, name, calls, -, -, -, hr⟩
  · exact .of_eq hm
  · exact (runFound_cacheLe hq h hr :)

theorem execBody_cacheMono (q : LoadQuirks) (hq : q.importFreshCache = false) (F : Finder) (fuel : Nat) :
    CacheMono (execBody q F fuel) :=
  execBody_rel CacheLe.refl CacheLe.trans (execItem_cacheLe hq) fuel

/-! ### a predicate on the call log that every successful lookup preserves -/

def CallsPres (P : List Call → Prop) (enter : Str → St → Res) : Prop :=
  ∀ n s1 s2, enter n s1 = .ok s2 → P s1.calls → P s2.calls

def FindPres (P : List Call → Prop) (F : Finder) : Prop :=
  ∀ self k url calls, P calls →
    (∀ n c, F.find self k url calls = .found n c → P c) ∧
    (∀ c, F.find self k url calls = .missing c → P c)

theorem enterSub_callsPres {P : List Call → Prop} {enter : Str → St → Res} (h : CallsPres P enter) :
    CallsPres P (enterSub enter) := by
  intro n s1 s2 he hp
  obtain ⟨s3, h3, rfl⟩ := enterSub_ok.mp he
  exact h n _ s3 h3 hp

theorem loadModule_calls {P : List Call → Prop} {F : Finder} {enter : Str → St → Res}
    (h : CallsPres P enter) {name : Str} {s s' : St} {id : Nat} (hp : P s.calls)
    (hl : loadModule F enter name s = (.ok s', id)) : P s'.calls := by
  rcases loadModule_ok hl with ⟨-, rfl⟩ | ⟨-, s2, h2, -, rfl⟩
  · exact hp
  · exact h name _ s2 h2 hp

theorem runFound_calls {P : List Call → Prop} {q : LoadQuirks} {F : Finder} {enter : Str → St → Res}
    (h : CallsPres P enter) {name : Str} {j : Nat} {b b' : Binds} {s1 s' : St} {k : Kind}
    (hp : P s1.calls) (he : runFound q F enter name j b s1 k = (.ok s', b')) : P s'.calls := by
  rcases runFound_ok he with ⟨s2, id, hm, -, -, hc, -⟩ | ⟨s2, hs, rfl⟩ | ⟨-, hs⟩ | ⟨s2, hs, rfl⟩
  · exact hc ▸ loadModule_calls h hp hm
  · simpa [unlock] using enterSub_callsPres h _ _ _ hs (by simpa using hp)
  · exact enterSub_callsPres h _ _ _ hs hp
  · exact (enterSub_callsPres h _ _ _ hs hp :)

theorem execItem_calls {P : List Call → Prop} {q : LoadQuirks} {F : Finder} (hF : FindPres P F)
    {enter : Str → St → Res} (h : CallsPres P enter)
    {self : Str} {j : Nat} {b b' : Binds} {s s' : St} {it : Item} (hp : P s.calls)
    (he : execItem q F enter self j b s it = (.ok s', b')) : P s'.calls := by
  rcases execItem_ok he with ⟨-, -, -, hc | ⟨k, url, -, hf⟩⟩ | ⟨k, url, name, calls, -, hf, -, hr⟩
  · exact hc ▸ hp
  · exact (hF self k url s.calls hp).2 _ hf
  · exact runFound_calls h ((hF self k url s.calls hp).1 name calls hf) hr

theorem execBody_callsPres (P : List Call → Prop) (q : LoadQuirks) (F : Finder) (hF : FindPres P F)
    (fuel : Nat) : CallsPres P (execBody q F fuel) :=
  execBody_rel (R := fun s s' => P s.calls → P s'.calls) (fun _ h => h) (fun h1 h2 h => h2 (h1 h))
    (fun h _ _ _ _ _ _ _ he hp => execItem_calls hF h hp he) fuel

/-! ### the execution log: a name is run as a module at most once (needs `importFreshCache` off) -/

def CachedIn (s : St) (n : Str) : Prop := ∃ id, s.modules.lookup n = some id

/-- invariant: no name was run as a module twice, and every name that was is either cached
(its run is complete) or still being loaded (its run is in progress) -/
def LogInv (s : St) : Prop :=
  s.execLog.Nodup ∧ ∀ n ∈ s.execLog, CachedIn s n ∨ n ∈ s.loading

/-- every module run since `s` is complete (cached) in `s'` -/
def LogNew (s s' : St) : Prop := ∀ x ∈ s'.execLog, x ∈ s.execLog ∨ CachedIn s' x

def LogOK (enter : Str → St → Res) : Prop :=
  ∀ n s s', enter n s = .ok s' → LogInv s → s'.execLog.Nodup ∧ LogNew s s'

theorem LogNew.of_eq {s s' : St} (h : s'.execLog = s.execLog) : LogNew s s' :=
  fun _ hx => .inl (h ▸ hx)

theorem LogNew.trans {a b c : St} (h1 : LogNew a b) (h2 : LogNew b c) (hc : CacheLe b c) : LogNew a c := by
  intro x hx
  rcases h2 x hx with h | h
  · exact (h1 x h).imp_right fun ⟨id, h'⟩ => ⟨id, hc x id h'⟩
  · exact .inr h

theorem LogInv.after {s s' : St} (h : LogInv s) (hn : s'.execLog.Nodup) (hnew : LogNew s s')
    (hc : CacheLe s s') (hl : s'.loading = s.loading) : LogInv s' := by
  refine ⟨hn, fun n hn' => ?_⟩
  rcases hnew n hn' with h1 | h1
  · exact (h.2 n h1).imp (fun ⟨id, h2⟩ => ⟨id, hc n id h2⟩) (hl ▸ ·)
  · exact .inl h1

theorem enterSub_logOK {enter : Str → St → Res} (h : LogOK enter) : LogOK (enterSub enter) := by
  intro n s s' he hinv
  obtain ⟨s2, hs, rfl⟩ := enterSub_ok.mp he
  exact (h n _ s2 hs hinv :)

/-- `load_module` on a state where `name` has just been locked (`loading = name :: L`, `name ∉ L`) -/
theorem loadModule_log {F : Finder} {enter : Str → St → Res} (hlog : LogOK enter)
    {name : Str} {s1 s' : St} {id : Nat} {L : List Str}
    (hl1 : s1.loading = name :: L) (hn : name ∉ L)
    (hnd : s1.execLog.Nodup) (hJ : ∀ n ∈ s1.execLog, CachedIn s1 n ∨ n ∈ L)
    (he : loadModule F enter name s1 = (.ok s', id)) :
    s'.execLog.Nodup ∧ LogNew s1 s' := by
  rcases loadModule_ok he with ⟨-, rfl⟩ | ⟨hnone, s2, hs, -, rfl⟩
  · exact ⟨hnd, .of_eq rfl⟩
  · have hnotin : name ∉ s1.execLog := fun hin =>
      (hJ name hin).elim (fun ⟨id', hc⟩ => by simp [hnone] at hc) hn
    have hinv0 : LogInv { s1 with execLog := name :: s1.execLog, fwdSeen := false } := by
      refine ⟨List.nodup_cons.mpr ⟨hnotin, hnd⟩, fun n hn' => ?_⟩
      rcases List.mem_cons.mp hn' with rfl | hn'
      · exact .inr (by simp [hl1])
      · exact (hJ n hn').imp_right (by simp [hl1, ·])
    obtain ⟨hnd2, hnew2⟩ := hlog name _ s2 hs hinv0
    refine ⟨hnd2, fun x hx => ?_⟩
    by_cases hxn : x = name
    · exact .inr ⟨id, by simp [hxn, List.lookup]⟩
    · have : (x == name) = false := by simpa using hxn
      rcases hnew2 x hx with h | ⟨id', h⟩
      · exact .inl ((List.mem_cons.mp h).resolve_left hxn)
      · exact .inr ⟨id', by simp [List.lookup, this, h]⟩

theorem runFound_log {q : LoadQuirks} (hq : q.importFreshCache = false) {F : Finder}
    {enter : Str → St → Res} (hlog : LogOK enter)
    {name : Str} {j : Nat} {b b' : Binds} {s1 s' : St} {k : Kind} {L : List Str}
    (he : runFound q F enter name j b s1 k = (.ok s', b'))
    (hl1 : s1.loading = name :: L) (hn : name ∉ L)
    (hnd : s1.execLog.Nodup) (hJ : ∀ n ∈ s1.execLog, CachedIn s1 n ∨ n ∈ L) :
    s'.execLog.Nodup ∧ LogNew s1 s' := by
  have hinv1 : LogInv s1 := ⟨hnd, fun n hn' => (hJ n hn').imp_right (by simp [hl1, ·])⟩
  rcases runFound_ok he with ⟨s2, id, hm, -, hmod, -, hlg⟩ | ⟨s2, hs, rfl⟩ | ⟨-, hs⟩ | ⟨s2, hs, rfl⟩
  · simpa only [LogNew, CachedIn, hlg, hmod] using loadModule_log hlog hl1 hn hnd hJ hm
  · simp only [cacheIn, cacheOut, hq] at hs ⊢
    exact (enterSub_logOK hlog _ _ _ hs hinv1 :)
  · have hinvU : LogInv (unlock name s1) :=
      ⟨hnd, fun n hn' => (hJ n hn').imp_right (by simp [hl1, ·])⟩
    exact (enterSub_logOK hlog _ _ _ hs hinvU :)
  · exact (enterSub_logOK hlog _ _ _ hs hinv1 :)

theorem execItem_log {q : LoadQuirks} (hq : q.importFreshCache = false) {F : Finder}
    {enter : Str → St → Res} (hlog : LogOK enter)
    {self : Str} {j : Nat} {b b' : Binds} {s s' : St} {it : Item} (hinv : LogInv s)
    (he : execItem q F enter self j b s it = (.ok s', b')) : s'.execLog.Nodup ∧ LogNew s s' := by
  rcases execItem_ok he with ⟨-, -, hl, -⟩ | ⟨k, url, name, calls, -, -, hn, hr⟩
  · exact ⟨hl ▸ hinv.1, .of_eq hl⟩
  · exact (runFound_log hq hlog hr rfl hn hinv.1 hinv.2 :)

/-- the three invariants together are a transitive relation: balance and the growing cache
re-establish `LogInv` between two statements (`LogInv.after`) -/
theorem execBody_logOK (q : LoadQuirks) (hq : q.importFreshCache = false) (F : Finder) (fuel : Nat) :
    LogOK (execBody q F fuel) := by
  intro n s s' h
  refine (execBody_rel (q := q) (F := F) (R := fun s s' => s'.loading = s.loading ∧ CacheLe s s' ∧
    (LogInv s → s'.execLog.Nodup ∧ LogNew s s')) ?_ ?_ ?_ fuel n s s' h).2.2
  · exact fun s => ⟨rfl, .refl s, fun hinv => ⟨hinv.1, .of_eq rfl⟩⟩
  · rintro a b c ⟨hl1, hc1, hg1⟩ ⟨hl2, hc2, hg2⟩
    refine ⟨hl2.trans hl1, hc1.trans hc2, fun hinv => ?_⟩
    obtain ⟨hnd1, hnew1⟩ := hg1 hinv
    obtain ⟨hnd2, hnew2⟩ := hg2 (hinv.after hnd1 hnew1 hc1 hl1)
    exact ⟨hnd2, hnew1.trans hnew2 hc2⟩
  · intro enter henter self j b b' s s' it he
    exact ⟨execItem_loading (fun n s1 s2 h => (henter n s1 s2 h).1) he,
      execItem_cacheLe hq (fun n s1 s2 h => (henter n s1 s2 h).2.1) he,
      fun hinv => execItem_log hq (fun n s1 s2 h => (henter n s1 s2 h).2.2) hinv he⟩

end Load
