/-
Loader family (C02, C03, C04, C39) — path text.

Paths and URLs are modelled as lists of code points (`List Nat`), so that every
definition reduces in the kernel (`decide`, `rfl`) — core `String` does not.

Rust mirrored:
* `relative` (rsass/src/input/context.rs): `base[..=rfind('/')] ++ url`, or `url` when the
  importing file's name has no `/`.
* the `(base, name)` split in `Context::do_find_file`: `url.split_at(rfind('/') + 1)`.
* `canon`: not in the code — the canonical form demanded by the property (`./` removed,
  `d/../` folded); no configuration runs it (`spec` normalises with `normalize`, below).
* `resolvePath`: the *loader parameter* — how `FsLoader::find_file`'s `base.join(url).is_file()`
  behaves on a POSIX file system without symlinks (and how the harness's virtual loader is
  written): `.`/empty components are skipped, `..` pops, and every intermediate prefix has to
  be an existing directory.
-/
namespace Load

abbrev Str := List Nat

def slash : Nat := 47
def dot : Nat := 46
def underscore : Nat := 95

/-- the part of `s` up to and including the last `/` (empty when there is none) -/
def dirOf (s : Str) : Str := (s.reverse.dropWhile (· != slash)).reverse

/-- the part of `s` after the last `/` -/
def nameOf (s : Str) : Str := (s.reverse.takeWhile (· != slash)).reverse

theorem dirOf_append_nameOf (s : Str) : dirOf s ++ nameOf s = s := by
  unfold dirOf nameOf
  rw [← List.reverse_append, List.takeWhile_append_dropWhile, List.reverse_reverse]

/-- `relative(&from, url)` of context.rs, `importer` = `from.next().file_url()` -/
def relative (importer url : Str) : Str := dirOf importer ++ url

def endsWith (s suf : Str) : Bool := suf.reverse.isPrefixOf s.reverse
def startsWith (s pre : Str) : Bool := pre.isPrefixOf s

/-- split on `/` (always at least one segment) -/
def segments : Str → List Str
  | [] => [[]]
  | c :: cs =>
    if c == slash then [] :: segments cs
    else match segments cs with
      | [] => [[c]]
      | seg :: rest => (c :: seg) :: rest

def joinSegs : List Str → Str
  | [] => []
  | [s] => s
  | s :: rest => s ++ slash :: joinSegs rest

def dotSeg : Str := [dot]
def dotdotSeg : Str := [dot, dot]

/-- fold `.`, empty and `x/..` segments; `acc` is the reversed stack of kept segments -/
def canonSegs : List Str → List Str → List Str
  | [], acc => acc.reverse
  | seg :: rest, acc =>
    if seg == [] || seg == dotSeg then canonSegs rest acc
    else if seg == dotdotSeg then
      match acc with
      | top :: acc' => if top == dotdotSeg then canonSegs rest (seg :: acc) else canonSegs rest acc'
      | [] => canonSegs rest [seg]
    else canonSegs rest (seg :: acc)

/-- canonical spelling of a relative path: `./a` ↦ `a`, `d/../a` ↦ `a` -/
def canon (s : Str) : Str := joinSegs (canonSegs (segments s) [])

/-- `needle` occurs in `s` -/
def hasInfix : Str → Str → Bool
  | [], needle => needle.isEmpty
  | c :: cs, needle => needle.isPrefixOf (c :: cs) || hasInfix cs needle

def schemeSep : Str := [58, 47, 47]  -- "://"

/-- the loop of `normalize` (context.rs, commit 51f269b): `.` dropped, `..` pops a kept
segment that is neither empty nor `..`, everything else is kept.  `acc` = kept segments,
reversed; `first` = this is segment 0.  With `dropEmpty` (commit 3fe5f5c) an empty segment
that is neither the first nor the last one is dropped as well. -/
def normalizeSegs (dropEmpty : Bool) : List Str → Bool → List Str → List Str
  | [], _, acc => acc.reverse
  | seg :: rest, first, acc =>
    if seg == dotSeg then normalizeSegs dropEmpty rest false acc
    else if dropEmpty && seg.isEmpty && !first && !rest.isEmpty then
      normalizeSegs dropEmpty rest false acc
    else if seg == dotdotSeg then
      match acc with
      | top :: acc' =>
        if !top.isEmpty && top != dotdotSeg then normalizeSegs dropEmpty rest false acc'
        else normalizeSegs dropEmpty rest false (seg :: acc)
      | [] => normalizeSegs dropEmpty rest false [seg]
    else normalizeSegs dropEmpty rest false (seg :: acc)

/-- `fn normalize(url)`: unchanged when it contains `://`, or has no `.`/`..` segment and
(since 3fe5f5c) no `//` -/
def normalize (dropEmpty : Bool) (url : Str) : Str :=
  let segs := segments url
  if hasInfix url schemeSep then url
  else if segs.any (fun s => s == dotSeg || s == dotdotSeg)
      || (dropEmpty && (segs.drop 1).dropLast.any (·.isEmpty)) then
    joinSegs (normalizeSegs dropEmpty segs true [])
  else url

/-! ### the file-system side of the loader (parameter) -/

/-- `d` (segments) is a directory: a proper prefix of the segment list of some file -/
def isDir (files : List Str) (d : List Str) : Bool :=
  files.any fun p =>
    let segs := segments p
    decide (d.length < segs.length) && (segs.take d.length == d)

/-- walk the components; `cur` is the current directory (segments, in order) -/
def resolveSegs (files : List Str) : List Str → List Str → Option (List Str)
  | [], _ => none
  | [c], cur =>
    if c == [] || c == dotSeg || c == dotdotSeg then none else some (cur ++ [c])
  | c :: rest, cur =>
    if c == [] || c == dotSeg then resolveSegs files rest cur
    else if c == dotdotSeg then
      if cur.isEmpty then none else resolveSegs files rest cur.dropLast
    else
      if isDir files (cur ++ [c]) then resolveSegs files rest (cur ++ [c]) else none

/-- the file (canonical path) that the text `full` names in a file system holding exactly
`files` (canonical paths), if any -/
def resolvePath (files : List Str) (full : Str) : Option Str :=
  if full.head? == some slash then none
  else match resolveSegs files (segments full) [] with
    | none => none
    | some segs => let p := joinSegs segs; if files.contains p then some p else none

end Load
