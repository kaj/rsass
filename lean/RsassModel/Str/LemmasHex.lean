/- C27: the `{:x}` hex digits of a code point are read back by the CSS decoder
(`hexNum (hexDigits n) = n`, all digits are hex digits, one to six of them); what
`decodeCssAux` does with a hex escape, and with text that has no backslash. -/
import RsassModel.Str.Escape
namespace Str

theorem hexDigit_table : ∀ d : Fin 16,
    isHex (hexDigit d.val) = true ∧ hexVal (hexDigit d.val) = d.val := by decide

theorem hexVal_hexDigit {d : Nat} (h : d < 16) : hexVal (hexDigit d) = d :=
  (hexDigit_table ⟨d, h⟩).2

theorem isHex_hexDigit {d : Nat} (h : d < 16) : isHex (hexDigit d) = true :=
  (hexDigit_table ⟨d, h⟩).1

/-- value round trip, generalised over the accumulator -/
theorem foldl_hexDigitsAux : ∀ (f n : Nat) (acc : List Char), n < 16 ^ f →
    (hexDigitsAux f n acc).foldl (fun a d => a * 16 + hexVal d) 0
      = acc.foldl (fun a d => a * 16 + hexVal d) n
  | 0, n, acc, h => by
    have : n = 0 := by simpa using h
    subst this; simp [hexDigitsAux]
  | f + 1, n, acc, h => by
    rw [hexDigitsAux]
    by_cases hn : n < 16
    · simp [hn, hexVal_hexDigit hn]
    · simp only [hn, if_false]
      have hd : n / 16 < 16 ^ f := by
        apply Nat.div_lt_of_lt_mul
        rw [Nat.pow_succ, Nat.mul_comm] at h; exact h
      rw [foldl_hexDigitsAux f (n / 16) _ hd, List.foldl_cons,
        hexVal_hexDigit (Nat.mod_lt _ (by omega)), Nat.div_add_mod']

/-- `hexDigits` runs `hexDigitsAux` with fuel 8, enough for every value below `16 ^ 8` -/
theorem hexNum_hexDigits (n : Nat) (h : n < 16 ^ 8) : hexNum (hexDigits n) = n :=
  foldl_hexDigitsAux 8 n [] h

theorem isHex_hexDigitsAux : ∀ (f n : Nat) (acc : List Char),
    (∀ c ∈ acc, isHex c = true) → ∀ c ∈ hexDigitsAux f n acc, isHex c = true
  | 0, _, acc, h => by simpa [hexDigitsAux] using h
  | f + 1, n, acc, h => by
    have hc : ∀ d < 16, ∀ c ∈ hexDigit d :: acc, isHex c = true := fun d hd c hc =>
      (List.mem_cons.1 hc).elim (fun e => e ▸ isHex_hexDigit hd) (h c)
    rw [hexDigitsAux]
    split
    · next hn => exact hc n hn
    · exact isHex_hexDigitsAux f _ _ (hc _ (Nat.mod_lt _ (by omega)))

theorem isHex_hexDigits (n : Nat) : ∀ c ∈ hexDigits n, isHex c = true :=
  isHex_hexDigitsAux 8 n [] (by simp)

theorem length_hexDigitsAux_le : ∀ (f n : Nat) (acc : List Char) (k : Nat), n < 16 ^ k → 1 ≤ k →
    (hexDigitsAux f n acc).length ≤ k + acc.length
  | 0, _, acc, k, _, _ => by simp [hexDigitsAux]
  | f + 1, n, acc, k, h, hk => by
    rw [hexDigitsAux]
    by_cases hn : n < 16
    · simp [hn]; omega
    · simp only [hn, if_false]
      obtain ⟨k', rfl⟩ : ∃ k', k = k' + 1 := ⟨k - 1, by omega⟩
      have hk' : 1 ≤ k' := by
        cases k' with
        | zero => simp at h; omega
        | succ _ => omega
      have hd : n / 16 < 16 ^ k' := by
        apply Nat.div_lt_of_lt_mul
        rw [Nat.pow_succ, Nat.mul_comm] at h; exact h
      have := length_hexDigitsAux_le f (n / 16) (hexDigit (n % 16) :: acc) k' hd hk'
      simp at this; omega

/-- a code point is below `0x110000 < 16 ^ 6`: at most six digits, the most `takeHex 6` reads -/
theorem length_hexDigits_le6 (n : Nat) (h : n < 0x110000) : (hexDigits n).length ≤ 6 := by
  have := length_hexDigitsAux_le 8 n [] 6 (by simp; omega) (by omega)
  simpa [hexDigits] using this

theorem hexDigitsAux_ne_nil : ∀ (f n : Nat) (acc : List Char), acc ≠ [] → hexDigitsAux f n acc ≠ []
  | 0, _, _, h => h
  | f + 1, n, acc, _ => by
    rw [hexDigitsAux]
    split
    · exact List.cons_ne_nil _ _
    · exact hexDigitsAux_ne_nil f _ _ (List.cons_ne_nil _ _)

theorem hexDigits_ne_nil (n : Nat) : hexDigits n ≠ [] := by
  rw [hexDigits, hexDigitsAux]
  split
  · exact List.cons_ne_nil _ _
  · exact hexDigitsAux_ne_nil _ _ _ (List.cons_ne_nil _ _)

theorem takeHex_run : ∀ (k : Nat) (ds : List Char) (c : Char) (rest : List Char),
    (∀ d ∈ ds, isHex d = true) → ds.length ≤ k → isHex c = false →
    takeHex k (ds ++ c :: rest) = (ds, c :: rest)
  | k, [], c, rest, _, _, hc => by
    cases k <;> simp [takeHex, hc]
  | 0, d :: ds, _, _, _, hl, _ => by simp at hl
  | k + 1, d :: ds, c, rest, hd, hl, hc => by
    have h1 : isHex d = true := hd d (by simp)
    have ih := takeHex_run k ds c rest (fun x hx => hd x (by simp [hx])) (by simpa using hl) hc
    simp [takeHex, h1, ih]

theorem ne_nl_of_isHex {d : Char} (h : isHex d = true) : d ≠ '\n' := by
  rintro rfl
  exact absurd h (by decide)

theorem decode_hex_run (ds : List Char) (c : Char) (rest : List Char) (f : Nat) (hne : ds ≠ [])
    (hh : ∀ d ∈ ds, isHex d = true) (h6 : ds.length ≤ 6) (hc : isHex c = false) :
    decodeCssAux (f + 1) ('\\' :: (ds ++ c :: rest)) =
      escChar (hexNum ds) :: decodeCssAux f (dropWs (c :: rest)) := by
  cases ds with
  | nil => exact absurd rfl hne
  | cons d ds =>
    have hdh : isHex d = true := hh d (by simp)
    have ht := takeHex_run 6 (d :: ds) c rest hh h6 hc
    rw [List.cons_append] at ht ⊢
    simp only [decodeCssAux, if_true, ne_nl_of_isHex hdh, if_false, hdh, ht]

theorem isPlain_ne {c : Char} (h : isPlain c = true) : c ≠ '\\' ∧ c ≠ '"' := by
  constructor <;> rintro rfl <;> exact absurd h (by decide)

theorem fuel_id {g : Nat → List Char → List Char} {P : Char → Prop}
    (hnil : ∀ f, g f [] = []) (hcons : ∀ f c l, P c → g (f + 1) (c :: l) = c :: g f l) :
    ∀ (l : List Char) (f : Nat), l.length ≤ f → (∀ c ∈ l, P c) → g f l = l
  | [], f, _, _ => hnil f
  | c :: l, 0, hf, _ => by simp at hf
  | c :: l, f + 1, hf, h => by
    rw [hcons f c l (h c List.mem_cons_self),
      fuel_id hnil hcons l f (by simpa using hf) (fun d hd => h d (List.mem_cons_of_mem _ hd))]

theorem decodeCssAux_noBackslash (l : List Char) (f : Nat) (hf : l.length ≤ f)
    (h : ∀ c ∈ l, c ≠ '\\') : decodeCssAux f l = l :=
  fuel_id (fun f => by cases f <;> rfl) (fun f c l hc => by simp [decodeCssAux, hc]) l f hf h

end Str
