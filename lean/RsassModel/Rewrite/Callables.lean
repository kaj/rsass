/- C35 — proof-side extension of the small language by function and mixin definitions and calls
(not used by the driver): consistent renaming of function / mixin names. -/
import RsassModel.Rewrite.Lemmas
namespace Rewrite

def assoc {β : Type} (l : List (Text × β)) (x : Text) : Option β := (l.find? fun p => p.1 = x).map (·.2)

def renKeys {β : Type} (ρ : Text → Text) (l : List (Text × β)) : List (Text × β) := l.map fun p => (ρ p.1, p.2)

theorem assoc_renKeys {β : Type} (ρ : Text → Text) (hρ : ∀ a b, ρ a = ρ b → a = b) (l : List (Text × β)) (x : Text) :
    assoc (renKeys ρ l) (ρ x) = assoc l x :=
  find?_map_key ρ hρ l x

/-- expressions with calls of user functions `f(arg)`; a function is `@function f($param) { @return body }`
with `body` an expression of the base language over its parameter -/
inductive FExpr where
  | num (n : Int)
  | var (x : Text)
  | add (a b : FExpr)
  | mul (a b : FExpr)
  | call (f : Text) (arg : FExpr)

abbrev FunDefs := List (Text × (Text × Expr))

def evalF (defs : FunDefs) (env : Env) : FExpr → Option Val
  | .num n => some (.num n)
  | .var x => env.get x
  | .add a b =>
    match evalF defs env a, evalF defs env b with
    | some (.num x), some (.num y) => some (.num (x + y))
    | _, _ => none
  | .mul a b =>
    match evalF defs env a, evalF defs env b with
    | some (.num x), some (.num y) => some (.num (x * y))
    | _, _ => none
  | .call f arg =>
    match assoc defs f, evalF defs env arg with
    | some (param, body), some v => eval [(param, v)] body
    | _, _ => none

def FExpr.renameFn (ρ : Text → Text) : FExpr → FExpr
  | .num n => .num n
  | .var x => .var x
  | .add a b => .add (a.renameFn ρ) (b.renameFn ρ)
  | .mul a b => .mul (a.renameFn ρ) (b.renameFn ρ)
  | .call f arg => .call (ρ f) (arg.renameFn ρ)

theorem evalF_renameFn (ρ : Text → Text) (hρ : ∀ a b, ρ a = ρ b → a = b) (defs : FunDefs) (env : Env) (e : FExpr) :
    evalF (renKeys ρ defs) env (e.renameFn ρ) = evalF defs env e := by
  induction e with
  | num n => rfl
  | var x => rfl
  | add a b iha ihb | mul a b iha ihb => simp only [FExpr.renameFn, evalF, iha, ihb]
  | call f arg ih => simp only [FExpr.renameFn, evalF, assoc_renKeys ρ hρ, ih]

/-- statements with `@include name;` of a parameterless mixin whose body is a list of base statements -/
inductive MStmt where
  | plain (s : Stmt)
  | emitF (e : FExpr)
  | include_ (name : Text)

abbrev MixDefs := List (Text × List Stmt)

def execM (funs : FunDefs) (mixins : MixDefs) (s : State) : List MStmt → Option State
  | [] => some s
  | .plain st :: rest => (exec s [st]).bind fun s' => execM funs mixins s' rest
  | .emitF e :: rest =>
    match evalF funs s.env e with
    | none => none
    | some v => execM funs mixins { s with out := s.out ++ [v] } rest
  | .include_ n :: rest =>
    match assoc mixins n with
    | none => none
    | some body => (exec s body).bind fun s' => execM funs mixins s' rest

def MStmt.renameCallables (ρf ρm : Text → Text) : MStmt → MStmt
  | .plain s => .plain s
  | .emitF e => .emitF (e.renameFn ρf)
  | .include_ n => .include_ (ρm n)

theorem execM_rename (ρf ρm : Text → Text) (hf : ∀ a b, ρf a = ρf b → a = b) (hm : ∀ a b, ρm a = ρm b → a = b)
    (funs : FunDefs) (mixins : MixDefs) (p : List MStmt) (s : State) :
    execM (renKeys ρf funs) (renKeys ρm mixins) s (p.map (MStmt.renameCallables ρf ρm)) = execM funs mixins s p := by
  induction p generalizing s with
  | nil => rfl
  | cons st rest ih =>
    cases st with
    | plain t =>
      simp only [List.map_cons, MStmt.renameCallables, execM]
      cases exec s [t] with
      | none => rfl
      | some s' => exact ih s'
    | emitF e =>
      simp only [List.map_cons, MStmt.renameCallables, execM, evalF_renameFn ρf hf]
      cases evalF funs s.env e with
      | none => rfl
      | some v => exact ih _
    | include_ n =>
      simp only [List.map_cons, MStmt.renameCallables, execM, assoc_renKeys ρm hm]
      cases assoc mixins n with
      | none => rfl
      | some body =>
        -- reduce the `match` on `some body`
        simp only []
        cases exec s body with
        | none => rfl
        | some s' => exact ih s'

end Rewrite
