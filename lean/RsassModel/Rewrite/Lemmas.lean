/- C35 — definitions and lemmas for the renaming and import-inlining theorems (proof side only;
nothing here is used by the driver). -/
import RsassModel.Rewrite.Model
namespace Rewrite

def Expr.rename (ρ : Text → Text) : Expr → Expr
  | .num n => .num n
  | .var x => .var (ρ x)
  | .add a b => .add (a.rename ρ) (b.rename ρ)
  | .mul a b => .mul (a.rename ρ) (b.rename ρ)
  | .pair a b => .pair (a.rename ρ) (b.rename ρ)

def Stmt.rename (ρ : Text → Text) : Stmt → Stmt
  | .assign x e => .assign (ρ x) (e.rename ρ)
  | .emit e => .emit (e.rename ρ)
  | .debug e => .debug (e.rename ρ)
  | .warn e => .warn (e.rename ρ)

def renEnv (ρ : Text → Text) (env : Env) : Env := env.map fun p => (ρ p.1, p.2)

def State.rename (ρ : Text → Text) (s : State) : State := ⟨renEnv ρ s.env, s.out⟩

theorem find?_map_key {β : Type} (ρ : Text → Text) (hρ : ∀ a b, ρ a = ρ b → a = b)
    (l : List (Text × β)) (x : Text) :
    ((l.map fun p => (ρ p.1, p.2)).find? fun p => p.1 = ρ x).map (·.2)
      = (l.find? fun p => p.1 = x).map (·.2) := by
  induction l with
  | nil => rfl
  | cons p ps ih =>
    simp only [List.map_cons, List.find?_cons] at ih ⊢
    by_cases h : p.1 = x
    · simp [h]
    · have : ρ p.1 ≠ ρ x := fun e => h (hρ _ _ e)
      simp only [h, this, decide_false]
      exact ih

theorem get_renEnv (ρ : Text → Text) (hρ : ∀ a b, ρ a = ρ b → a = b) (env : Env) (x : Text) :
    Env.get (renEnv ρ env) (ρ x) = Env.get env x :=
  find?_map_key ρ hρ env x

theorem eval_rename (ρ : Text → Text) (hρ : ∀ a b, ρ a = ρ b → a = b) (env : Env) (e : Expr) :
    eval (renEnv ρ env) (e.rename ρ) = eval env e := by
  induction e with
  | num n => rfl
  | var x => simp only [Expr.rename, eval]; exact get_renEnv ρ hρ env x
  | add a b iha ihb | mul a b iha ihb | pair a b iha ihb => simp only [Expr.rename, eval, iha, ihb]

/-- the expression a statement evaluates -/
def Stmt.expr : Stmt → Expr
  | .assign _ e | .emit e | .debug e | .warn e => e

/-- what its value does to the state -/
def Stmt.step (s : State) (v : Val) : Stmt → State
  | .assign x _ => { s with env := (x, v) :: s.env }
  | .emit _ => { s with out := s.out ++ [v] }
  | .debug _ | .warn _ => s

theorem exec_cons (s : State) (st : Stmt) (rest : List Stmt) :
    exec s (st :: rest) = (eval s.env st.expr).bind fun v => exec (st.step s v) rest := by
  cases st <;> simp only [exec, Stmt.expr, Stmt.step] <;> cases eval s.env _ <;> rfl

theorem exec_rename (ρ : Text → Text) (hρ : ∀ a b, ρ a = ρ b → a = b) (p : List Stmt) (s : State) :
    exec (s.rename ρ) (p.map (Stmt.rename ρ)) = (exec s p).map (State.rename ρ) := by
  induction p generalizing s with
  | nil => rfl
  | cons st rest ih =>
    have he : (st.rename ρ).expr = st.expr.rename ρ := by cases st <;> rfl
    have hs : ∀ v, (st.rename ρ).step (s.rename ρ) v = (st.step s v).rename ρ := by
      intro v
      cases st <;> rfl
    rw [List.map_cons, exec_cons, exec_cons, he]
    simp only [State.rename, eval_rename ρ hρ]
    cases eval s.env st.expr with
    | none => rfl
    -- `(e :)`: the goal matches `e` only after unfolding `State.rename`
    | some v => exact (hs v ▸ ih (st.step s v) :)

/-! ## @import of a partial -/

theorem exec_append (s : State) (a b : List Stmt) :
    exec s (a ++ b) = (exec s a).bind fun s' => exec s' b := by
  induction a generalizing s with
  | nil => rfl
  | cons st rest ih =>
    rw [List.cons_append, exec_cons, exec_cons]
    cases eval s.env st.expr with
    | none => rfl
    | some v => exact ih _

/-- a top-level statement: a plain one, or `@import "partial"` of a file holding `frag` -/
inductive TStmt where
  | plain (s : Stmt)
  | imp (frag : List Stmt)

/-- `Item::Import` as specified: the items of the imported file run in the importing scope, in
place, writing to the same output -/
def execT (s : State) : List TStmt → Option State
  | [] => some s
  | .plain st :: rest => (exec s [st]).bind fun s' => execT s' rest
  | .imp frag :: rest => (exec s frag).bind fun s' => execT s' rest

/-- the program with every partial written out in place -/
def inlineImports : List TStmt → List Stmt
  | [] => []
  | .plain st :: rest => st :: inlineImports rest
  | .imp frag :: rest => frag ++ inlineImports rest

theorem inlineImports_map_plain (l : List Stmt) : inlineImports (l.map .plain) = l := by
  induction l with
  | nil => rfl
  | cons x xs ih => simp [inlineImports, ih]

theorem inlineImports_append (a b : List TStmt) :
    inlineImports (a ++ b) = inlineImports a ++ inlineImports b := by
  induction a with
  | nil => rfl
  | cons t ts ih => cases t <;> simp [inlineImports, ih]

end Rewrite
