/-
C11 — normal form of `UnitSet::simplify`: among the entries that survive (non-zero
exponent) no two units are convertible.  Core Lean only.
-/
import RsassModel.Units.Lemmas
namespace Units
open UNum

/-- two units are convertible: `Unit::scale_to` answers `Some` -/
def conv (q : UQuirks) (u v : U) : Bool := decide (u = v) || decide (dimension q u = dimension q v)

theorem conv_symm (q : UQuirks) (u v : U) : conv q u v = conv q v u := by
  simp only [conv, eq_comm]

variable {α : Type} [UNum α]

theorem scaleTo_eq_none_iff (q : UQuirks) (u v : U) :
    scaleTo (α := α) q u v = none ↔ conv q u v = false := by
  unfold scaleTo conv
  by_cases h1 : u = v
  · simp [h1]
  · by_cases h2 : dimension q u = dimension q v <;> simp [h1, h2]

/-- positional relation between the set before and after a loop of `simplify`: same units in
the same places, and an exponent that was zero stays zero -/
inductive Keeps : UnitSet → UnitSet → Prop
  | nil : Keeps [] []
  | cons {u : U} {p p' : Int} {a b : UnitSet} : (p = 0 → p' = 0) → Keeps a b → Keeps ((u, p) :: a) ((u, p') :: b)

theorem Keeps.refl : ∀ s : UnitSet, Keeps s s
  | [] => .nil
  | (_, _) :: s => .cons id (Keeps.refl s)

theorem Keeps.trans {a b c : UnitSet} (h1 : Keeps a b) (h2 : Keeps b c) : Keeps a c := by
  induction h1 generalizing c with
  | nil => exact h2
  | cons hp _ ih =>
    cases h2 with
    | cons hp' h2' => exact .cons (fun e => hp' (hp e)) (ih h2')

theorem Keeps.length_eq {a b : UnitSet} (h : Keeps a b) : a.length = b.length := by
  induction h with
  | nil => rfl
  | cons _ _ ih => exact congrArg (· + 1) ih

theorem Keeps.nonzero_imp {a b : UnitSet} (h : Keeps a b) (P : U → Prop)
    (ha : ∀ x ∈ a, x.2 ≠ 0 → P x.1) : ∀ y ∈ b, y.2 ≠ 0 → P y.1 := by
  induction h with
  | nil => exact ha
  | cons hp _ ih =>
    rw [List.forall_mem_cons] at ha ⊢
    exact ⟨fun h0 => ha.1 fun e => h0 (hp e), ih ha.2⟩

theorem simpInner_zero (q : UQuirks) (au : U) (ap : Int) (bs : UnitSet) (f : α) (h : ap = 0) :
    (simpInner q au ap bs f).1 = 0 := by
  fun_induction simpInner q au ap bs f with
  | case1 => exact h
  | case2 _ _ bp _ _ _ _ hgt =>
    subst h
    exact absurd hgt (Nat.not_lt_zero bp.natAbs)
  | case3 _ _ _ _ _ _ _ _ _ ih => exact ih rfl
  | case4 _ _ _ _ _ _ _ ih => exact ih h

theorem simpInner_keeps (q : UQuirks) (au : U) (ap : Int) (bs : UnitSet) (f : α) :
    Keeps bs (simpInner q au ap bs f).2.1 := by
  fun_induction simpInner q au ap bs f with
  | case1 => exact .nil
  | case2 _ _ _ _ _ _ _ _ _ ih => exact .cons (fun _ => rfl) ih
  | case3 _ _ _ _ _ _ hs _ _ ih => exact .cons (fun e => absurd e (Option.ite_none_right_eq_some.mp hs).1) ih
  | case4 _ _ _ _ _ _ _ ih => exact .cons id ih

/-- if the head `(au, ap)` survives its inner loop, every surviving later entry is not
convertible with `au` -/
theorem simpInner_clean (q : UQuirks) (au : U) (ap : Int) (bs : UnitSet) (f : α)
    (h : (simpInner q au ap bs f).1 ≠ 0) :
    ∀ y ∈ (simpInner q au ap bs f).2.1, y.2 ≠ 0 → conv q y.1 au = false := by
  fun_induction simpInner q au ap bs f with
  | case1 => exact fun y hy => nomatch hy
  | case2 _ _ _ _ _ _ _ _ _ ih =>
    rw [List.forall_mem_cons]
    exact ⟨fun h0 => absurd rfl h0, ih h⟩
  | case3 => exact absurd (simpInner_zero q au 0 _ _ rfl) h
  | case4 _ bu bp _ _ hs _ ih =>
    rw [List.forall_mem_cons]
    refine ⟨fun h0 => ?_, ih h⟩
    rw [if_pos h0] at hs
    exact (scaleTo_eq_none_iff q bu au).mp hs

theorem simpLoop_keeps (q : UQuirks) (n : Nat) (us : UnitSet) (f : α) :
    Keeps us (simpLoop q n us f).1 := by
  fun_induction simpLoop q n us f with
  | case1 us => exact Keeps.refl us
  | case2 => exact .nil
  | case3 n au ap rest f r t ih =>
    have hr : (ap = 0 → r.1 = 0) ∧ Keeps rest r.2.1 := by
      dsimp only [r]
      split
      · next h0 => exact ⟨fun e => absurd e h0, simpInner_keeps q au ap rest f⟩
      · exact ⟨id, Keeps.refl rest⟩
    exact .cons hr.1 (hr.2.trans ih)

/-- among non-zero entries, a later unit is never convertible with an earlier one -/
def Clean (q : UQuirks) (l : UnitSet) : Prop :=
  l.Pairwise fun a b => a.2 ≠ 0 → b.2 ≠ 0 → conv q b.1 a.1 = false

theorem simpLoop_clean (q : UQuirks) (n : Nat) (us : UnitSet) (f : α) (hn : us.length ≤ n) :
    Clean q (simpLoop q n us f).1 := by
  fun_induction simpLoop q n us f with
  | case1 us =>
    rw [List.eq_nil_of_length_eq_zero (Nat.le_zero.mp hn)]
    exact .nil
  | case2 => exact .nil
  | case3 n au ap rest f r t ih =>
    have hr : r.2.1.length = rest.length ∧
        (r.1 ≠ 0 → ∀ y ∈ r.2.1, y.2 ≠ 0 → conv q y.1 au = false) := by
      dsimp only [r]
      split
      · exact ⟨(simpInner_keeps q au ap rest f).length_eq.symm, simpInner_clean q au ap rest f⟩
      · next h0 => exact ⟨rfl, fun h => absurd (Decidable.not_not.mp h0) h⟩
    -- the inner loop leaves nothing convertible with a surviving head (`hr.2`), and the rest of
    -- the outer loop only lowers exponents in place (`simpLoop_keeps`)
    refine List.Pairwise.cons (fun b hb ha hb0 => ?_) (ih (by rw [hr.1]; exact Nat.le_of_succ_le_succ hn))
    exact (simpLoop_keeps q n r.2.1 r.2.2).nonzero_imp (fun u => conv q u au = false) (hr.2 ha) b hb hb0

theorem simpInner_id (q : UQuirks) (au : U) (ap : Int) (bs : UnitSet) (f : α)
    (h : ∀ y ∈ bs, conv q y.1 au = false) : simpInner q au ap bs f = (ap, bs, f) := by
  have hnone (bu : U) (bp : Int) (s : α) (hb : conv q bu au = false)
      (hs : (if bp ≠ 0 then scaleTo (α := α) q bu au else none) = some s) : False := by
    rw [(scaleTo_eq_none_iff q bu au).mpr hb, ite_self] at hs
    cases hs
  fun_induction simpInner q au ap bs f with
  | case1 => rfl
  | case2 _ bu bp _ _ s hs => exact (hnone bu bp s (h _ List.mem_cons_self) hs).elim
  | case3 _ bu bp _ _ s hs => exact (hnone bu bp s (h _ List.mem_cons_self) hs).elim
  | case4 _ _ _ _ _ _ r ih =>
    simp only [r, ih fun y hy => h y (List.mem_cons_of_mem _ hy)]

theorem simpLoop_id (q : UQuirks) (n : Nat) (us : UnitSet) (f : α)
    (h : us.Pairwise fun a b => conv q b.1 a.1 = false) : simpLoop q n us f = (us, f) := by
  fun_induction simpLoop q n us f with
  | case1 => rfl
  | case2 => rfl
  | case3 n au ap rest f r t ih =>
    have hh := List.pairwise_cons.mp h
    have hr : r = (ap, rest, f) := by
      dsimp only [r]
      split
      · exact simpInner_id q au ap rest f hh.1
      · rfl
    simp only [t, hr] at ih ⊢
    rw [ih hh.2]

theorem dropZero_id (s : UnitSet) (h : ∀ x ∈ s, x.2 ≠ 0) : dropZero s = s :=
  List.filter_eq_self.mpr fun x hx => decide_eq_true (h x hx)

end Units
