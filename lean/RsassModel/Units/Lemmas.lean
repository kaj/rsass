/-
C11 — helper lemmas about the unit-set model (core Lean only): dimension exponents are
additive under `Mul`/`Div` and invariant under `simplify`; `+`, `-` and comparison on two
single units; properties of all pairs of known units and of tables by evaluation.
-/
import RsassModel.Units.Spec
namespace Units
open UNum

theorem expo_bump (q : UQuirks) (d : Dim) (u : U) (p : Int) (s : UnitSet) :
    expo q d (bump u p s) = expo q d s + (if dimension q u = d then p else 0) := by
  induction s with
  | nil => simp [bump, expo]
  | cons x rest ih =>
    obtain ⟨lu, lp⟩ := x
    simp only [bump]
    split
    · next h => subst h; simp only [expo]; split <;> omega
    · simp only [expo, ih]; omega

theorem expo_dropZero (q : UQuirks) (d : Dim) (s : UnitSet) :
    expo q d (dropZero s) = expo q d s := by
  induction s with
  | nil => simp [dropZero, expo]
  | cons x rest ih =>
    obtain ⟨u, p⟩ := x
    unfold dropZero at ih ⊢
    rw [List.filter_cons]
    by_cases hp : p = 0
    · subst hp; simp only [expo]; simpa using ih
    · simp only [hp, ne_eq, not_false_eq_true, decide_true, if_true, expo, ih]

theorem expo_setMul (q : UQuirks) (d : Dim) (a b : UnitSet) :
    expo q d (setMul a b) = expo q d a + expo q d b := by
  rw [setMul, expo_dropZero]
  induction b generalizing a with
  | nil => simp [expo]
  | cons x rest ih =>
    simp only [List.foldl, ih, expo_bump, expo]
    omega

theorem setDiv_eq_setMul (a b : UnitSet) : setDiv a b = setMul a (b.map fun x => (x.1, -x.2)) := by
  simp only [setDiv, setMul, List.foldl_map]

theorem expo_neg (q : UQuirks) (d : Dim) (b : UnitSet) :
    expo q d (b.map fun x => (x.1, -x.2)) = -expo q d b := by
  induction b with
  | nil => rfl
  | cons x rest ih =>
    simp only [List.map, expo, ih]
    split <;> omega

theorem expo_setDiv (q : UQuirks) (d : Dim) (a b : UnitSet) :
    expo q d (setDiv a b) = expo q d a - expo q d b := by
  rw [setDiv_eq_setMul, expo_setMul, expo_neg]
  omega

variable {α : Type} [UNum α]

theorem scaleTo_some_dim (q : UQuirks) (u v : U) (s : α) (h : scaleTo q u v = some s) :
    dimension q u = dimension q v := by
  unfold scaleTo at h
  split at h
  · next e => rw [e]
  · split at h
    · assumption
    · cases h

/-- the inner loop moves exponents only between units of one dimension -/
theorem simpInner_expo (q : UQuirks) (d : Dim) (au : U) (ap : Int) (bs : UnitSet) (f : α) :
    expo q d ((au, (simpInner q au ap bs f).1) :: (simpInner q au ap bs f).2.1)
      = expo q d ((au, ap) :: bs) := by
  fun_induction simpInner q au ap bs f with
  | case1 => rfl
  | case2 ap bu bp bs f s hs hgt r ih =>
    have hdim := scaleTo_some_dim q bu au s (Option.ite_none_right_eq_some.mp hs).2
    by_cases hd : dimension q au = d <;>
      simp only [expo, hdim, hd, if_true, if_false, r] at ih ⊢ <;>
      omega
  | case3 ap bu bp bs f s hs hgt r ih =>
    have hdim := scaleTo_some_dim q bu au s (Option.ite_none_right_eq_some.mp hs).2
    by_cases hd : dimension q au = d <;>
      simp only [expo, hdim, hd, if_true, if_false, r] at ih ⊢ <;>
      omega
  | case4 ap bu bp bs f hs r ih =>
    simp only [expo, r] at ih ⊢
    omega

theorem simpLoop_expo (q : UQuirks) (d : Dim) (n : Nat) (us : UnitSet) (f : α) :
    expo q d (simpLoop q n us f).1 = expo q d us := by
  fun_induction simpLoop q n us f with
  | case1 => rfl
  | case2 => rfl
  | case3 n au ap rest f r t ih =>
    have hr : expo q d ((au, r.1) :: r.2.1) = expo q d ((au, ap) :: rest) := by
      dsimp only [r]
      split
      · exact simpInner_expo q d au ap rest f
      · rfl
    simp only [expo, ih, t] at hr ⊢
    exact hr

theorem simplify_expo (q : UQuirks) (d : Dim) (us : UnitSet) :
    expo q d (simplify (α := α) q us).1 = expo q d us := by
  rw [simplify, expo_dropZero, simpLoop_expo]

/-! `u ≠ U.known KU.none` below is what `C11.real u` abbreviates. -/

theorem isNone_single (u : U) (h : u ≠ U.known KU.none) : isNone [(u, 1)] = false := by
  simpa [isNone] using h

theorem single_ne {u v : U} (hne : u ≠ v) : ([(u, (1 : Int))] : UnitSet) ≠ [(v, 1)] := by
  simpa using hne

theorem setScaleTo_single (q : UQuirks) (u v : U) :
    setScaleTo (α := α) q [(v, 1)] [(u, 1)] = scaleTo q v u := by
  simp [setScaleTo, setScaleToUnit]

theorem addSub_single (q : UQuirks) (f : α → α → α) (x y : α) (u v : U) (hu : u ≠ U.known KU.none) (hv : v ≠ U.known KU.none)
    (hne : u ≠ v) :
    numAddSub q f ⟨x, [(u, 1)]⟩ ⟨y, [(v, 1)]⟩
      = match scaleTo (α := α) q v u with
        | some r => .num ⟨f x (mul y r), [(u, 1)]⟩
        | none => if q.incompatKept then .kept else .err := by
  simp only [numAddSub, single_ne hne, isNone_single _ hu, isNone_single _ hv, asUnitset, setScaleTo_single,
    decide_false, Bool.or_self, Bool.false_eq_true, if_false]
  cases scaleTo (α := α) q v u <;> rfl

theorem cmp_single (q : UQuirks) (x y : α) (u v : U) (hu : u ≠ U.known KU.none) (hv : v ≠ U.known KU.none) (hne : u ≠ v) :
    numCmp q ⟨x, [(u, 1)]⟩ ⟨y, [(v, 1)]⟩
      = match scaleTo (α := α) q v u with
        | some r => .ord (cmpBothWays (cmp x (mul y r))
            (match scaleTo (α := α) q u v with
             | some r' => cmp (mul x r') y == some .eq
             | none => false))
        | none => .incompat := by
  simp only [numCmp, single_ne hne, isNone_single _ hu, isNone_single _ hv, asUnitset, setScaleTo_single,
    if_false, Bool.or_self, Bool.false_eq_true]
  cases scaleTo (α := α) q v u <;> cases scaleTo (α := α) q u v <;> rfl

theorem incompatible_outcome (q : UQuirks) (x y : α) (u v : U) (hu : u ≠ U.known KU.none) (hv : v ≠ U.known KU.none) (hne : u ≠ v)
    (h : scaleTo (α := α) q v u = none) :
    numAdd q ⟨x, [(u, 1)]⟩ ⟨y, [(v, 1)]⟩ = (if q.incompatKept then .kept else .err)
      ∧ numSub q ⟨x, [(u, 1)]⟩ ⟨y, [(v, 1)]⟩ = (if q.incompatKept then .kept else .err)
      ∧ ∀ want, numOrd q want ⟨x, [(u, 1)]⟩ ⟨y, [(v, 1)]⟩
          = if q.cmpIncompatFalse then .bool false else .err := by
  refine ⟨?_, ?_, fun want => ?_⟩
  · rw [numAdd, addSub_single q _ x y u v hu hv hne, h]
  · rw [numSub, addSub_single q _ x y u v hu hv hne, h]
  · rw [numOrd, cmp_single q x y u v hu hv hne, h]

/-- a property of pairs of known units that evaluation confirms on `KU.all × KU.all` -/
theorem KU.forall₂ {p : KU → KU → Bool} (h : (KU.all.all fun u => KU.all.all fun v => p u v) = true)
    (u v : KU) : p u v = true := by
  have mem (k : KU) : k ∈ KU.all := List.mem_of_getElem? (i := k.ctorIdx) (by cases k <;> rfl)
  exact List.all_eq_true.mp (List.all_eq_true.mp h u (mem u)) v (mem v)

theorem tableAll_mono {ok ok' : KU → KU → Option Nat → Bool}
    (h : ∀ u v e, ok u v e = true → ok' u v e = true) {t : Table} (ht : tableAll ok t = true) :
    tableAll ok' t = true := by
  simp only [tableAll, Bool.and_eq_true, List.all_eq_true] at ht ⊢
  exact ⟨ht.1, fun ur hur => ⟨(ht.2 ur hur).1, fun ve hve => h _ _ _ ((ht.2 ur hur).2 ve hve)⟩⟩

end Units
