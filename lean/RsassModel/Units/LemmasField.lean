/-
C11 — `simplify`, `Mul` and `Div` preserve the quantity (value × Π factor^exponent) when
the numbers are a field of characteristic 0 (exact arithmetic).  Proof file: imports
single Mathlib modules; never imported by the driver.
-/
import Mathlib.Algebra.Field.Basic
import Mathlib.Algebra.CharZero.Defs
import Mathlib.Tactic.Ring
import RsassModel.Units.Lemmas
namespace Units
open UNum

/-- exact arithmetic in a field; `p` stands for `1/(2π)`; `c` is any comparison -/
@[reducible] def fieldNum (K : Type) [Field K] (p : K) (c : K → K → Option Ordering) : UNum K where
  ofNat n := (n : K)
  add := (· + ·)
  sub := (· - ·)
  mul := (· * ·)
  div := (· / ·)
  neg := fun x => -x
  invTwoPi := p
  powi := fun x n => x ^ n
  cmp := c

variable {K : Type} [Field K]

section
variable (p : K) (c : K → K → Option Ordering)

@[simp] theorem f_mul (a b : K) : @UNum.mul K (fieldNum K p c) a b = a * b := rfl
@[simp] theorem f_div (a b : K) : @UNum.div K (fieldNum K p c) a b = a / b := rfl
@[simp] theorem f_powi (a : K) (n : Int) : @UNum.powi K (fieldNum K p c) a n = a ^ n := rfl
@[simp] theorem f_ofNat (n : Nat) : @UNum.ofNat K (fieldNum K p c) n = (n : K) := rfl
@[simp] theorem f_invTwoPi : @UNum.invTwoPi K (fieldNum K p c) = p := rfl

/-- `factor` at the instance `fieldNum` -/
def fac (u : U) : K := @factor K (fieldNum K p c) u

/-- Π factor(u)^exponent; `C11.quantity` of a number is its value times this -/
def qty : UnitSet → K
  | [] => 1
  | (u, e) :: rest => fac p c u ^ e * qty rest

theorem fac_ne_zero [CharZero K] (hp : p ≠ 0) (u : U) : fac p c u ≠ 0 := by
  have n (a : Nat) : ((a + 1 : Nat) : K) ≠ 0 := Nat.cast_ne_zero.mpr (Nat.succ_ne_zero a)
  have d (a b : Nat) : ((a + 1 : Nat) : K) / ((b + 1 : Nat) : K) ≠ 0 := div_ne_zero (n a) (n b)
  cases u with
  | unknown _ => exact n 0
  | known k =>
    cases k
    -- every factor is `1/(2π)` (rad), a positive integer, or a quotient of two
    all_goals dsimp only [fac, factor, f_div, f_ofNat, f_invTwoPi]
    case rad => exact hp
    all_goals first | exact n _ | exact d _ _

theorem scaleTo_val (hF : ∀ u, fac p c u ≠ 0) (q : UQuirks) (u v : U) (s : K)
    (h : @scaleTo K (fieldNum K p c) q u v = some s) : s = fac p c u / fac p c v := by
  unfold scaleTo at h
  split at h
  · next e =>
    cases h
    rw [e, div_self (hF v)]
    exact Nat.cast_one
  · split at h
    · cases h
      rfl
    · cases h

/-- moving `n` from the exponent of `b` to that of `a` costs the factor `(b / a) ^ n` -/
theorem shift_zpow {a b : K} (ha : a ≠ 0) (m n : Int) :
    (b / a) ^ n * a ^ (m + n) = a ^ m * b ^ n := by
  rw [div_zpow, zpow_add₀ ha, mul_comm (a ^ m), ← mul_assoc, div_mul_cancel₀ _ (zpow_ne_zero n ha),
    mul_comm]

/-- the inner loop keeps factor × quantity of the head and the later units -/
theorem simpInner_qty (hF : ∀ u, fac p c u ≠ 0) (q : UQuirks) (au : U) (ap : Int)
    (bs : UnitSet) (f : K) :
    (@simpInner K (fieldNum K p c) q au ap bs f).2.2
        * qty p c ((au, (@simpInner K (fieldNum K p c) q au ap bs f).1)
            :: (@simpInner K (fieldNum K p c) q au ap bs f).2.1)
      = f * qty p c ((au, ap) :: bs) := by
  fun_induction @simpInner K (fieldNum K p c) q au ap bs f with
  | case1 ap f => rfl
  | case2 ap bu bp bs f s hs hgt r ih =>
    have hs := scaleTo_val p c hF q bu au s (Option.ite_none_right_eq_some.mp hs).2
    simp only [qty, zpow_zero, one_mul] at ih ⊢
    rw [ih, f_mul, f_powi, hs, mul_assoc f, ← mul_assoc (_ ^ bp), shift_zpow (hF au), mul_assoc]
  | case3 ap bu bp bs f s hs hgt r ih =>
    -- the head's whole exponent moves to `bu`: dividing by `s ^ ap` is multiplying by
    -- `(F au / F bu) ^ ap`, which `shift_zpow` trades for `F bu ^ ap` against `F au ^ ap`
    have hs := scaleTo_val p c hF q bu au s (Option.ite_none_right_eq_some.mp hs).2
    simp only [qty, zpow_zero, one_mul] at ih ⊢
    rw [mul_left_comm (_ ^ r.1), mul_left_comm r.2.2, ih, f_div, f_powi, hs, div_eq_mul_inv f,
      ← inv_zpow, inv_div, ← mul_assoc (fac p c au ^ ap), mul_comm (fac p c au ^ ap),
      ← shift_zpow (hF bu)]
    ring
  | case4 ap bu bp bs f hs r ih =>
    simp only [qty] at ih ⊢
    rw [mul_left_comm (_ ^ r.1), mul_left_comm r.2.2, ih]
    ring

theorem simpLoop_qty (hF : ∀ u, fac p c u ≠ 0) (q : UQuirks) (n : Nat) (us : UnitSet) (f : K) :
    (@simpLoop K (fieldNum K p c) q n us f).2 * qty p c (@simpLoop K (fieldNum K p c) q n us f).1
      = f * qty p c us := by
  fun_induction @simpLoop K (fieldNum K p c) q n us f with
  | case1 us f => rfl
  | case2 n f => rfl
  | case3 n au ap rest f r t ih =>
    have hr : r.2.2 * qty p c ((au, r.1) :: r.2.1) = f * qty p c ((au, ap) :: rest) := by
      dsimp only [r]
      split
      · exact simpInner_qty p c hF q au ap rest f
      · rfl
    simp only [qty] at hr ⊢
    rw [mul_left_comm, ih, mul_left_comm, hr]

theorem qty_dropZero (s : UnitSet) : qty p c (dropZero s) = qty p c s := by
  induction s with
  | nil => rfl
  | cons x rest ih =>
    obtain ⟨u, e⟩ := x
    unfold dropZero at ih ⊢
    rw [List.filter_cons]
    by_cases he : e = 0
    · subst he
      simpa [qty] using ih
    · simp only [he, ne_eq, not_false_eq_true, decide_true, if_true, qty, ih]

theorem qty_bump (hF : ∀ u, fac p c u ≠ 0) (u : U) (e : Int) (s : UnitSet) :
    qty p c (bump u e s) = qty p c s * fac p c u ^ e := by
  induction s with
  | nil => simp [bump, qty]
  | cons x rest ih =>
    obtain ⟨lu, lp⟩ := x
    simp only [bump]
    split
    · next h =>
      subst h
      simp only [qty]
      rw [zpow_add₀ (hF lu), mul_right_comm]
    · simp only [qty, ih, mul_assoc]

theorem qty_setMul (hF : ∀ u, fac p c u ≠ 0) (a b : UnitSet) :
    qty p c (setMul a b) = qty p c a * qty p c b := by
  rw [setMul, qty_dropZero]
  induction b generalizing a with
  | nil => simp [qty]
  | cons x rest ih =>
    simp only [List.foldl, ih, qty_bump p c hF, qty, mul_assoc]

theorem qty_neg (b : UnitSet) :
    qty p c (b.map fun x => (x.1, -x.2)) = (qty p c b)⁻¹ := by
  induction b with
  | nil => simp [qty]
  | cons x rest ih => simp only [List.map, qty, ih, zpow_neg, mul_inv_rev, mul_comm]

theorem qty_setDiv (hF : ∀ u, fac p c u ≠ 0) (a b : UnitSet) :
    qty p c (setDiv a b) = qty p c a / qty p c b := by
  rw [setDiv_eq_setMul, qty_setMul p c hF, qty_neg, div_eq_mul_inv]

end
end Units
