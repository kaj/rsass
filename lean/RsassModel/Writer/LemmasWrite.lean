/-
Writer family (C07) — the balance invariant through the `write` functions, by mutual
structural recursion over the tree.
-/
import RsassModel.Writer.LemmasBalance
namespace Writer

theorem cmtOk_scan {a : Bytes} (ha : cmtOk a = true) :
    ∃ m, (m = Mode.cmt ∨ m = Mode.cmtStar) ∧ scanFrom ⟨.cmt, [], true⟩ a = ⟨m, [], true⟩ := by
  unfold cmtOk at ha
  generalize scanFrom ⟨.cmt, [], true⟩ a = s at ha
  obtain ⟨m, stk, ok⟩ := s
  simp at ha
  obtain ⟨⟨h1, h2⟩, h3⟩ := ha
  subst h2
  subst h3
  exact ⟨m, h1, rfl⟩

theorem bnd_semi {st} {b : Buf} (s : Style) (h : Nrm st b.rev) :
    Bnd s st (b.addOne s [59, 10] [59]).rev :=
  bnd_addOne s (fun p => neutral_semi_nl p st) (fun p => neutral_semi p st) (fun h => by cases h) h

theorem writeComment_bnd (q : WQuirks) (s : Style) (text : Bytes) {st} {b : Buf}
    (h : Bnd s st b.rev)
    (hok : (skipComment text || cmtOk (commentText q s b.indent text)) = true) :
    Bnd s st (writeComment q s text b).rev ∧ (writeComment q s text b).indent = b.indent := by
  unfold writeComment
  split
  · refine ⟨?_, addOne_indent _ _ _ _⟩
    cases s
    · exact ⟨nrm0_addStr_neutral neutral_nl h.1.nrm, by intro h; cases h⟩
    · simpa [Buf.addOne, Bnd, Nrm0, addStr_rev] using h
  · next hne =>
    simp only [hne, Bool.false_or] at hok
    obtain ⟨m, hm, hscan⟩ := cmtOk_scan hok
    refine ⟨?_, by simp [addOne_indent, addStr_indent, doIndentNoNl_indent]⟩
    -- `/*` leads into the comment, the text stays in it, `*/` leads out again
    have h3 : scanR (((b.doIndentNoNl s).addStr [47, 42]).addStr (commentText q s b.indent text)).rev
        = ⟨m, st, true⟩ := by
      rw [addStr_rev, scanR_append, addStr_rev, scanR_append, doIndentNoNl_nrm0 s h.1]
      exact scanFrom_frame .cmt m [] [] st _ hscan
    rcases hm with rfl | rfl <;>
      exact bnd_addOne_scan s (by rw [h3]; rfl) (by rw [h3]; rfl) (fun h => by cases h)

theorem atArgs_ok (q : WQuirks) (s : Style) {a : Atom} (h : atomOk (a.get s) = true) :
    atomOk (atArgsText q s a) = true := by
  unfold atArgsText
  split
  · exact atomOk_map_nl h
  · exact h

theorem writeAtHead_nrm (q : WQuirks) (s : Style) (name : Bytes) (args : Option Atom) {st} {b : Buf}
    (h : Bnd s st b.rev) (hn : atomOk name = true) (ha : optAtomOk s args = true) :
    Nrm st (writeAtHead q s name args b).rev ∧ (writeAtHead q s name args b).indent = b.indent := by
  unfold writeAtHead
  have h1 := doIndentNoNl_nrm0 s h.1
  have h2 := nrm0_addStr_neutral neutral_at h1.nrm
  have h3 := nrm_addStr_atom hn h2
  cases args with
  | none => exact ⟨h3, by simp [addStr_indent, doIndentNoNl_indent]⟩
  | some a =>
    have h4 := nrm0_addStr_neutral neutral_sp h3
    have h5 := nrm_addStr_atom (atArgs_ok q s (by simpa [optAtomOk] using ha)) h4
    exact ⟨h5, by simp [addStr_indent, doIndentNoNl_indent]⟩

/-- a block after a head that left the indentation at `i` -/
theorem block_bnd (q : WQuirks) (s : Style) (body : Nodes) {st} {b2 : Buf} {i : Nat}
    (h2 : Nrm st b2.rev) (hi2 : b2.indent = i)
    (ih : ∀ (b : Buf) (st : List Br), Bnd s st b.rev → nodesOk q s b.indent body = true →
      Bnd s st (writeNodes q s body b).rev ∧ (writeNodes q s body b).indent = b.indent)
    (hok : nodesOk q s (i + 2) body = true) :
    Bnd s st ((writeNodes q s body (b2.startBlock s)).endBlock s).rev ∧
      ((writeNodes q s body (b2.startBlock s)).endBlock s).indent = i := by
  subst hi2
  obtain ⟨hb, hi⟩ := startBlock_bnd s h2
  obtain ⟨hw, hwi⟩ := ih (b2.startBlock s) (.brace :: st) hb (by rw [hi]; exact hok)
  obtain ⟨he, hei⟩ := endBlock_bnd s hw
  exact ⟨he, by rw [hei, hwi, hi]; omega⟩

theorem optNl_bnd (s : Style) {st} {b : Buf} (h : Bnd s st b.rev) :
    Bnd s st (b.optNl s).rev ∧ (b.optNl s).indent = b.indent := by
  unfold Buf.optNl
  split
  · exact ⟨h, rfl⟩
  · exact ⟨h, rfl⟩
  · exact ⟨h, rfl⟩
  · exact ⟨⟨nrm0_addStr_neutral neutral_nl h.1.nrm, by intro h; cases h⟩, rfl⟩

mutual
theorem writeNode_bnd (q : WQuirks) (s : Style) : ∀ (n : Node) (b : Buf) (st : List Br),
    Bnd s st b.rev → nodeOk q s b.indent n = true →
    Bnd s st (writeNode q s n b).rev ∧ (writeNode q s n b).indent = b.indent
  | .comment text, b, st, h, hok => by
    simp only [nodeOk] at hok
    simpa only [writeNode] using writeComment_bnd q s text h hok
  | .import_ a, b, st, h, hok => by
    simp only [nodeOk] at hok
    simp only [writeNode]
    have h1 := doIndentNoNl_nrm0 s h.1
    have h2 := nrm0_addStr_neutral neutral_import h1.nrm
    have h3 := nrm_addStr_atom hok h2
    exact ⟨bnd_semi s h3, by simp [addOne_indent, addStr_indent, doIndentNoNl_indent]⟩
  | .prop name value, b, st, h, hok => by
    simp only [nodeOk, Bool.and_eq_true] at hok
    simp only [writeNode]
    have h1 := doIndentNoNl_nrm0 s h.1
    have h2 := nrm_addStr_atom hok.1 h1
    have h3 : Nrm0 st (((b.doIndentNoNl s).addStr name).addOne s [58, 32] [58]).rev := by
      cases s
      · exact nrm0_addStr_neutral neutral_colon_sp h2
      · exact nrm0_addStr_neutral neutral_colon h2
    have h4 := nrm_addStr_atom (atomOk_map_nl hok.2) h3
    exact ⟨bnd_semi s h4, by simp [addOne_indent, addStr_indent, doIndentNoNl_indent]⟩
  | .custom name value quoted, b, st, h, hok => by
    simp only [nodeOk, Bool.and_eq_true] at hok
    simp only [writeNode]
    have h1 := doIndentNoNl_nrm0 s h.1
    have h2 := nrm_addStr_atom hok.1 h1
    have h3 := nrm0_addStr_neutral neutral_colon h2
    split
    · have h5 := nrm_addStr_atom hok.2 (nrm0_addStr_neutral neutral_sp h3.nrm)
      exact ⟨bnd_semi s h5, by simp [addOne_indent, addStr_indent, doIndentNoNl_indent]⟩
    · have h5 := nrm_addStr_atom hok.2 h3
      exact ⟨bnd_semi s h5, by simp [addOne_indent, addStr_indent, doIndentNoNl_indent]⟩
  | .rule sel body, b, st, h, hok => by
    simp only [writeNode]
    split
    · exact ⟨h, rfl⟩
    · next hne =>
      cases sel with
      | none => exact ⟨h, rfl⟩
      | some a =>
        simp only [nodeOk, hne, Option.isNone_some, Bool.false_or, Bool.and_eq_true, optAtomOk] at hok
        -- an empty selector is written `*`: one text appended in either case
        simp only []
        rw [← apply_ite ((b.doIndentNoNl s).addStr)]
        have hx : atomOk (if (a.get s).isEmpty = true then [42] else a.get s) = true := by
          split
          · decide
          · exact hok.1
        exact block_bnd q s body (nrm_addStr_atom hx (doIndentNoNl_nrm0 s h.1))
          (doIndentNoNl_indent b s) (fun b st => writeNodes_bnd q s body b st) hok.2
  | .media args body, b, st, h, hok => by
    simp only [writeNode]
    split
    · exact ⟨h, rfl⟩
    · next hne =>
      simp only [nodeOk, hne, Bool.false_or, Bool.and_eq_true] at hok
      have h1 := doIndentNoNl_nrm0 s h.1
      have h2 := nrm0_addStr_neutral neutral_media h1.nrm
      have h3 := nrm_addStr_atom hok.1 h2
      exact block_bnd q s body h3 (doIndentNoNl_indent b s)
        (fun b st => writeNodes_bnd q s body b st) hok.2
  | .atLeaf name args, b, st, h, hok => by
    simp only [nodeOk, Bool.and_eq_true] at hok
    simp only [writeNode]
    have h1 := writeAtHead_nrm q s name args h hok.1 hok.2
    exact ⟨bnd_semi s h1.1, by rw [addOne_indent, h1.2]⟩
  | .atBlock name args body, b, st, h, hok => by
    simp only [nodeOk, Bool.and_eq_true] at hok
    simp only [writeNode]
    have h1 := writeAtHead_nrm q s name args h hok.1.1 hok.1.2
    cases hsc : singleComment body with
    | some c =>
      simp only [hsc] at hok ⊢
      have h2 := bnd_addOne s (opens_inline st) (opens_c st) (fun h => by cases h) h1.1
      have h3 := writeComment_bnd q s c h2 (by rw [addOne_indent, h1.2]; exact hok.2)
      have h4 := popNl_nrm h3.1.1
      exact ⟨bnd_addOne s (closes_inline st) (closes_c st) (fun h => by cases h) h4, by rw [addOne_indent, popNl_indent, h3.2, addOne_indent, h1.2]⟩
    | none =>
      simp only [hsc] at hok ⊢
      exact block_bnd q s body h1.1 h1.2 (fun b st => writeNodes_bnd q s body b st) hok.2
  | .separator, b, st, h, hok => by
    simpa only [writeNode] using optNl_bnd s h
theorem writeNodes_bnd (q : WQuirks) (s : Style) : ∀ (ns : Nodes) (b : Buf) (st : List Br),
    Bnd s st b.rev → nodesOk q s b.indent ns = true →
    Bnd s st (writeNodes q s ns b).rev ∧ (writeNodes q s ns b).indent = b.indent
  | .nil, b, st, h, _ => ⟨h, rfl⟩
  | .cons n ns, b, st, h, hok => by
    simp only [nodesOk, Bool.and_eq_true] at hok
    simp only [writeNodes]
    have h1 := writeNode_bnd q s n b st h hok.1
    have h2 := writeNodes_bnd q s ns (writeNode q s n b) st h1.1 (by rw [h1.2]; exact hok.2)
    exact ⟨h2.1, by rw [h2.2, h1.2]⟩
end

end Writer
