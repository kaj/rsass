/-
Writer family (C07) — the balance invariant through every `CssBuf` operation (helper lemmas
for `Writer/LemmasWrite.lean` and `Theorems/C07.lean`).
-/
import RsassModel.Writer.LemmasScan
namespace Writer

/-- the buffer scans to normal mode with stack `st` -/
def Nrm (st : List Br) (r : Bytes) : Prop := ∃ p, scanR r = ⟨.normal p, st, true⟩
/-- … and nothing is pending -/
def Nrm0 (st : List Br) (r : Bytes) : Prop := scanR r = ⟨.normal .none, st, true⟩
/-- Invariant at item boundaries: nothing pending, and in compressed style the buffer does not
end in a newline, so that `pop_nl` in `end_block` pops nothing and the `;` it then pops is the
last byte written. -/
def Bnd (s : Style) (st : List Br) (r : Bytes) : Prop :=
  Nrm0 st r ∧ (s = .compressed → r.head? ≠ some 10)

theorem Nrm0.nrm {st r} (h : Nrm0 st r) : Nrm st r := ⟨_, h⟩

theorem addStr_rev (b : Buf) (l : Bytes) : (b.addStr l).rev = l.reverse ++ b.rev := rfl
theorem addStr_indent (b : Buf) (l : Bytes) : (b.addStr l).indent = b.indent := rfl

theorem addOne_indent (b : Buf) (s : Style) (n c : Bytes) : (b.addOne s n c).indent = b.indent := by
  cases s <;> rfl

def Trans (st st' : List Br) (l : Bytes) : Prop :=
  ∀ p, scanFrom ⟨.normal p, st, true⟩ l = ⟨.normal .none, st', true⟩

/-- a literal piece that leaves the stack alone and ends with nothing pending -/
def Neutral (l : Bytes) : Prop :=
  ∀ p st, scanFrom ⟨.normal p, st, true⟩ l = ⟨.normal .none, st, true⟩

theorem nrm0_append {l : Bytes} {st st'} (hl : Trans st st' l) {r : Bytes} (h : Nrm st r) :
    Nrm0 st' (l.reverse ++ r) := by
  obtain ⟨p, hp⟩ := h
  rw [Nrm0, scanR_append, hp]
  exact hl p

theorem nrm0_addStr_neutral {l : Bytes} (hl : Neutral l) {st} {b : Buf} (h : Nrm st b.rev) :
    Nrm0 st (b.addStr l).rev :=
  nrm0_append (fun p => hl p st) h

theorem bnd_addOne_scan {st'} {b : Buf} (s : Style) {n c : Bytes}
    (hn : scanFrom (scanR b.rev) n = ⟨.normal .none, st', true⟩)
    (hc : scanFrom (scanR b.rev) c = ⟨.normal .none, st', true⟩)
    (hne : (c.reverse ++ b.rev).head? ≠ some 10) : Bnd s st' (b.addOne s n c).rev := by
  cases s
  · exact ⟨(scanR_append n b.rev).trans hn, fun h => by cases h⟩
  · exact ⟨(scanR_append c b.rev).trans hc, fun _ => hne⟩

theorem bnd_addOne {st st'} {b : Buf} (s : Style) {n c : Bytes} (hn : Trans st st' n)
    (hc : Trans st st' c) (hne : (c.reverse ++ b.rev).head? ≠ some 10) (h : Nrm st b.rev) :
    Bnd s st' (b.addOne s n c).rev := by
  obtain ⟨p, hp⟩ := h
  exact bnd_addOne_scan s (hp ▸ hn p) (hp ▸ hc p) hne

/-- bytes that, in normal mode, neither open nor close anything -/
def Cls.isText : Cls → Bool
  | .other | .cu | .cr | .cl => true
  | _ => false

theorem step_other {x : UInt8} (hx : cls x = .other) (p : Pend) (st : List Br) :
    step ⟨.normal p, st, true⟩ x = ⟨.normal .none, st, true⟩ := by
  unfold step
  rw [hx]

theorem scan_text {l : Bytes} (hl : ∀ x ∈ l, (cls x).isText = true) (p : Pend) (st : List Br) :
    ∃ p', scanFrom ⟨.normal p, st, true⟩ l = ⟨.normal p', st, true⟩ := by
  induction l generalizing p with
  | nil => exact ⟨p, rfl⟩
  | cons x l ih =>
    have hx := hl x List.mem_cons_self
    have : ∃ p1, step ⟨.normal p, st, true⟩ x = ⟨.normal p1, st, true⟩ := by
      unfold step
      generalize cls x = c at hx
      cases c <;> cases hx <;> cases p <;> exact ⟨_, rfl⟩
    obtain ⟨p1, h1⟩ := this
    rw [scanFrom_cons, h1]
    exact ih (fun y hy => hl y (List.mem_cons_of_mem _ hy)) p1

theorem neutral_text {l : Bytes} {x : UInt8} (hl : ∀ y ∈ l, (cls y).isText = true)
    (hx : cls x = .other) : Neutral (l ++ [x]) := by
  intro p st
  obtain ⟨p', h⟩ := scan_text hl p st
  rw [scanFrom_append, h]
  exact step_other hx p' st

theorem neutral_colon_sp : Neutral [58, 32] := neutral_text (l := [58]) (by decide) cls_sp
theorem neutral_colon : Neutral [58] := neutral_text (l := []) (by decide) (by decide)
theorem neutral_semi_nl : Neutral [59, 10] := neutral_text (l := [59]) (by decide) cls_nl
theorem neutral_semi : Neutral [59] := neutral_text (l := []) (by decide) cls_semi
theorem neutral_sp : Neutral [32] := neutral_text (l := []) (by decide) cls_sp
theorem neutral_nl : Neutral [10] := neutral_text (l := []) (by decide) cls_nl
theorem neutral_at : Neutral [64] := neutral_text (l := []) (by decide) (by decide)
theorem neutral_star : Neutral [42] → True := fun _ => trivial
theorem neutral_import : Neutral [64, 105, 109, 112, 111, 114, 116, 32] :=
  neutral_text (l := [64, 105, 109, 112, 111, 114, 116]) (by decide) cls_sp
theorem neutral_media : Neutral [64, 109, 101, 100, 105, 97, 32] :=
  neutral_text (l := [64, 109, 101, 100, 105, 97]) (by decide) cls_sp

/-! the texts `start_block`, `end_block` and the inline at-rule body write: `_e` expanded,
`_c` compressed, `_inline` the expanded ` { ` / ` }` around a single comment -/

theorem opens_e (st : List Br) : Trans st (.brace :: st) [32, 123, 10] := by
  intro p
  cases p <;> rfl
theorem opens_c (st : List Br) : Trans st (.brace :: st) [123] := by
  intro p
  cases p <;> rfl
theorem opens_inline (st : List Br) : Trans st (.brace :: st) [32, 123, 32] := by
  intro p
  cases p <;> rfl
theorem closes_e (st : List Br) : Trans (.brace :: st) st [125, 10] := by
  intro p
  cases p <;> rfl
theorem closes_c (st : List Br) : Trans (.brace :: st) st [125] := by
  intro p
  cases p <;> rfl
theorem closes_inline (st : List Br) : Trans (.brace :: st) st [32, 125, 10] := by
  intro p
  cases p <;> rfl

theorem nrm_append_text {l : Bytes} (hl : ∀ x ∈ l, (cls x).isText = true) {st} {r : Bytes}
    (h : Nrm st r) : Nrm st (l.reverse ++ r) := by
  obtain ⟨p, hp⟩ := h
  obtain ⟨p', hs⟩ := scan_text hl p st
  exact ⟨p', by rw [scanR_append, hp, hs]⟩

theorem text_spaces (k : Nat) : ∀ x ∈ List.replicate k (32 : UInt8), (cls x).isText = true := by
  intro x hx
  rw [List.eq_of_mem_replicate hx]
  rfl

theorem nrm_spaces {st} {b : Buf} (k : Nat) (h : Nrm st b.rev) :
    Nrm st (b.addStr (List.replicate k 32)).rev :=
  nrm_append_text (text_spaces k) h

theorem doIndentNoNl_eq (b : Buf) (s : Style) :
    b.doIndentNoNl s = b.addStr (if s = .expanded then List.replicate b.indent 32 else []) := by
  cases s
  · simp only [Buf.doIndentNoNl, getIndent_expanded, List.length_cons, List.length_replicate,
      List.tail_cons, if_true]
    split
    · rfl
    · have h0 : b.indent = 0 := by omega
      rw [h0]
      rfl
  · rfl

theorem doIndentNoNl_c (b : Buf) : b.doIndentNoNl .compressed = b := rfl

theorem doIndentNoNl_indent (b : Buf) (s : Style) : (b.doIndentNoNl s).indent = b.indent := by
  rw [doIndentNoNl_eq]
  rfl

theorem doIndentNoNl_nrm0 {st} {b : Buf} (s : Style) (h : Nrm0 st b.rev) :
    Nrm0 st (b.doIndentNoNl s).rev := by
  cases s
  · rw [doIndentNoNl_eq, if_pos rfl]
    cases hk : b.indent with
    | zero => exact h
    | succ k =>
      rw [List.replicate_succ']
      exact nrm0_addStr_neutral (neutral_text (text_spaces k) cls_sp) h.nrm
  · exact h

theorem doIndentNoNl_bnd {st} {b : Buf} (s : Style) (h : Bnd s st b.rev) :
    Bnd s st (b.doIndentNoNl s).rev := by
  cases s
  · exact ⟨doIndentNoNl_nrm0 _ h.1, fun h => by cases h⟩
  · exact h

theorem atomOk_scan {a : Bytes} (ha : atomOk a = true) :
    ∃ p, scanFrom St.init a = ⟨.normal p, [], true⟩ := by
  unfold atomOk at ha
  generalize scanFrom St.init a = s at ha
  obtain ⟨m, stk, ok⟩ := s
  cases m <;> simp [Mode.isNormal] at ha
  obtain ⟨h1, h2⟩ := ha
  subst h1
  subst h2
  exact ⟨_, rfl⟩

theorem nrm_addStr_atom {a : Bytes} (ha : atomOk a = true) {st} {b : Buf} (h : Nrm0 st b.rev) :
    Nrm st (b.addStr a).rev := by
  obtain ⟨p, hp⟩ := atomOk_scan ha
  exact ⟨p, by rw [addStr_rev, scanR_append, h]; exact scanFrom_frame _ _ [] [] st a hp⟩

/-! ### bytes of the same class scan alike -/

theorem step_cls {x y : UInt8} (h : cls x = cls y) (st : St) : step st x = step st y := by
  unfold step
  rw [h]

theorem scanFrom_map_cls (f : UInt8 → UInt8) (hf : ∀ x, cls (f x) = cls x) (st : St) (l : Bytes) :
    scanFrom st (l.map f) = scanFrom st l := by
  induction l generalizing st with
  | nil => rfl
  | cons x l ih => rw [List.map_cons, scanFrom_cons, scanFrom_cons, step_cls (hf x), ih]

theorem cls_nl_to_sp (x : UInt8) : cls (if x = 10 then 32 else x) = cls x := by
  split
  · next h =>
    subst h
    decide
  · rfl

theorem atomOk_map_nl {a : Bytes} (ha : atomOk a = true) :
    atomOk (a.map fun x => if x = 10 then 32 else x) = true := by
  unfold atomOk at *
  rw [scanFrom_map_cls _ cls_nl_to_sp]
  exact ha

theorem startBlock_bnd {st} {b : Buf} (s : Style) (h : Nrm st b.rev) :
    Bnd s (.brace :: st) (b.startBlock s).rev ∧ (b.startBlock s).indent = b.indent + 2 :=
  ⟨bnd_addOne s (opens_e st) (opens_c st) (fun h => by cases h) h, by cases s <;> rfl⟩

theorem popNl_nrm {st} {b : Buf} (h : Nrm0 st b.rev) : Nrm st b.popNl.rev := by
  unfold Buf.popNl
  split
  · next r heq =>
    rw [heq] at h
    exact step_other_inv _ 10 cls_nl st h
  · exact h.nrm

theorem popNl_indent (b : Buf) : b.popNl.indent = b.indent := by
  unfold Buf.popNl
  split <;> rfl

/-- in compressed style (`Bnd`: no newline at the end) `pop_nl` does nothing -/
theorem popNl_c {b : Buf} (h : b.rev.head? ≠ some 10) : b.popNl = b := by
  unfold Buf.popNl
  split
  · next r heq =>
    rw [heq] at h
    simp at h
  · rfl

theorem popSemi_nrm {st} {r : Bytes} (s : Style) (h : Nrm0 st r) : Nrm st (popSemi s r) := by
  unfold popSemi
  split
  · exact step_other_inv _ 59 cls_semi st h
  · exact h.nrm

theorem popSemi_e (r : Bytes) : popSemi .expanded r = r := by
  unfold popSemi
  split <;> simp_all

theorem endBlock_rev_e (b : Buf) : (b.endBlock .expanded).rev =
    10 :: 125 :: (if b.popNl.rev.head? ≠ some 123
      then (List.replicate (b.indent - 2) (32 : UInt8)).reverse ++ 10 :: b.popNl.rev
      else b.popNl.rev) := by
  unfold Buf.endBlock
  simp only [popSemi_e, popNl_indent, Buf.addOne, Buf.doIndent, getIndent_expanded, addStr_rev]
  split <;> simp [addStr_rev]

theorem endBlock_rev_c (b : Buf) : (b.endBlock .compressed).rev =
    125 :: popSemi .compressed b.popNl.rev := by
  unfold Buf.endBlock
  simp only [popNl_indent, Buf.addOne, Buf.doIndent, getIndent_compressed, addStr_rev]
  split <;> simp [addStr_rev]

theorem endBlock_indent (b : Buf) (s : Style) : (b.endBlock s).indent = b.indent - 2 := by
  unfold Buf.endBlock
  simp only [popNl_indent, Buf.addOne, Buf.doIndent, addStr_indent]
  split <;> simp [addStr_indent]

/-- `end_block` closes the brace opened by `start_block` -/
theorem endBlock_bnd {st} {b : Buf} (s : Style) (h : Bnd s (.brace :: st) b.rev) :
    Bnd s st (b.endBlock s).rev ∧ (b.endBlock s).indent = b.indent - 2 := by
  refine ⟨?_, endBlock_indent b s⟩
  cases s
  · rw [endBlock_rev_e]
    refine ⟨?_, fun h => by cases h⟩
    have hp := popNl_nrm h.1
    -- the popped buffer, then possibly the indentation (a newline and spaces), then `}\n`
    split
    · exact nrm0_append (closes_e st)
        (nrm_append_text (text_spaces _) (nrm_append_text (l := [10]) (by decide) hp))
    · exact nrm0_append (closes_e st) hp
  · rw [endBlock_rev_c, popNl_c (h.2 rfl)]
    exact ⟨nrm0_append (closes_c st) (popSemi_nrm _ h.1), fun _ => by simp⟩

end Writer
