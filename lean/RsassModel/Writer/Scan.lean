/-
Writer family (C07) — the byte scanner that defines "braces and brackets balance outside
strings, comments and url()", and the checks on atoms the balance theorem needs.
Model file (imports only the model file Writer/Tree.lean).  The same automaton is `scan_balance` in props/C07.py.
-/
import RsassModel.Writer.Tree
namespace Writer

/-- byte classes the scanner distinguishes -/
inductive Cls
  | dquote | squote | star | slash | lparen | rparen | lbrace | rbrace | lbrack | rbrack
  | bslash | cu | cr | cl | other
  deriving DecidableEq, Repr

def cls (x : UInt8) : Cls :=
  if x = 34 then .dquote else if x = 39 then .squote else if x = 42 then .star
  else if x = 47 then .slash else if x = 40 then .lparen else if x = 41 then .rparen
  else if x = 123 then .lbrace else if x = 125 then .rbrace
  else if x = 91 then .lbrack else if x = 93 then .rbrack
  else if x = 92 then .bslash
  else if x = 117 || x = 85 then .cu else if x = 114 || x = 82 then .cr
  else if x = 108 || x = 76 then .cl else .other

/-- what the scanner remembers about the bytes just before, in normal mode
(`afterEsc`: the previous byte was escaped by a backslash; behaves like `none`) -/
inductive Pend | none | slash | u | ur | url | afterEsc
  deriving DecidableEq, Repr

inductive Mode
  | normal (p : Pend)
  | esc                       -- after a backslash outside strings
  | dq | dqEsc | sq | sqEsc   -- inside "…" / '…'
  | cmt | cmtStar             -- inside /* … */
  | url | urlEsc | urlDq | urlDqEsc | urlSq | urlSqEsc   -- inside url( … )
  deriving DecidableEq, Repr

inductive Br | brace | bracket
  deriving DecidableEq, Repr

structure St where
  mode : Mode
  stack : List Br
  ok : Bool
  deriving DecidableEq, Repr

def St.init : St := ⟨.normal .none, [], true⟩

def closeBr (want : Br) (stack : List Br) (ok : Bool) : St :=
  match stack with
  | top :: rest => ⟨.normal .none, rest, ok && (top == want)⟩
  | [] => ⟨.normal .none, [], false⟩

def step (st : St) (x : UInt8) : St :=
  match st.mode, cls x with
  | .normal _, .dquote => { st with mode := .dq }
  | .normal _, .squote => { st with mode := .sq }
  | .normal .slash, .star => { st with mode := .cmt }
  | .normal .url, .lparen => { st with mode := .url }
  | .normal _, .lbrace => ⟨.normal .none, .brace :: st.stack, st.ok⟩
  | .normal _, .lbrack => ⟨.normal .none, .bracket :: st.stack, st.ok⟩
  | .normal _, .rbrace => closeBr .brace st.stack st.ok
  | .normal _, .rbrack => closeBr .bracket st.stack st.ok
  | .normal _, .bslash => { st with mode := .esc }
  | .normal _, .slash => { st with mode := .normal .slash }
  | .normal _, .cu => { st with mode := .normal .u }
  | .normal .u, .cr => { st with mode := .normal .ur }
  | .normal .ur, .cl => { st with mode := .normal .url }
  | .normal _, _ => { st with mode := .normal .none }
  | .esc, _ => { st with mode := .normal .afterEsc }
  | .dq, .dquote => { st with mode := .normal .none }
  | .dq, .bslash => { st with mode := .dqEsc }
  | .dq, _ => st
  | .dqEsc, _ => { st with mode := .dq }
  | .sq, .squote => { st with mode := .normal .none }
  | .sq, .bslash => { st with mode := .sqEsc }
  | .sq, _ => st
  | .sqEsc, _ => { st with mode := .sq }
  | .cmt, .star => { st with mode := .cmtStar }
  | .cmt, _ => st
  | .cmtStar, .slash => { st with mode := .normal .none }
  | .cmtStar, .star => st
  | .cmtStar, _ => { st with mode := .cmt }
  | .url, .rparen => { st with mode := .normal .none }
  | .url, .bslash => { st with mode := .urlEsc }
  | .url, .dquote => { st with mode := .urlDq }
  | .url, .squote => { st with mode := .urlSq }
  | .url, _ => st
  | .urlEsc, _ => { st with mode := .url }
  | .urlDq, .dquote => { st with mode := .url }
  | .urlDq, .bslash => { st with mode := .urlDqEsc }
  | .urlDq, _ => st
  | .urlDqEsc, _ => { st with mode := .urlDq }
  | .urlSq, .squote => { st with mode := .url }
  | .urlSq, .bslash => { st with mode := .urlSqEsc }
  | .urlSq, _ => st
  | .urlSqEsc, _ => { st with mode := .urlSq }

/-- scan bytes in output order -/
def scanFrom (st : St) (l : Bytes) : St := l.foldl step st

/-- scan a reversed buffer -/
def scanR : Bytes → St
  | [] => St.init
  | x :: r => step (scanR r) x

/-- The property's clause: braces and brackets balance outside strings, comments, url(). -/
def balanced (out : Bytes) : Bool :=
  let st := scanFrom St.init out
  st.ok && st.stack.isEmpty

def Mode.isNormal : Mode → Bool
  | .normal _ => true
  | _ => false

/-- an atom is *closed*: scanned in normal mode it returns to normal mode with every
brace/bracket it opened closed again and none closed that it did not open. -/
def atomOk (a : Bytes) : Bool :=
  let st := scanFrom St.init a
  st.mode.isNormal && st.ok && st.stack.isEmpty

/-- comment text is closed: scanned inside a comment it stays inside the comment -/
def cmtOk (a : Bytes) : Bool :=
  let st := scanFrom ⟨.cmt, [], true⟩ a
  (st.mode == .cmt || st.mode == .cmtStar) && st.ok && st.stack.isEmpty

def optAtomOk (s : Style) : Option Atom → Bool
  | none => true
  | some a => atomOk (a.get s)

mutual
/-- every atom of the tree is closed (for the text it has in style `s` at this indentation) -/
def nodeOk (q : WQuirks) (s : Style) (indent : Nat) : Node → Bool
  | .comment text => skipComment text || cmtOk (commentText q s indent text)
  | .import_ a => atomOk (a.get s)
  | .prop name value => atomOk name && atomOk (value.get s)
  | .custom name value _ => atomOk name && atomOk value
  | .rule sel body =>
    body.isEmpty || sel.isNone || (optAtomOk s sel && nodesOk q s (indent + 2) body)
  | .media args body =>
    body.isEmpty || (atomOk (args.get s) && nodesOk q s (indent + 2) body)
  | .atLeaf name args => atomOk name && optAtomOk s args
  | .atBlock name args body =>
    atomOk name && optAtomOk s args &&
      (match singleComment body with
       | some c => skipComment c || cmtOk (commentText q s indent c)
       | none => nodesOk q s (indent + 2) body)
  | .separator => true
def nodesOk (q : WQuirks) (s : Style) (indent : Nat) : Nodes → Bool
  | .nil => true
  | .cons n ns => nodeOk q s indent n && nodesOk q s indent ns
end

/-- What the property demands of a compilation (`atomsUnchecked` off): a tree with an atom
that is not closed is refused.  As is (`atomsUnchecked` on): written regardless. -/
def compile (q : WQuirks) (s : Style) (items : List Node) : Option Bytes :=
  if q.atomsUnchecked || nodesOk q s 0 (Nodes.ofList (hoistImports items)) then
    some (intoBuffer q s items)
  else none

end Writer
