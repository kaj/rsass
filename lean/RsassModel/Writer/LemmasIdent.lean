/-
Writer family (C09) — whole identifiers: the escape normaliser applied to every code point of
an identifier written with escapes, and the re-reading of the result: of one escaped code
point (`reread_norm`) and of the whole identifier (`normIdent`, `rereadIdent`, defined here).
-/
import RsassModel.Writer.Ident
namespace Writer.Ident

/-- an identifier all of whose code points are written as escapes, as the reader writes it back:
`normalized_first_escaped_char` for the first, `normalized_escaped_char` for the others -/
def normIdent : List Nat → List Out
  | [] => []
  | c :: rest => normFirst thrCode c :: rest.map (normRest thrCode)

def rereadRest : List Out → Option (List Out)
  | [] => some []
  | o :: r => match reread thrCode false o, rereadRest r with
    | some a, some b => some (a :: b)
    | _, _ => none

/-- reading a written identifier back, piece by piece -/
def rereadIdent : List Out → Option (List Out)
  | [] => some []
  | o :: r => match reread thrCode true o, rereadRest r with
    | some a, some b => some (a :: b)
    | _, _ => none

theorem rereadRest_norm (h : ∀ c, reread thrCode false (normRest thrCode c) = some (normRest thrCode c))
    (cs : List Nat) : rereadRest (cs.map (normRest thrCode)) = some (cs.map (normRest thrCode)) := by
  induction cs with
  | nil => rfl
  | cons c cs ih => simp [rereadRest, h c, ih]

/-- What the reader writes for an escaped code point reads back as itself, in either position:
from the threshold on it is the raw character; below it, a sweep over the 161 code points. -/
theorem reread_norm (first : Bool) (c : Nat) :
    reread thrCode first (if first then normFirst thrCode c else normRest thrCode c)
      = some (if first then normFirst thrCode c else normRest thrCode c) := by
  by_cases h : c ≥ 161
  · have h2 : c ≥ 128 := by omega
    cases first <;> simp [normFirst, normRest, thrCode, h, reread, h2]
  · have key : ∀ (first : Bool) (c : Nat), c < 161 →
        reread thrCode first (if first then normFirst thrCode c else normRest thrCode c)
          = some (if first then normFirst thrCode c else normRest thrCode c) := by decide +kernel
    exact key first c (by omega)

end Writer.Ident
