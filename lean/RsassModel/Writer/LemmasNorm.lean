/-
Writer family (C08) — the two styles write the same normal form (helper lemmas).
-/
import RsassModel.Writer.Norm
import RsassModel.Writer.LemmasBalance
namespace Writer

theorem F_append (a b : Bytes) : F (a ++ b) = F a ++ F b := by simp [F]
theorem F_reverse (a : Bytes) : F a.reverse = (F a).reverse := by simp [F, List.filter_reverse]
theorem F_cons_ws {x : UInt8} (h : isWs x = true) (r : Bytes) : F (x :: r) = F r := by
  simp [F, h]
theorem F_cons_nws {x : UInt8} (h : isWs x = false) (r : Bytes) : F (x :: r) = x :: F r := by
  simp [F, h]

theorem F_replicate_sp (k : Nat) : F (List.replicate k 32) = [] := by
  induction k with
  | zero => rfl
  | succ k ih => rw [List.replicate_succ, F_cons_ws (by decide), ih]

/-- "after a brace" only matters for the run of `;` at the front -/
theorem dsb_true_eq (y : Bytes) : dsbAux true y = dsbAux false (y.dropWhile (· = 59)) := by
  induction y with
  | nil => rfl
  | cons x y ih =>
    by_cases h : x = 59
    · subst h
      simp [dsbAux, ih]
    · simp only [List.dropWhile, h, decide_false]
      simp [dsbAux, h]

/-- … and dropping that run commutes with `dsbAux false` -/
theorem dsb_dropWhile (y : Bytes) :
    dsbAux false (y.dropWhile (· = 59)) = (dsbAux false y).dropWhile (· = 59) := by
  induction y with
  | nil => rfl
  | cons x y ih =>
    by_cases h : x = 59
    · subst h
      simp [dsbAux, ih]
    · simp only [List.dropWhile, h, decide_false]
      by_cases h2 : x = 125
      · subst h2
        simp [dsbAux]
      · simp [dsbAux, h, h2]

/-- `dsbAux` of a longer buffer depends on the rest only through its normal form -/
theorem dsb_congr {y1 y2 : Bytes} (h : dsbAux false y1 = dsbAux false y2) (a : Bytes) (fl : Bool) :
    dsbAux fl (a ++ y1) = dsbAux fl (a ++ y2) := by
  induction a generalizing fl with
  | nil =>
    cases fl
    · exact h
    · simp only [List.nil_append, dsb_true_eq, dsb_dropWhile, h]
  | cons x a ih =>
    simp only [List.cons_append, dsbAux, ih]

/-- invariant: the two buffers have the same normal form -/
def Same (re rc : Bytes) : Prop := D re = D rc

theorem same_addStr {re rc : Bytes} (h : Same re rc) {pe pc : Bytes} (hp : F pe = F pc) :
    Same (pe.reverse ++ re) (pc.reverse ++ rc) := by
  unfold Same D at *
  rw [F_append, F_append, F_reverse, F_reverse, hp]
  exact dsb_congr h _ _

theorem F_popNl (b : Buf) : F b.popNl.rev = F b.rev := by
  unfold Buf.popNl
  split
  · next r heq => rw [heq, F_cons_ws (by decide)]
  · rfl

theorem same_popNl {be bc : Buf} (h : Same be.rev bc.rev) : Same be.popNl.rev bc.popNl.rev := by
  unfold Same D at *
  rw [F_popNl, F_popNl]
  exact h

/-- the `;` that `into_buffer`/`end_block` pop is one the normal form of a complete output
(`NR r = dsbAux true (F r)`) drops anyway -/
theorem NR_popSemi (s : Style) (r : Bytes) : dsbAux true (F (popSemi s r)) = dsbAux true (F r) := by
  unfold popSemi
  split
  · next r' => rw [F_cons_nws (by decide)]; simp [dsbAux]
  · rfl

theorem NR_of_D {r1 r2 : Bytes} (h : D r1 = D r2) : NR r1 = NR r2 := by
  unfold NR D at *
  rw [dsb_true_eq, dsb_true_eq, dsb_dropWhile, dsb_dropWhile, h]

/-- closing a block: `}` after the popped buffers -/
theorem same_close {xe xc : Bytes} (h : Same xe xc) (s : Style) :
    Same (125 :: xe) (125 :: popSemi s xc) := by
  have := NR_of_D h
  unfold Same D NR at *
  rw [F_cons_nws (by decide), F_cons_nws (by decide)]
  simp only [dsbAux, if_true]
  rw [NR_popSemi, this]

/-- white space written in expanded style only -/
theorem same_ws_e {re rc : Bytes} (h : Same re rc) {p : Bytes} (hp : F p = []) : Same (p.reverse ++ re) rc := by
  have := same_addStr h (pe := p) (pc := []) (by rw [hp]; rfl)
  simpa using this

theorem doIndentNoNl_same {be bc : Buf} (h : Same be.rev bc.rev) :
    Same (be.doIndentNoNl .expanded).rev (bc.doIndentNoNl .compressed).rev := by
  rw [doIndentNoNl_eq, doIndentNoNl_eq]
  exact same_addStr h (by simp [F_replicate_sp]; rfl)

theorem startBlock_same {be bc : Buf} (h : Same be.rev bc.rev) :
    Same (be.startBlock .expanded).rev (bc.startBlock .compressed).rev := by
  simp only [Buf.startBlock, Buf.addOne]
  exact same_addStr h (by decide)

theorem endBlock_same {be bc : Buf} (h : Same be.rev bc.rev) :
    Same (be.endBlock .expanded).rev (bc.endBlock .compressed).rev := by
  rw [endBlock_rev_e, endBlock_rev_c]
  have h1 := same_popNl h
  have h2 : Same (if be.popNl.rev.head? ≠ some 123
      then (List.replicate (be.indent - 2) (32 : UInt8)).reverse ++ 10 :: be.popNl.rev
      else be.popNl.rev) bc.popNl.rev := by
    split
    · exact same_ws_e (same_ws_e (p := [10]) h1 (by decide)) (F_replicate_sp _)
    · exact h1
  exact same_ws_e (p := [10]) (same_close h2 .compressed) (by decide)

/-- a byte-wise rewriting that changes white space only does not change the normal form -/
theorem F_flatMap (g : UInt8 → Bytes) (hg : ∀ x, F (g x) = F [x]) (l : Bytes) :
    F (l.flatMap g) = F l := by
  induction l with
  | nil => rfl
  | cons x l ih =>
    rw [List.flatMap_cons, F_append, ih, hg, ← F_append]
    rfl

theorem F_map_nl (l : Bytes) : F (l.map fun x => if x = 10 then 32 else x) = F l := by
  rw [List.map_eq_flatMap]
  refine F_flatMap _ (fun x => ?_) l
  split
  · next h =>
    subst h
    rfl
  · rfl

theorem F_replaceNl (start text : Bytes) (hs : F start = []) : F (replaceNl start text) = F text := by
  refine F_flatMap _ (fun x => ?_) text
  split
  · next h =>
    subst h
    exact hs
  · rfl

theorem F_replaceEmpty (text : Bytes) : F (replaceEmpty [10] text) = F text := by
  unfold replaceEmpty
  rw [F_append, F_flatMap _ (fun x => ?_) text]
  · exact List.append_nil _
  · split
    · rfl
    · exact F_cons_ws (by decide) _

theorem F_getIndent (s : Style) (k : Nat) : F (getIndent s k) = [] := by
  cases s
  · rw [getIndent_expanded, F_cons_ws (by decide), F_replicate_sp]
  · rfl

theorem F_joinNl (ls : List Bytes) : F (joinNl ls) = (ls.map F).flatten := by
  induction ls with
  | nil => rfl
  | cons l ls ih =>
    cases ls with
    | nil => simp [joinNl]
    | cons l2 ls2 =>
      simp only [joinNl, F_append, F_cons_ws (show isWs 10 = true by decide)] at ih ⊢
      rw [ih]
      simp

theorem splitNl_ne_nil : ∀ t : Bytes, splitNl t ≠ []
  | [] => by simp [splitNl]
  | x :: t => by
    simp only [splitNl]
    split
    · simp
    · split <;> simp

theorem joinNl_splitNl (t : Bytes) : joinNl (splitNl t) = t := by
  induction t with
  | nil => rfl
  | cons x t ih =>
    obtain ⟨l, ls, hs⟩ := List.exists_cons_of_ne_nil (splitNl_ne_nil t)
    rw [hs] at ih
    simp only [splitNl, hs]
    split
    · next h => simp [joinNl, ih, h]
    · cases ls <;> simp [joinNl] at ih ⊢ <;> exact ih

theorem F_dropSpaces (k : Nat) (l : Bytes) : F ((dropSpaces k l).getD l) = F l := by
  induction k generalizing l with
  | zero => rfl
  | succ k ih =>
    cases l with
    | nil => rfl
    | cons x r =>
      simp only [dropSpaces]
      split
      · next h =>
        subst h
        cases hd : dropSpaces k r with
        | none => rfl
        | some r' =>
          have := ih r
          rw [hd] at this
          simp only [Option.getD_some] at this ⊢
          rw [this, F_cons_ws (by decide)]
      · rfl

theorem F_unindent (k : Nat) (text : Bytes) : F (unindent k text) = F text := by
  unfold unindent
  cases hs : splitNl text with
  | nil => exact absurd hs (splitNl_ne_nil text)
  | cons l ls =>
    have h := joinNl_splitNl text
    rw [hs] at h
    simp only []
    rw [F_joinNl]
    conv => rhs; rw [← h, F_joinNl]
    simp only [List.map_cons, List.map_map]
    congr 2
    apply List.map_congr_left
    intro x _
    exact F_dropSpaces k x

theorem F_commentText (q : WQuirks) (s : Style) (indent : Nat) (text : Bytes) :
    F (commentText q s indent text) = F text := by
  unfold commentText
  split
  · exact F_map_nl text
  · simp only []
    split
    · exact F_replaceNl _ _ (F_getIndent _ _)
    · split
      · split
        · exact F_replaceEmpty text
        · exact F_unindent _ _
      · rfl

end Writer
