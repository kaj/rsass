/-
Writer family (C07) — lemmas about `frame` (the tail of `CssData::into_buffer`).
-/
import RsassModel.Writer.LemmasWrite
namespace Writer

/-- normal-or-escape mode with stack `st`: closed under popping bytes of class `other` -/
def NrmE (st : List Br) (r : Bytes) : Prop :=
  ∃ m, m.normalOrEsc = true ∧ scanR r = ⟨m, st, true⟩

theorem Nrm.nrmE {st r} (h : Nrm st r) : NrmE st r := by
  obtain ⟨p, hp⟩ := h; exact ⟨_, rfl, hp⟩

theorem nrmE_tail {st} {x : UInt8} {r : Bytes} (hx : cls x = .other) (h : NrmE st (x :: r)) :
    NrmE st r := by
  obtain ⟨m, hm, hs⟩ := h
  simp only [scanR] at hs
  obtain ⟨m', hm', hs'⟩ := step_other_inv_weak _ x hx m st hm hs
  exact ⟨m', hm', hs'⟩

theorem nrmE_dropNl {st} {r : Bytes} (h : NrmE st r) : NrmE st (r.dropWhile (· = 10)) := by
  induction r with
  | nil => exact h
  | cons x r ih =>
    simp only [List.dropWhile]
    split
    · next hx =>
      simp at hx
      subst hx
      exact ih (nrmE_tail cls_nl h)
    · exact h

theorem nrmE_popSemi {st} {r : Bytes} (s : Style) (h : NrmE st r) : NrmE st (popSemi s r) := by
  unfold popSemi
  split
  · exact nrmE_tail cls_semi h
  · exact h

theorem scanR_mark (s : Style) : scanR (mark s).reverse = St.init := by
  cases s <;> rfl

theorem nrmE_mark {st} {r : Bytes} (s : Style) (h : NrmE st r) : NrmE st (r ++ (mark s).reverse) := by
  obtain ⟨m, hm, hs⟩ := h
  refine ⟨m, hm, ?_⟩
  rw [scanR_append', scanR_mark, ← scanR_eq, hs]

theorem frame_balanced {r : Bytes} (s : Style) (h : Nrm [] r) : balanced (frame s r) = true := by
  unfold frame
  simp only []
  have h0 : NrmE [] (if isAscii r = true then r else r ++ (mark s).reverse) := by
    split
    · exact h.nrmE
    · exact nrmE_mark s h.nrmE
  have h2 := nrmE_popSemi s (nrmE_dropNl h0)
  generalize popSemi s (List.dropWhile (fun x => decide (x = 10))
    (if isAscii r = true then r else r ++ (mark s).reverse)) = r2 at h2
  split
  · next he =>
    have : r2 = [] := by simpa using he
    subst this
    rfl
  · obtain ⟨m, hm, hs⟩ := h2
    unfold balanced
    have : scanFrom St.init (10 :: r2).reverse = step (scanR r2) 10 := by
      rw [← scanR_eq]
      rfl
    simp only [this, hs]
    cases m <;> simp [Mode.normalOrEsc] at hm <;> simp [step, cls_nl]

theorem head_dropNl (r : Bytes) : (r.dropWhile (· = 10)).head? ≠ some 10 := by
  induction r with
  | nil => simp
  | cons x r ih =>
    simp only [List.dropWhile]
    split
    · exact ih
    · next hx =>
      simp at hx
      simp [hx]

theorem isAscii_append (a b : Bytes) : isAscii (a ++ b) = (isAscii a && isAscii b) := by
  simp [isAscii, List.all_append]

theorem all_dropWhile (p q : UInt8 → Bool) {r : Bytes} (h : r.all p = true) :
    (r.dropWhile q).all p = true := by
  rw [List.all_eq_true] at h ⊢
  exact fun x hx => h x (List.dropWhile_subset q hx)

theorem all_tail {p : UInt8 → Bool} {x : UInt8} {r : Bytes} (h : (x :: r).all p = true) :
    r.all p = true := by
  rw [List.all_cons, Bool.and_eq_true] at h
  exact h.2

theorem all_popSemi (p : UInt8 → Bool) (s : Style) {r : Bytes} (h : r.all p = true) :
    (popSemi s r).all p = true := by
  unfold popSemi
  split
  · exact all_tail h
  · exact h

theorem all_popNl (p : UInt8 → Bool) {b : Buf} (h : b.rev.all p = true) :
    b.popNl.rev.all p = true := by
  unfold Buf.popNl
  split
  · next r heq =>
    rw [heq] at h
    exact all_tail h
  · exact h

theorem isAscii_reverse (r : Bytes) : isAscii r.reverse = isAscii r := by
  simp [isAscii]

/-- dropping trailing newlines does not reach beyond a byte that is not a newline -/
theorem dropNl_append {r m : Bytes} (h : isAscii r = false) :
    (r ++ m).dropWhile (· = 10) = r.dropWhile (· = 10) ++ m ∧
      isAscii (r.dropWhile (· = 10)) = false := by
  induction r with
  | nil => simp [isAscii] at h
  | cons x r ih =>
    simp only [List.cons_append, List.dropWhile]
    split
    · next hx =>
      simp at hx
      subst hx
      have : isAscii r = false := by
        simp only [isAscii, List.all_cons] at h ⊢
        simpa using h
      exact ih this
    · exact ⟨rfl, h⟩

theorem popSemi_append_cons (s : Style) (y : UInt8) (t m : Bytes) :
    popSemi s ((y :: t) ++ m) = popSemi s (y :: t) ++ m := by
  unfold popSemi
  cases s
  · simp
  · by_cases hy : y = 59
    · subst hy
      simp
    · simp [hy]

end Writer
