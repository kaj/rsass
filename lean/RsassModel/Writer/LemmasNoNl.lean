/-
Writer family (C07) — compressed output contains no line break (helper lemmas).
-/
import RsassModel.Writer.LemmasFrame
namespace Writer

def noNl (l : Bytes) : Bool := l.all (· ≠ 10)

def optNoNl : Option Atom → Bool
  | none => true
  | some a => noNl a.c

mutual
/-- no atom of the tree (as written in compressed style) contains a line break; property
values are exempt (`Property::write` replaces line breaks), comment text and at-rule
arguments are exempt when the corresponding deviation is off -/
def nodeNoNl (q : WQuirks) : Node → Bool
  | .comment text => !q.commentReindentCompressed || noNl text
  | .import_ a => noNl a.c
  | .prop name _ => noNl name
  | .custom name value _ => noNl name && noNl value
  | .rule sel body => optNoNl sel && nodesNoNl q body
  | .media args body => noNl args.c && nodesNoNl q body
  | .atLeaf name args => noNl name && (!q.atArgsRawCompressed || optNoNl args)
  | .atBlock name args body => noNl name && (!q.atArgsRawCompressed || optNoNl args) && nodesNoNl q body
  | .separator => true
def nodesNoNl (q : WQuirks) : Nodes → Bool
  | .nil => true
  | .cons n ns => nodeNoNl q n && nodesNoNl q ns
end

theorem noNl_append (a b : Bytes) : noNl (a ++ b) = (noNl a && noNl b) := by
  simp [noNl, List.all_append]

theorem noNl_reverse (a : Bytes) : noNl a.reverse = noNl a := by simp [noNl]

theorem noNl_addStr {b : Buf} {l : Bytes} (hl : noNl l = true) (hb : noNl b.rev = true) :
    noNl (b.addStr l).rev = true := by
  rw [addStr_rev, noNl_append, noNl_reverse, hl, hb]
  rfl

/-- what `into_buffer` does to a compressed buffer before the final newline keeps it free of
line breaks: the mark has none, and dropping and popping remove bytes only -/
theorem noNl_framed {rev : Bytes} (h : noNl rev = true) :
    noNl (popSemi .compressed ((if isAscii rev then rev else rev ++ (mark .compressed).reverse).dropWhile
      (· = 10))) = true := by
  refine all_popSemi _ _ (all_dropWhile _ _ ?_)
  split
  · exact h
  · show noNl (rev ++ (mark .compressed).reverse) = true
    rw [noNl_append, h]
    rfl

theorem noNl_map_nl (l : Bytes) : noNl (l.map fun x => if x = 10 then 32 else x) = true := by
  simp only [noNl, List.all_map, List.all_eq_true]
  intro x _
  simp only [Function.comp]
  split <;> simp_all

theorem splitNl_noNl {l : Bytes} (h : noNl l = true) : splitNl l = [l] := by
  induction l with
  | nil => rfl
  | cons x l ih =>
    simp only [noNl, List.all_cons, Bool.and_eq_true, decide_eq_true_eq] at h
    have := ih (by simpa [noNl] using h.2)
    simp [splitNl, h.1, this]

theorem commentText_noNl (q : WQuirks) (indent : Nat) {text : Bytes}
    (h : (!q.commentReindentCompressed || noNl text) = true) :
    noNl (commentText q .compressed indent text) = true := by
  unfold commentText
  cases hq : q.commentReindentCompressed with
  | false => simp [Style.isCompressed, noNl_map_nl]
  | true =>
    simp only [hq, Bool.not_true, Bool.false_or] at h
    have hl : (lines text).drop 1 = [] := by
      unfold lines
      rw [splitNl_noNl h]
      cases text <;> simp
    simp [Style.isCompressed, hl, listMin, h]

theorem atArgsText_noNl (q : WQuirks) {a : Atom}
    (h : (!q.atArgsRawCompressed || noNl a.c) = true) : noNl (atArgsText q .compressed a) = true := by
  unfold atArgsText
  cases hq : q.atArgsRawCompressed with
  | false => simp [Style.isCompressed, noNl_map_nl]
  | true => simpa [hq, Style.isCompressed, Atom.get] using h

theorem noNl_startBlock {b : Buf} (h : noNl b.rev = true) : noNl (b.startBlock .compressed).rev = true := by
  simp only [Buf.startBlock, Buf.addOne]
  exact noNl_addStr (by decide) h

theorem noNl_endBlock {b : Buf} (h : noNl b.rev = true) : noNl (b.endBlock .compressed).rev = true := by
  rw [endBlock_rev_c]
  exact all_popSemi _ .compressed (all_popNl _ h)

theorem singleComment_some {body : Nodes} {c : Bytes} (h : singleComment body = some c) :
    body = .cons (.comment c) .nil := by
  cases body with
  | nil => cases h
  | cons n ns =>
    cases n <;> cases ns <;> cases h
    rfl

theorem noNl_writeComment (q : WQuirks) (text : Bytes) {b : Buf} (hb : noNl b.rev = true)
    (h : (!q.commentReindentCompressed || noNl text) = true) :
    noNl (writeComment q .compressed text b).rev = true := by
  unfold writeComment
  split
  · simpa [Buf.addOne, addStr_rev] using hb
  · simp only [doIndentNoNl_c, Buf.addOne]
    exact noNl_addStr (by decide) (noNl_addStr (commentText_noNl q _ h) (noNl_addStr (by decide) hb))

theorem noNl_writeAtHead (q : WQuirks) (name : Bytes) (args : Option Atom) {b : Buf} (hb : noNl b.rev = true)
    (hn : noNl name = true) (ha : (!q.atArgsRawCompressed || optNoNl args) = true) :
    noNl (writeAtHead q .compressed name args b).rev = true := by
  unfold writeAtHead
  simp only [doIndentNoNl_c]
  have h1 := noNl_addStr hn (noNl_addStr (l := [64]) (by decide) hb)
  cases args with
  | none => exact h1
  | some a => exact noNl_addStr (atArgsText_noNl q (by simpa [optNoNl] using ha)) (noNl_addStr (by decide) h1)

mutual
theorem noNl_writeNode (q : WQuirks) : ∀ (n : Node) (b : Buf), noNl b.rev = true → nodeNoNl q n = true →
    noNl (writeNode q .compressed n b).rev = true
  | .comment text, b, hb, h => by
    simp only [nodeNoNl] at h
    simpa only [writeNode] using noNl_writeComment q text hb h
  | .import_ a, b, hb, h => by
    simp only [nodeNoNl] at h
    simp only [writeNode, doIndentNoNl_c, Buf.addOne]
    exact noNl_addStr (by decide) (noNl_addStr h (noNl_addStr (by decide) hb))
  | .prop name value, b, hb, h => by
    simp only [nodeNoNl] at h
    simp only [writeNode, doIndentNoNl_c, Buf.addOne]
    exact noNl_addStr (by decide) (noNl_addStr (noNl_map_nl _) (noNl_addStr (by decide) (noNl_addStr h hb)))
  | .custom name value quoted, b, hb, h => by
    simp only [nodeNoNl, Bool.and_eq_true] at h
    simp only [writeNode, doIndentNoNl_c, Buf.addOne, Style.isCompressed, Bool.not_true,
      Bool.and_false, Bool.false_eq_true, if_false]
    exact noNl_addStr (by decide) (noNl_addStr h.2 (noNl_addStr (by decide) (noNl_addStr h.1 hb)))
  | .rule sel body, b, hb, h => by
    simp only [nodeNoNl, Bool.and_eq_true] at h
    simp only [writeNode]
    split
    · exact hb
    · cases sel with
      | none => exact hb
      | some a =>
        simp only [doIndentNoNl_c]
        refine noNl_endBlock (noNl_writeNodes q body _ (noNl_startBlock ?_) h.2)
        split
        · exact noNl_addStr (by decide) hb
        · exact noNl_addStr (by simpa [optNoNl, Atom.get] using h.1) hb
  | .media args body, b, hb, h => by
    simp only [nodeNoNl, Bool.and_eq_true] at h
    simp only [writeNode]
    split
    · exact hb
    · simp only [doIndentNoNl_c]
      exact noNl_endBlock (noNl_writeNodes q body _
        (noNl_startBlock (noNl_addStr h.1 (noNl_addStr (by decide) hb))) h.2)
  | .atLeaf name args, b, hb, h => by
    simp only [nodeNoNl, Bool.and_eq_true] at h
    simp only [writeNode, Buf.addOne]
    exact noNl_addStr (by decide) (noNl_writeAtHead q name args hb h.1 h.2)
  | .atBlock name args body, b, hb, h => by
    simp only [nodeNoNl, Bool.and_eq_true] at h
    simp only [writeNode]
    have h1 := noNl_writeAtHead q name args hb h.1.1 h.1.2
    cases hsc : singleComment body with
    | some c =>
      simp only []
      have hc : (!q.commentReindentCompressed || noNl c) = true := by
        rw [singleComment_some hsc] at h
        simpa [nodesNoNl, nodeNoNl] using h.2
      simp only [Buf.addOne]
      exact noNl_addStr (by decide) (all_popNl _ (noNl_writeComment q c (noNl_addStr (by decide) h1) hc))
    | none =>
      simp only []
      exact noNl_endBlock (noNl_writeNodes q body _ (noNl_startBlock h1) h.2)
  | .separator, b, hb, _ => by
    simpa only [writeNode, Buf.optNl] using hb
theorem noNl_writeNodes (q : WQuirks) : ∀ (ns : Nodes) (b : Buf), noNl b.rev = true → nodesNoNl q ns = true →
    noNl (writeNodes q .compressed ns b).rev = true
  | .nil, b, hb, _ => hb
  | .cons n ns, b, hb, h => by
    simp only [nodesNoNl, Bool.and_eq_true] at h
    simp only [writeNodes]
    exact noNl_writeNodes q ns _ (noNl_writeNode q n b hb h.1) h.2
end

/-! ### custom-property values exempted (clause 4 says "outside custom-property values") -/

mutual
/-- the tree with every custom-property value blanked: what is left of the output when the
custom-property values are taken out -/
def blankNode : Node → Node
  | .custom name _ quoted => .custom name [] quoted
  | .rule sel body => .rule sel (blankNodes body)
  | .media args body => .media args (blankNodes body)
  | .atBlock name args body => .atBlock name args (blankNodes body)
  | .comment t => .comment t
  | .import_ a => .import_ a
  | .prop n v => .prop n v
  | .atLeaf n a => .atLeaf n a
  | .separator => .separator
def blankNodes : Nodes → Nodes
  | .nil => .nil
  | .cons n ns => .cons (blankNode n) (blankNodes ns)
end

mutual
/-- `nodeNoNl` without any demand on custom-property values -/
def nodeNoNlX (q : WQuirks) : Node → Bool
  | .comment text => !q.commentReindentCompressed || noNl text
  | .import_ a => noNl a.c
  | .prop name _ => noNl name
  | .custom name _ _ => noNl name
  | .rule sel body => optNoNl sel && nodesNoNlX q body
  | .media args body => noNl args.c && nodesNoNlX q body
  | .atLeaf name args => noNl name && (!q.atArgsRawCompressed || optNoNl args)
  | .atBlock name args body => noNl name && (!q.atArgsRawCompressed || optNoNl args) && nodesNoNlX q body
  | .separator => true
def nodesNoNlX (q : WQuirks) : Nodes → Bool
  | .nil => true
  | .cons n ns => nodeNoNlX q n && nodesNoNlX q ns
end

mutual
theorem nodeNoNl_blank (q : WQuirks) : ∀ n : Node, nodeNoNl q (blankNode n) = nodeNoNlX q n
  | .custom name _ quoted => by simp [blankNode, nodeNoNl, nodeNoNlX, noNl]
  | .rule sel body => by simp [blankNode, nodeNoNl, nodeNoNlX, nodesNoNl_blank q body]
  | .media args body => by simp [blankNode, nodeNoNl, nodeNoNlX, nodesNoNl_blank q body]
  | .atBlock name args body => by simp [blankNode, nodeNoNl, nodeNoNlX, nodesNoNl_blank q body]
  | .comment t => rfl
  | .import_ a => rfl
  | .prop n v => rfl
  | .atLeaf n a => rfl
  | .separator => rfl
theorem nodesNoNl_blank (q : WQuirks) : ∀ ns : Nodes, nodesNoNl q (blankNodes ns) = nodesNoNlX q ns
  | .nil => rfl
  | .cons n ns => by simp [blankNodes, nodesNoNl, nodesNoNlX, nodeNoNl_blank q n, nodesNoNl_blank q ns]
end

theorem isImport_blank (n : Node) : isImport (blankNode n) = isImport n := by
  cases n <;> simp [blankNode, isImport]

theorem ofList_map_blank (l : List Node) : Nodes.ofList (l.map blankNode) = blankNodes (Nodes.ofList l) := by
  induction l with
  | nil => simp [Nodes.ofList, blankNodes]
  | cons n l ih => simp [Nodes.ofList, blankNodes, ih]

theorem hoist_map_blank (l : List Node) : hoistImports (l.map blankNode) = (hoistImports l).map blankNode := by
  have h1 : isImport ∘ blankNode = isImport := funext isImport_blank
  have h2 : (fun n => !isImport n) ∘ blankNode = fun n => !isImport n :=
    funext fun n => congrArg (!·) (isImport_blank n)
  simp only [hoistImports, List.filter_map, h1, h2, List.map_append]

end Writer
