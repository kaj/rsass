/-
Writer family (C07) — lemmas about the balance scanner: composition, what one byte does to
the stack, stack framing, and inversion for the bytes the writer pops.
-/
import RsassModel.Writer.Scan
namespace Writer

theorem scanFrom_append (st : St) (a b : Bytes) :
    scanFrom st (a ++ b) = scanFrom (scanFrom st a) b := by
  simp [scanFrom, List.foldl_append]

theorem scanFrom_cons (st : St) (x : UInt8) (l : Bytes) :
    scanFrom st (x :: l) = scanFrom (step st x) l := rfl

theorem scanR_append (s r : Bytes) : scanR (s.reverse ++ r) = scanFrom (scanR r) s := by
  induction s generalizing r with
  | nil => rfl
  | cons x s ih =>
    rw [List.reverse_cons, List.append_assoc, List.singleton_append, ih, scanFrom_cons]
    rfl

theorem scanR_eq (r : Bytes) : scanR r = scanFrom St.init r.reverse := by
  have := scanR_append r.reverse []
  simpa [scanR] using this

theorem scanR_append' (a b : Bytes) : scanR (a ++ b) = scanFrom (scanR b) a.reverse := by
  have := scanR_append a.reverse b
  simpa using this

/-- what a byte does to the stack; mode and byte class decide it -/
inductive Eff | keep | push (b : Br) | close (b : Br)

def eff : Mode → Cls → Eff
  | .normal _, .lbrace => .push .brace
  | .normal _, .lbrack => .push .bracket
  | .normal _, .rbrace => .close .brace
  | .normal _, .rbrack => .close .bracket
  | _, _ => .keep

/-- `step` with stack and flag separated from the mode: the new mode does not depend on them,
and they change only at a brace or bracket in normal mode. -/
theorem step_eq (m : Mode) (st : List Br) (ok : Bool) (x : UInt8) :
    step ⟨m, st, ok⟩ x =
      match eff m (cls x) with
      | .keep => ⟨(step ⟨m, [], true⟩ x).mode, st, ok⟩
      | .push b => ⟨.normal .none, b :: st, ok⟩
      | .close b => closeBr b st ok := by
  unfold step
  generalize cls x = c
  cases m with
  | normal p =>
    -- what is pending matters only for `*`, `(`, `r` and `l`
    cases c with
    | star | lparen | cr | cl => cases p <;> rfl
    | _ => rfl
  | esc | dqEsc | sqEsc | urlEsc | urlDqEsc | urlSqEsc => rfl
  | _ => cases c <;> rfl

theorem closeBr_ok {b : Br} {st : List Br} {ok : Bool} {m' : Mode} {st' : List Br}
    (h : closeBr b st ok = ⟨m', st', true⟩) : m' = .normal .none ∧ st = b :: st' ∧ ok = true := by
  cases st with
  | nil => cases h
  | cons t r =>
    cases ok
    · cases h
    · cases t <;> cases b <;> cases h <;> exact ⟨rfl, rfl, rfl⟩

theorem step_ok_false (m : Mode) (st : List Br) (x : UInt8) : (step ⟨m, st, false⟩ x).ok = false := by
  rw [step_eq]
  cases eff m (cls x) with
  | close b => cases st <;> rfl
  | _ => rfl

theorem scanFrom_ok_false (m : Mode) (st : List Br) (l : Bytes) :
    (scanFrom ⟨m, st, false⟩ l).ok = false := by
  induction l generalizing m st with
  | nil => rfl
  | cons x l ih =>
    rw [scanFrom_cons]
    have h := step_ok_false m st x
    generalize step ⟨m, st, false⟩ x = s1 at h
    obtain ⟨m1, st1, ok1⟩ := s1
    cases h
    exact ih m1 st1

/-! ### framing: what a scan does above the stack it started with does not depend on it -/

theorem step_frame (m m' : Mode) (st st' base : List Br) (x : UInt8)
    (h : step ⟨m, st, true⟩ x = ⟨m', st', true⟩) :
    step ⟨m, st ++ base, true⟩ x = ⟨m', st' ++ base, true⟩ := by
  rw [step_eq] at h ⊢
  cases he : eff m (cls x) with
  | keep =>
    rw [he] at h
    cases h
    rfl
  | push b =>
    rw [he] at h
    cases h
    rfl
  | close b =>
    rw [he] at h
    obtain ⟨rfl, rfl, -⟩ := closeBr_ok h
    cases b <;> rfl

theorem scanFrom_frame (m m' : Mode) (st st' base : List Br) (l : Bytes)
    (h : scanFrom ⟨m, st, true⟩ l = ⟨m', st', true⟩) :
    scanFrom ⟨m, st ++ base, true⟩ l = ⟨m', st' ++ base, true⟩ := by
  induction l generalizing m st with
  | nil =>
    cases h
    rfl
  | cons x l ih =>
    rw [scanFrom_cons] at h ⊢
    generalize hs : step ⟨m, st, true⟩ x = s1 at h
    obtain ⟨m1, st1, ok1⟩ := s1
    cases ok1 with
    | false =>
      have := scanFrom_ok_false m1 st1 l
      rw [h] at this
      cases this
    | true =>
      rw [step_frame m m1 st st1 base x hs]
      exact ih m1 st1 h

def Mode.normalOrEsc : Mode → Bool
  | .normal _ => true
  | .esc => true
  | _ => false

/-- a byte of class `other` leads to a normal-or-escape state only from such a state, and
leaves the stack alone -/
theorem step_other_inv_weak (s : St) (x : UInt8) (hx : cls x = .other) (m : Mode) (st : List Br)
    (hm : m.normalOrEsc = true) (h : step s x = ⟨m, st, true⟩) :
    ∃ m', m'.normalOrEsc = true ∧ s = ⟨m', st, true⟩ := by
  obtain ⟨m0, st0, ok0⟩ := s
  unfold step at h
  rw [hx] at h
  cases m0 with
  | normal p0 => cases p0 <;> cases h <;> exact ⟨_, rfl, rfl⟩
  | esc =>
    cases h
    exact ⟨_, rfl, rfl⟩
  | _ => cases h <;> cases hm

/-- … and to normal mode with nothing pending only from normal mode (after `esc` the scanner
remembers `afterEsc`) -/
theorem step_other_inv (s : St) (x : UInt8) (hx : cls x = .other) (st : List Br)
    (h : step s x = ⟨.normal .none, st, true⟩) : ∃ p', s = ⟨.normal p', st, true⟩ := by
  obtain ⟨m', hm', rfl⟩ := step_other_inv_weak s x hx _ st rfl h
  cases m' with
  | normal p' => exact ⟨p', rfl⟩
  | esc => cases h
  | _ => cases hm'

theorem cls_nl : cls 10 = .other := by decide
theorem cls_semi : cls 59 = .other := by decide
theorem cls_sp : cls 32 = .other := by decide

end Writer
