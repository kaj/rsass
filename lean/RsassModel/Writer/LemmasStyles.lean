/-
Writer family (C08) — the two styles write the same normal form: induction over the tree.
-/
import RsassModel.Writer.LemmasNorm
namespace Writer

theorem atomEq_F {a : Atom} (h : atomEq a = true) : F a.e = F a.c := by
  simp [atomEq] at h
  exact h.1

theorem atomEq_empty {a : Atom} (h : atomEq a = true) : a.e.isEmpty = a.c.isEmpty := by
  simp only [atomEq, Bool.and_eq_true, beq_iff_eq] at h
  exact h.2

theorem writeComment_same (q : WQuirks) (text : Bytes) {be bc : Buf} (h : Same be.rev bc.rev) :
    Same (writeComment q .expanded text be).rev (writeComment q .compressed text bc).rev := by
  unfold writeComment
  split
  · exact same_addStr h (by decide)
  · refine same_addStr (same_addStr (same_addStr (doIndentNoNl_same h) rfl) ?_) (by decide)
    rw [F_commentText, F_commentText]

theorem F_atArgsText (q : WQuirks) (s : Style) (a : Atom) : F (atArgsText q s a) = F (a.get s) := by
  unfold atArgsText
  split
  · exact F_map_nl _
  · rfl

theorem writeAtHead_same (q : WQuirks) (name : Bytes) (args : Option Atom) {be bc : Buf}
    (h : Same be.rev bc.rev) (ha : optAtomEq args = true) :
    Same (writeAtHead q .expanded name args be).rev (writeAtHead q .compressed name args bc).rev := by
  unfold writeAtHead
  have h1 := same_addStr (same_addStr (doIndentNoNl_same h) (pe := [64]) (pc := [64]) rfl)
    (pe := name) (pc := name) rfl
  cases args with
  | none => exact h1
  | some a =>
    refine same_addStr (same_addStr h1 rfl) ?_
    rw [F_atArgsText, F_atArgsText]
    exact atomEq_F ha

theorem optNl_same {be bc : Buf} (h : Same be.rev bc.rev) :
    Same (be.optNl .expanded).rev (bc.optNl .compressed).rev := by
  rw [show bc.optNl .compressed = bc from rfl]
  unfold Buf.optNl
  split
  · exact h
  · exact h
  · exact h
  · exact same_ws_e h (p := [10]) (by decide)

mutual
theorem writeNode_same (q : WQuirks) : ∀ (n : Node) (be bc : Buf), Same be.rev bc.rev → nodeEq n = true →
    Same (writeNode q .expanded n be).rev (writeNode q .compressed n bc).rev
  | .comment text, be, bc, h, _ => by
    simpa only [writeNode] using writeComment_same q text h
  | .import_ a, be, bc, h, ha => by
    simp only [nodeEq] at ha
    simp only [writeNode, Buf.addOne]
    exact same_addStr (same_addStr (same_addStr (doIndentNoNl_same h) rfl) (atomEq_F ha)) (by decide)
  | .prop name value, be, bc, h, ha => by
    simp only [nodeEq] at ha
    simp only [writeNode, Buf.addOne]
    refine same_addStr (same_addStr (same_addStr (same_addStr (doIndentNoNl_same h) rfl)
      (by decide)) ?_) (by decide)
    rw [F_map_nl, F_map_nl]
    exact atomEq_F ha
  | .custom name value quoted, be, bc, h, _ => by
    simp only [writeNode, Buf.addOne, Style.isCompressed]
    have h1 := same_addStr (same_addStr (doIndentNoNl_same h) (pe := name) (pc := name) rfl)
      (pe := [58]) (pc := [58]) rfl
    cases quoted
    · exact same_addStr (same_addStr h1 rfl) (by decide)
    · exact same_addStr (same_addStr (same_ws_e h1 (p := [32]) (by decide)) rfl) (by decide)
  | .rule sel body, be, bc, h, ha => by
    simp only [writeNode]
    split
    · exact h
    · cases sel with
      | none => exact h
      | some a =>
        simp only [nodeEq, optAtomEq, Bool.and_eq_true] at ha
        refine endBlock_same (writeNodes_same q body _ _ (startBlock_same ?_) ha.2)
        -- the two texts are empty together, so both styles take the same branch
        rw [show (a.get .expanded).isEmpty = (a.get .compressed).isEmpty from atomEq_empty ha.1]
        split
        · exact same_addStr (doIndentNoNl_same h) rfl
        · exact same_addStr (doIndentNoNl_same h) (atomEq_F ha.1)
  | .media args body, be, bc, h, ha => by
    simp only [nodeEq, Bool.and_eq_true] at ha
    simp only [writeNode]
    split
    · exact h
    · refine endBlock_same (writeNodes_same q body _ _ (startBlock_same ?_) ha.2)
      exact same_addStr (same_addStr (doIndentNoNl_same h) rfl) (atomEq_F ha.1)
  | .atLeaf name args, be, bc, h, ha => by
    simp only [nodeEq] at ha
    simp only [writeNode, Buf.addOne]
    exact same_addStr (writeAtHead_same q name args h ha) (by decide)
  | .atBlock name args body, be, bc, h, ha => by
    simp only [nodeEq, Bool.and_eq_true] at ha
    simp only [writeNode]
    have h1 := writeAtHead_same q name args h ha.1
    cases hsc : singleComment body with
    | some c =>
      simp only [Buf.addOne]
      refine same_addStr (same_popNl (writeComment_same q c ?_)) (by decide)
      exact same_addStr h1 (by decide)
    | none =>
      simp only []
      exact endBlock_same (writeNodes_same q body _ _ (startBlock_same h1) ha.2)
  | .separator, be, bc, h, _ => by
    simpa only [writeNode] using optNl_same h
theorem writeNodes_same (q : WQuirks) : ∀ (ns : Nodes) (be bc : Buf), Same be.rev bc.rev → nodesEq ns = true →
    Same (writeNodes q .expanded ns be).rev (writeNodes q .compressed ns bc).rev
  | .nil, _, _, h, _ => h
  | .cons n ns, be, bc, h, ha => by
    simp only [nodesEq, Bool.and_eq_true] at ha
    simp only [writeNodes]
    exact writeNodes_same q ns _ _ (writeNode_same q n be bc h ha.1) ha.2
end

end Writer
