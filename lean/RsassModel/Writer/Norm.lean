/-
Writer family (C08) — the normalisation under which the two output styles are compared in
the writer theorem: the encoding mark is removed, every white-space byte is removed, and a
`;` that is followed by `}` or by the end of the output is removed.
(This is coarser than the tokenizer of the property's oracle in props/C08.py in one respect:
white space is dropped everywhere, also between two words. It keeps `;` between declarations,
every brace, and every other byte.)  Model file (imports only Writer/Tree.lean).
-/
import RsassModel.Writer.Tree
namespace Writer

def isWs (x : UInt8) : Bool := x = 32 || x = 10 || x = 9 || x = 13 || x = 12

/-- remove white space -/
def F (r : Bytes) : Bytes := r.filter fun x => !isWs x

/-- On a reversed white-space-free buffer: drop each `;` that (in output order) is followed
by `}` — `afterBrace` says that the bytes seen so far (i.e. those that follow in output order)
begin with `}` or are the end of the output. -/
def dsbAux : Bool → Bytes → Bytes
  | _, [] => []
  | afterBrace, x :: r =>
    if x = 125 then 125 :: dsbAux true r
    else if x = 59 && afterBrace then dsbAux true r
    else x :: dsbAux false r

/-- normal form of a reversed buffer (trailing `;` kept) -/
def D (rev : Bytes) : Bytes := dsbAux false (F rev)
/-- normal form of a reversed complete output (trailing `;` dropped) -/
def NR (rev : Bytes) : Bytes := dsbAux true (F rev)

def bom : Bytes := [0xEF, 0xBB, 0xBF]

/-- remove the byte-order mark, or the `@charset "UTF-8";\n` line of a non-ASCII output -/
def stripMark (out : Bytes) : Bytes :=
  if bom.isPrefixOf out then out.drop 3
  else if !isAscii out && (mark .expanded).isPrefixOf out then out.drop (mark .expanded).length
  else out

/-- the normalisation, on bytes in output order -/
def norm (out : Bytes) : Bytes := (NR (stripMark out).reverse).reverse

/-- two texts of an atom are equal up to white space (and empty together) -/
def atomEq (a : Atom) : Bool := F a.e == F a.c && (a.e.isEmpty == a.c.isEmpty)

def optAtomEq : Option Atom → Bool
  | none => true
  | some a => atomEq a

mutual
def nodeEq : Node → Bool
  | .comment _ => true
  | .import_ a => atomEq a
  | .prop _ value => atomEq value
  | .custom _ _ _ => true
  | .rule sel body => optAtomEq sel && nodesEq body
  | .media args body => atomEq args && nodesEq body
  | .atLeaf _ args => optAtomEq args
  | .atBlock _ args body => optAtomEq args && nodesEq body
  | .separator => true
def nodesEq : Nodes → Bool
  | .nil => true
  | .cons n ns => nodeEq n && nodesEq ns
end

end Writer
