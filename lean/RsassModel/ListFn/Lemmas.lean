/- Lemmas for the C28 theorems: the equations of `indexOf`, `setNth`, `findIdx` and `minLen`,
`==` on map entries seen as list elements, and the definitions the C28 statements use
(`sepRule`, `indexDeviates`, `hasTrailingComma`). -/
import RsassModel.ListFn.Model
namespace ListFn

theorem indexOf_pos (n : Int) (len : Nat) (h1 : 1 ≤ n) (h2 : n ≤ len) :
    indexOf n len = some (n - 1).toNat :=
  if_pos ⟨h1, h2⟩

theorem indexOf_neg (n : Int) (len : Nat) (h1 : -(len : Int) ≤ n) (h2 : n ≤ -1) :
    indexOf n len = some ((len : Int) + n).toNat :=
  (if_neg fun h => by omega).trans (if_pos ⟨by omega, h1⟩)

theorem indexOf_none (n : Int) (len : Nat) (h : n = 0 ∨ (len : Int) < n ∨ n < -(len : Int)) :
    indexOf n len = none :=
  (if_neg fun h => by omega).trans (if_neg fun h => by omega)

theorem indexOf_lt (n : Int) (len k : Nat) (h : indexOf n len = some k) : k < len := by
  unfold indexOf at h
  split at h
  · cases h
    omega
  · split at h
    · cases h
      omega
    · cases h

theorem indexArg_lt (i : Idx) (len k : Nat) (h : indexArg i len = some k) : k < len := by
  cases i with
  | int n => exact indexOf_lt n len k h
  | bad => cases h

theorem setNth_eq (v x : Val) (i : Idx) :
    setNth v i x = match indexArg i (getList v).1.length with
      | none => .err
      | some n =>
        if n < (getList v).1.length then .val (.list ((getList v).1.set n x) (getList v).2.1 (getList v).2.2)
        else .panic :=
  rfl

theorem findIdx_some (p : Val → Bool) (l : List Val) (i r : Nat) (h : findIdx p l i = some r) :
    ∃ k e, r = i + k ∧ l[k]? = some e ∧ p e = true ∧
      ∀ j e', j < k → l[j]? = some e' → p e' = false := by
  fun_induction findIdx p l i with
  | case1 => cases h
  | case2 x xs i hp =>
    cases h
    exact ⟨0, x, rfl, rfl, hp, fun j e' hj => absurd hj (Nat.not_lt_zero j)⟩
  | case3 x xs i hp ih =>
    obtain ⟨k, e, hr, he, hpe, hmin⟩ := ih h
    refine ⟨k + 1, e, by omega, he, hpe, fun j e' hj hje => ?_⟩
    cases j with
    | zero =>
      cases hje
      exact Bool.eq_false_iff.mpr hp
    | succ j => exact hmin j e' (Nat.lt_of_succ_lt_succ hj) hje

theorem findIdx_eq_none_iff (p : Val → Bool) (l : List Val) (i : Nat) :
    findIdx p l i = none ↔ ∀ e ∈ l, p e = false := by
  fun_induction findIdx p l i with
  | case1 => exact ⟨nofun, fun _ => rfl⟩
  | case2 x xs i hp =>
    rw [List.forall_mem_cons, hp]
    exact ⟨nofun, fun h => nomatch h.1⟩
  | case3 x xs i hp ih =>
    rw [List.forall_mem_cons, ih]
    exact ⟨fun h => ⟨Bool.eq_false_iff.mpr hp, h⟩, fun h => h.2⟩

theorem findIdx_congr (p q : Val → Bool) (l : List Val) (i : Nat)
    (h : ∀ e, e ∈ l → p e = q e) : findIdx p l i = findIdx q l i := by
  induction l generalizing i with
  | nil => rfl
  | cons x xs ih =>
    simp only [findIdx]
    rw [h x (by simp), ih (i + 1) (fun e he => h e (by simp [he]))]

theorem minLen_le (ls : List (List Val)) : ∀ l, l ∈ ls → minLen ls ≤ l.length := by
  induction ls with
  | nil => simp
  | cons a as ih =>
    intro l hl
    cases as with
    | nil => simp at hl; subst hl; simp [minLen]
    | cons b bs =>
      simp only [minLen]
      cases hl with
      | head => exact Nat.min_le_left _ _
      | tail _ hl => exact Nat.le_trans (Nat.min_le_right _ _) (ih l hl)

theorem minLen_attained (ls : List (List Val)) (h : ls ≠ []) : ∃ l, l ∈ ls ∧ minLen ls = l.length := by
  induction ls with
  | nil => exact absurd rfl h
  | cons a as ih =>
    cases as with
    | nil => exact ⟨a, by simp, by simp [minLen]⟩
    | cons b bs =>
      obtain ⟨l, hl, he⟩ := ih (by simp)
      simp only [minLen]
      by_cases hc : a.length ≤ minLen (b :: bs)
      · exact ⟨a, by simp, by rw [Nat.min_eq_left hc]⟩
      · refine ⟨l, by simp [hl], ?_⟩
        rw [Nat.min_eq_right (by omega)]; exact he

theorem veqList_length : ∀ (a b : List Val), veqList a b = true → a.length = b.length
  | [], [], _ => rfl
  | x :: xs, y :: ys, h => by
    change (veq x y && veqList xs ys) = true at h
    exact congrArg (· + 1) (veqList_length xs ys (Bool.and_eq_true_iff.mp h).2)
  | [], _ :: _, h => by cases h
  | _ :: _, [], h => by cases h

theorem veq_pair_true (p : Val × Val) (x : Val) (h : veq (pairV p) x = true) :
    ∃ a b, x = .list [a, b] .space false := by
  cases x with
  | list l s b =>
    change (veqList [p.1, p.2] l && decide (Sep.space = s) && (false == b)) = true at h
    rw [Bool.and_eq_true, Bool.and_eq_true, decide_eq_true_eq, beq_iff_eq] at h
    obtain ⟨⟨hl, rfl⟩, rfl⟩ := h
    match l, veqList_length _ _ hl with
    | [a, c], _ => exact ⟨a, c, rfl⟩
  | map m =>
    change (([p.1, p.2] : List Val).isEmpty && m.isEmpty) = true at h
    cases h
  | _ => cases h

theorem veq_pair_two (k w a b : Val) :
    veq (pairV (k, w)) (.list [a, b] .space false) = (veq k a && veq w b) := by
  change (veq k a && (veq w b && true) && decide (Sep.space = Sep.space) && (false == false)) = _
  rw [Bool.and_true, decide_eq_true rfl, Bool.and_true]
  exact Bool.and_true _

/-- no entry of a map is `==` to a value that is not an unbracketed space pair, so the
specified `index` finds nothing -/
theorem spec_none (m : List (Val × Val)) (x : Val) (h : ∀ a b, x ≠ .list [a, b] .space false) :
    findIdx (fun e => veq e x) (m.map pairV) 0 = none := by
  rw [findIdx_eq_none_iff]
  intro e he
  obtain ⟨p, _, rfl⟩ := List.mem_map.mp he
  cases hv : veq (pairV p) x with
  | false => rfl
  | true =>
    obtain ⟨a, b, rfl⟩ := veq_pair_true p x hv
    exact absurd rfl (h a b)

theorem index_map_asis (m : List (Val × Val)) (x : Val) (h : ∀ l s, x ≠ .list l s true) :
    index asis (.map m) x = index spec (.map m) x := by
  simp only [index, asis, spec, if_true, Bool.false_eq_true, if_false]
  split
  · next a c bra =>
    cases bra with
    | true => exact absurd rfl (h _ _)
    | false =>
      congr 1
      apply findIdx_congr
      intro e he
      obtain ⟨⟨k, w⟩, _, rfl⟩ := List.mem_map.mp he
      exact (veq_pair_two k w a c).symm
  · next hx =>
    rw [spec_none m x fun a b e => hx a b false e]
    rfl

/-- the separator rule of the statement: the explicit argument, else the first list that
has a (decided) separator, else space -/
def sepRule (explicit : Sep) (lists : List Sep) : Sep :=
  if explicit ≠ .undecided then explicit
  else match lists.find? (· ≠ .undecided) with
    | some s => s
    | none => .space

theorem sepRule_cons (e s : Sep) (ls : List Sep) : sepRule e (s :: ls) = sepRule (e.or s) ls := by
  cases e <;> cases s <;> rfl

theorem sepRule_nil (e : Sep) : sepRule e [] = e.or .space := by
  cases e <;> rfl

/-- when does the code's `index` take a deviating path: the list is an argument list, or
it is a map and the value is a bracketed list -/
def indexDeviates : Val → Val → Bool
  | .arglist _ _ _, _ => true
  | .map _, .list _ _ true => true
  | _, _ => false

/-- an argument list built by a call with a trailing comma -/
def hasTrailingComma : Val → Bool
  | .arglist _ _ true => true
  | _ => false

theorem iterItems_asis_eq (v : Val) (h : hasTrailingComma v = false) :
    iterItems asis v = iterItems spec v := by
  cases v with
  | arglist pos named tc =>
    cases tc with
    | true => cases h
    | false => rfl
  | _ => rfl

end ListFn
