/- Lemmas for C15.  More fuel does not change a result of either parser, and both parsers read
back every well-formed token list (`WF`: arbitrary redundant parentheses), the layered one under
every quirk setting for the trees whose operators sit on their Sass level (`Clean`). -/
import RsassModel.Expr.Prec
namespace Expr

/-- The three functions of the Sass grammar together, since they call each other. -/
theorem sMono : ∀ f : Nat,
    (∀ ts, sPrimary f ts ≠ .oof → sPrimary (f + 1) ts = sPrimary f ts) ∧
    (∀ p ts, sExpr f p ts ≠ .oof → sExpr (f + 1) p ts = sExpr f p ts) ∧
    (∀ p a ts, sClimb f p a ts ≠ .oof → sClimb (f + 1) p a ts = sClimb f p a ts)
  | 0 => ⟨fun _ h => absurd rfl h, fun _ _ h => absurd rfl h, fun _ _ _ h => absurd rfl h⟩
  | f + 1 => by
    obtain ⟨ih1, ih2, ih3⟩ := sMono f
    refine ⟨fun ts h => ?_, fun p ts h => ?_, fun p a ts h => ?_⟩
    · match ts with
      | .neg :: r | .knot :: r =>
        have h' : sPrimary f r ≠ .oof := fun hc => h (by simp only [sPrimary, hc])
        simp only [sPrimary, ih1 r h']
      | .lp :: r =>
        have h' : sExpr f 0 r ≠ .oof := fun hc => h (by simp only [sPrimary, hc])
        simp only [sPrimary, ih2 0 r h']
      | [] | .num _ :: _ | .tt :: _ | .ff :: _ | .rp :: _ | .bop _ :: _ => rfl
    · have h' : sPrimary f ts ≠ .oof := fun hc => h (by simp only [sExpr, hc])
      simp only [sExpr, ih1 ts h']
      cases hq : sPrimary f ts with
      | ok a r => exact ih3 p a r fun hc => h (by simp only [sExpr, hq, hc])
      | _ => rfl
    · match ts with
      | .bop o :: r =>
        by_cases hp : p ≤ lvl o
        · have h' : sExpr f (lvl o + 1) r ≠ .oof := fun hc => h (by simp only [sClimb, hp, if_true, hc])
          simp only [sClimb, hp, if_true, ih2 _ r h']
          cases hq : sExpr f (lvl o + 1) r with
          | ok b r' => exact ih3 p _ r' fun hc => h (by simp only [sClimb, hp, if_true, hq, hc])
          | _ => rfl
        · simp only [sClimb, hp, if_false]
      | [] | .num _ :: _ | .tt :: _ | .ff :: _ | .rp :: _ | .lp :: _ | .neg :: _ | .knot :: _ => rfl

theorem sPrimary_mono {f g : Nat} (h : f ≤ g) (ts : List Tok) (hn : sPrimary f ts ≠ .oof) :
    sPrimary g ts = sPrimary f ts := by
  induction h with
  | refl => rfl
  | step _ ih => rw [(sMono _).1 ts (by rw [ih]; exact hn), ih]

theorem sExpr_mono {f g : Nat} (h : f ≤ g) (p : Nat) (ts : List Tok) (hn : sExpr f p ts ≠ .oof) :
    sExpr g p ts = sExpr f p ts := by
  induction h with
  | refl => rfl
  | step _ ih => rw [(sMono _).2.1 p ts (by rw [ih]; exact hn), ih]

theorem sClimb_mono {f g : Nat} (h : f ≤ g) (p : Nat) (a : Ex) (ts : List Tok)
    (hn : sClimb f p a ts ≠ .oof) : sClimb g p a ts = sClimb f p a ts := by
  induction h with
  | refl => rfl
  | step _ ih => rw [(sMono _).2.2 p a ts (by rw [ih]; exact hn), ih]

/-- the token list does not start with a binary operator of level ≥ `p` -/
def okAt (p : Nat) : List Tok → Prop
  | .bop o :: _ => lvl o < p
  | _ => True

theorem okAt_mono {p q : Nat} (h : p ≤ q) : ∀ ts, okAt p ts → okAt q ts
  | .bop _ :: _, h' => Nat.lt_of_lt_of_le h' h
  | [], _ | .num _ :: _, _ | .tt :: _, _ | .ff :: _, _ | .lp :: _, _ | .rp :: _, _ | .neg :: _, _
  | .knot :: _, _ => trivial

theorem sClimb_stop (g p : Nat) (a : Ex) : ∀ ts, okAt p ts → sClimb (g + 1) p a ts = .ok a ts
  | .bop o :: r, h => if_neg (Nat.not_le_of_gt h)
  | [], _ | .num _ :: _, _ | .tt :: _, _ | .ff :: _, _ | .lp :: _, _ | .rp :: _, _ | .neg :: _, _
  | .knot :: _, _ => rfl

theorem sClimb_pos {g p : Nat} {a : Ex} {ts : List Tok} {r : PR}
    (h : sClimb g p a ts = r) (hr : r ≠ .oof) : 1 ≤ g := by
  cases g with
  | zero => simp [sClimb] at h; exact absurd h.symm hr
  | succ g => omega

theorem wrap_length (b : Bool) (ts : List Tok) :
    (wrap b ts).length = ts.length + (if b then 2 else 0) := by
  cases b <;> simp [wrap]

theorem prec_le (e : Ex) : prec e ≤ 6 := by
  cases e with
  | bin o a b => cases o <;> simp [prec, lvl]
  | _ => simp [prec]

theorem lMono (q : Quirks) : ∀ f : Nat,
    (∀ ts, singleValue q f ts ≠ .oof → singleValue q (f + 1) ts = singleValue q f ts) ∧
    (∀ k ts, layer q f k ts ≠ .oof → layer q (f + 1) k ts = layer q f k ts) ∧
    (∀ k a ts, foldLoop q f k a ts ≠ .oof → foldLoop q (f + 1) k a ts = foldLoop q f k a ts)
  | 0 => ⟨fun _ h => absurd rfl h, fun _ _ h => absurd rfl h, fun _ _ _ h => absurd rfl h⟩
  | f + 1 => by
    obtain ⟨ih1, ih2, ih3⟩ := lMono q f
    refine ⟨fun ts h => ?_, fun k ts h => ?_, fun k a ts h => ?_⟩
    · match ts with
      | .neg :: r | .knot :: r =>
        have h' : singleValue q f r ≠ .oof := fun hc => h (by simp only [singleValue, hc])
        simp only [singleValue, ih1 r h']
      | .lp :: r =>
        have h' : layer q f 0 r ≠ .oof := fun hc => h (by simp only [singleValue, hc])
        simp only [singleValue, ih2 0 r h']
      | [] | .num _ :: _ | .tt :: _ | .ff :: _ | .rp :: _ | .bop _ :: _ => rfl
    · rw [layer]
      conv => rhs; rw [layer]
      by_cases hk : 6 ≤ k
      · simp only [hk, if_true]
        exact ih1 ts fun hc => h (by simp only [layer, hk, if_true, hc])
      · have h' : layer q f (k + 1) ts ≠ .oof := fun hc => h (by simp only [layer, hk, if_false, hc])
        simp only [hk, if_false, ih2 _ ts h']
        cases hq : layer q f (k + 1) ts with
        | ok a r => exact ih3 k a r fun hc => h (by simp only [layer, hk, if_false, hq, hc])
        | _ => rfl
    · match ts with
      | .bop o :: r =>
        by_cases hp : rsLvl q o = k
        · have h' : layer q f (rhsLayer q k) r ≠ .oof := fun hc => h (by simp only [foldLoop, hp, if_true, hc])
          simp only [foldLoop, hp, if_true, ih2 _ r h']
          cases hq : layer q f (rhsLayer q k) r with
          | ok b r' => exact ih3 k _ r' fun hc => h (by simp only [foldLoop, hp, if_true, hq, hc])
          | _ => rfl
        · simp only [foldLoop, hp, if_false]
      | [] | .num _ :: _ | .tt :: _ | .ff :: _ | .rp :: _ | .lp :: _ | .neg :: _ | .knot :: _ => rfl

theorem singleValue_mono (q : Quirks) {f g : Nat} (h : f ≤ g) (ts : List Tok)
    (hn : singleValue q f ts ≠ .oof) : singleValue q g ts = singleValue q f ts := by
  induction h with
  | refl => rfl
  | step _ ih => rw [(lMono q _).1 ts (by rw [ih]; exact hn), ih]

theorem layer_mono (q : Quirks) {f g : Nat} (h : f ≤ g) (k : Nat) (ts : List Tok)
    (hn : layer q f k ts ≠ .oof) : layer q g k ts = layer q f k ts := by
  induction h with
  | refl => rfl
  | step _ ih => rw [(lMono q _).2.1 k ts (by rw [ih]; exact hn), ih]

theorem foldLoop_mono (q : Quirks) {f g : Nat} (h : f ≤ g) (k : Nat) (a : Ex) (ts : List Tok)
    (hn : foldLoop q f k a ts ≠ .oof) : foldLoop q g k a ts = foldLoop q f k a ts := by
  induction h with
  | refl => rfl
  | step _ ih => rw [(lMono q _).2.2 k a ts (by rw [ih]; exact hn), ih]

/-- every operator of `e` is folded by the layer of its Sass level and its right operand is
parsed by the next tighter layer -/
def Clean (q : Quirks) : Ex → Prop
  | .bin o a b => rsLvl q o = lvl o ∧ rhsLayer q (lvl o) = lvl o + 1 ∧ Clean q a ∧ Clean q b
  | .neg e => Clean q e
  | .not e => Clean q e
  | _ => True

/-- the token list does not start with a binary operator of level ≥ `p`, and if it starts
with an operator at all that operator sits on its Sass level -/
def okAtQ (q : Quirks) (p : Nat) : List Tok → Prop
  | .bop o :: _ => lvl o < p ∧ rsLvl q o = lvl o
  | _ => True

theorem okAtQ_mono (q : Quirks) {p p' : Nat} (h : p ≤ p') : ∀ ts, okAtQ q p ts → okAtQ q p' ts
  | .bop _ :: _, h' => ⟨Nat.lt_of_lt_of_le h'.1 h, h'.2⟩
  | [], _ | .num _ :: _, _ | .tt :: _, _ | .ff :: _, _ | .lp :: _, _ | .rp :: _, _ | .neg :: _, _
  | .knot :: _, _ => trivial

theorem rsLvl_spec (o : BOp) : rsLvl spec o = lvl o := by cases o <;> rfl
theorem rhsLayer_spec (k : Nat) : rhsLayer spec k = k + 1 := by simp [rhsLayer, spec]

theorem clean_spec : ∀ e : Ex, Clean spec e
  | .num _ => trivial
  | .bool _ => trivial
  | .neg e => clean_spec e
  | .not e => clean_spec e
  | .bin o a b => ⟨rsLvl_spec o, rhsLayer_spec _, clean_spec a, clean_spec b⟩

/-- an operator sits on its Sass level unless a parser flag that is on moves it: `andOrSameLevel`
moves `and` to layer 0 and makes the right operand of `or` the same layer, `relEqSameLevel` moves
`==`/`!=` to layer 3 -/
theorem clean_op (q : Quirks) (o : BOp) (h1 : q.andOrSameLevel = true → o ≠ .and ∧ o ≠ .or)
    (h2 : q.relEqSameLevel = true → o ≠ .eq ∧ o ≠ .ne) :
    rsLvl q o = lvl o ∧ rhsLayer q (lvl o) = lvl o + 1 := by
  have pos : ∀ k, k ≠ 0 → rhsLayer q k = k + 1 := fun k hk => by simp [rhsLayer, hk]
  cases o
  case or =>
    have hA : q.andOrSameLevel = false := Bool.eq_false_iff.mpr fun h => (h1 h).2 rfl
    exact ⟨rfl, by simp [rhsLayer, hA]⟩
  case and =>
    have hA : q.andOrSameLevel = false := Bool.eq_false_iff.mpr fun h => (h1 h).1 rfl
    exact ⟨by simp [rsLvl, hA, lvl], pos 1 (by decide)⟩
  case eq =>
    have hR : q.relEqSameLevel = false := Bool.eq_false_iff.mpr fun h => (h2 h).1 rfl
    exact ⟨by simp [rsLvl, hR, lvl], pos 2 (by decide)⟩
  case ne =>
    have hR : q.relEqSameLevel = false := Bool.eq_false_iff.mpr fun h => (h2 h).2 rfl
    exact ⟨by simp [rsLvl, hR, lvl], pos 2 (by decide)⟩
  all_goals exact ⟨rfl, pos _ (by decide)⟩

theorem okAtQ_spec (p : Nat) : ∀ ts, okAt p ts → okAtQ spec p ts
  | .bop o :: _, h => ⟨h, rsLvl_spec o⟩
  | [], _ | .num _ :: _, _ | .tt :: _, _ | .ff :: _, _ | .lp :: _, _ | .rp :: _, _ | .neg :: _, _
  | .knot :: _, _ => trivial

theorem foldLoop_stop (q : Quirks) (g k : Nat) (a : Ex) :
    ∀ ts, okAtQ q k ts → foldLoop q (g + 1) k a ts = .ok a ts
  | .bop o :: r, h => if_neg fun e => Nat.ne_of_lt h.1 (h.2.symm.trans e)
  | [], _ | .num _ :: _, _ | .tt :: _, _ | .ff :: _, _ | .lp :: _, _ | .rp :: _, _ | .neg :: _, _
  | .knot :: _, _ => rfl

theorem layer_pos {q : Quirks} {f k : Nat} {ts : List Tok} {e : Ex} {rest : List Tok}
    (h : layer q f k ts = .ok e rest) : 1 ≤ f := by
  cases f with
  | zero => simp [layer] at h
  | succ f => omega

theorem foldLoop_pos {q : Quirks} {g k : Nat} {a : Ex} {ts : List Tok} {r : PR}
    (h : foldLoop q g k a ts = r) (hr : r ≠ .oof) : 1 ≤ g := by
  cases g with
  | zero => simp [foldLoop] at h; exact absurd h.symm hr
  | succ g => omega

/-- a result of layer `j` whose rest does not start with an operator of level ≥ `k` is
also the result of every looser layer `k ≤ j` -/
theorem layer_lift {q : Quirks} {f j : Nat} {ts : List Tok} {e : Ex} {rest : List Tok}
    (h : layer q f j ts = .ok e rest) (hj : j ≤ 6) :
    ∀ d k, k + d = j → okAtQ q k rest → layer q (f + d) k ts = .ok e rest := by
  intro d
  induction d with
  | zero => intro k hk _; simp at hk; subst hk; exact h
  | succ d ih =>
    intro k hk hok
    have hf := layer_pos h
    have h1 := ih (k + 1) (by omega) (okAtQ_mono q (by omega) rest hok)
    have hk6 : ¬ 6 ≤ k := by omega
    obtain ⟨f0, rfl⟩ : ∃ f0, f = f0 + 1 := ⟨f - 1, by omega⟩
    have e1 : f0 + 1 + (d + 1) = (f0 + 1 + d) + 1 := by omega
    rw [e1, layer]
    simp only [hk6, if_false, h1]
    have e2 : f0 + 1 + d = (f0 + d) + 1 := by omega
    rw [e2]
    exact foldLoop_stop q _ k e rest hok

/-- well-formed token lists: `WF e ts p` — `ts` denotes `e` and may stand wherever an
operand of level ≤ `p` is allowed (6 = atom, unary, or anything in parentheses) -/
inductive WF : Ex → List Tok → Nat → Prop
  | num (n : Nat) : WF (.num n) [.num n] 6
  | tt : WF (.bool true) [.tt] 6
  | ff : WF (.bool false) [.ff] 6
  | neg {e ts} : WF e ts 6 → WF (.neg e) (.neg :: ts) 6
  | not {e ts} : WF e ts 6 → WF (.not e) (.knot :: ts) 6
  | paren {e ts p} : WF e ts p → WF e (.lp :: ts ++ [.rp]) 6
  | bin {o a b tsa tsb pa pb} : WF a tsa pa → WF b tsb pb → lvl o ≤ pa → lvl o + 1 ≤ pb →
      WF (.bin o a b) (tsa ++ .bop o :: tsb) (lvl o)

theorem lvl_le5 (o : BOp) : lvl o ≤ 5 := by cases o <;> simp [lvl]

theorem WF.le6 {e ts p} (h : WF e ts p) : p ≤ 6 := by
  cases h with
  | @bin o _ _ _ _ _ _ _ _ _ _ => exact Nat.le_trans (lvl_le5 o) (by omega)
  | _ => exact Nat.le_refl _

/-- `ST e ts p0`: the Sass grammar reads the token list `ts` as the tree `e`, where `ts` may stand
as an operand of level `p0`.  As an operand of a unary operator or inside parentheses (`p0 = 6`)
`sPrimary` reads it; followed by `rest` it is read by `sExpr` at every level `p ≤ p0`, and the
result is that of the climbing loop started on `e` and `rest`, whatever that is.  Fuel: every
token costs at most two nested calls (`sExpr` → `sPrimary`, or `sClimb` → `sExpr`), hence
`2 * ts.length`, plus the fuel `g` the loop needs afterwards. -/
def ST (e : Ex) (ts : List Tok) (p0 : Nat) : Prop :=
  1 ≤ ts.length ∧
  (p0 = 6 → ∀ rest f, 2 * ts.length ≤ f → sPrimary f (ts ++ rest) = .ok e rest) ∧
  (∀ p rest g r f, p ≤ p0 → okAt (p0 + 1) rest → sClimb g p e rest = r → r ≠ .oof →
      g + 2 * ts.length ≤ f → sExpr f p (ts ++ rest) = r)

theorem st_of_prim {e : Ex} {ts : List Tok} (hl : 1 ≤ ts.length)
    (hA : ∀ rest f, 2 * ts.length ≤ f → sPrimary f (ts ++ rest) = .ok e rest) : ST e ts 6 := by
  refine ⟨hl, fun _ => hA, ?_⟩
  intro p rest g r f _ _ hc hr hf
  have hg := sClimb_pos hc hr
  obtain ⟨f1, rfl⟩ : ∃ f1, f = f1 + 1 := ⟨f - 1, by omega⟩
  rw [sExpr, hA rest f1 (by omega)]
  simp only []
  rw [sClimb_mono (f := g) (by omega) p e rest (by rw [hc]; exact hr), hc]

theorem st_paren {e : Ex} {ts : List Tok} {p0 : Nat} (he : ST e ts p0) :
    ST e (Tok.lp :: ts ++ [Tok.rp]) 6 := by
  apply st_of_prim (by simp)
  intro rest f hf
  have hl : (Tok.lp :: ts ++ [Tok.rp]).length = ts.length + 2 := by simp
  rw [hl] at hf
  obtain ⟨f2, rfl⟩ : ∃ f2, f = f2 + 1 := ⟨f - 1, by omega⟩
  have hin : sExpr f2 0 (ts ++ Tok.rp :: rest) = .ok e (Tok.rp :: rest) :=
    he.2.2 0 (Tok.rp :: rest) 1 _ f2 (Nat.zero_le _) trivial
      (sClimb_stop 0 0 e _ trivial) (by simp) (by omega)
  simp only [List.cons_append, List.append_assoc, List.nil_append]
  rw [sPrimary, hin]

theorem st_atom {t : Tok} {e : Ex} (ht : ∀ f r, sPrimary (f + 1) (t :: r) = .ok e r) : ST e [t] 6 :=
  st_of_prim (Nat.le_refl 1) fun rest f hf => by
    obtain ⟨f1, rfl⟩ : ∃ f1, f = f1 + 1 := ⟨f - 1, by simp at hf; omega⟩
    exact ht f1 rest

theorem st_unary {t : Tok} {u : Ex → Ex}
    (ht : ∀ f r e rest, sPrimary f r = .ok e rest → sPrimary (f + 1) (t :: r) = .ok (u e) rest)
    {e : Ex} {ts : List Tok} (he : ST e ts 6) : ST (u e) (t :: ts) 6 := by
  apply st_of_prim (by simp)
  intro rest f hf
  have hl : (t :: ts).length = ts.length + 1 := by simp
  rw [hl] at hf
  obtain ⟨f1, rfl⟩ : ∃ f1, f = f1 + 1 := ⟨f - 1, by omega⟩
  exact ht f1 _ e rest (he.2.1 rfl rest f1 (by omega))

/-- one iteration of the climbing loop: after the right operand the loop goes on with `a op b` -/
theorem sClimb_step {f g p : Nat} {o : BOp} {a b : Ex} {ts rest : List Tok} {r : PR} (hp : p ≤ lvl o)
    (h1 : sExpr f (lvl o + 1) ts = .ok b rest) (hc : sClimb g p (.bin o a b) rest = r) (hr : r ≠ .oof) :
    sClimb (max g f + 1) p a (.bop o :: ts) = r := by
  rw [sClimb]
  simp only [hp, if_true]
  rw [sExpr_mono (Nat.le_max_right g f) _ _ (by rw [h1]; nofun), h1]
  simp only []
  rw [sClimb_mono (Nat.le_max_left g f) p _ rest (by rw [hc]; exact hr), hc]

theorem st_bin {o : BOp} {a b : Ex} {tsa tsb : List Tok} {pa pb : Nat}
    (ha : ST a tsa pa) (hb : ST b tsb pb) (hpa : lvl o ≤ pa) (hpb : lvl o + 1 ≤ pb) :
    ST (.bin o a b) (tsa ++ Tok.bop o :: tsb) (lvl o) := by
  have hla := ha.1
  have hlb := hb.1
  have hl : (tsa ++ Tok.bop o :: tsb).length = tsa.length + 1 + tsb.length := by
    rw [List.length_append, List.length_cons, Nat.add_assoc, Nat.add_comm 1]
  refine ⟨by omega, fun h => absurd h (by cases o <;> simp [lvl]), ?_⟩
  intro p rest g r f hp hok hc hr hf
  have hg := sClimb_pos hc hr
  rw [hl] at hf
  have hpm : (tsa ++ Tok.bop o :: tsb) ++ rest = tsa ++ (Tok.bop o :: (tsb ++ rest)) := by simp
  rw [hpm]
  have h1 : sExpr (1 + 2 * tsb.length) (lvl o + 1) (tsb ++ rest) = .ok b rest :=
    hb.2.2 (lvl o + 1) rest 1 _ _ hpb (okAt_mono (by omega) rest hok)
      (sClimb_stop 0 _ b rest hok) (by simp) (Nat.le_refl _)
  exact ha.2.2 p _ _ r f (by omega) (by simp [okAt]; omega) (sClimb_step hp h1 hc hr) hr (by omega)

theorem st_of_wf : ∀ {e ts p}, WF e ts p → ST e ts p := by
  intro e ts p h
  induction h with
  | num n => exact st_atom fun _ _ => rfl
  | tt => exact st_atom fun _ _ => rfl
  | ff => exact st_atom fun _ _ => rfl
  | neg _ ih => exact st_unary (fun f r e rest h => by simp only [sPrimary, h]) ih
  | not _ ih => exact st_unary (fun f r e rest h => by simp only [sPrimary, h]) ih
  | paren _ ih => exact st_paren ih
  | bin _ _ hpa hpb iha ihb => exact st_bin iha ihb hpa hpb

theorem parseSass_of_st {e : Ex} {ts : List Tok} {p : Nat} (h : ST e ts p) :
    parseSass ts = some e := by
  have h0 := h.2.2 0 [] 1 (.ok e []) (fuelFor ts) (Nat.zero_le _) trivial
    (sClimb_stop 0 0 e [] trivial) (by simp) (by simp [fuelFor]; omega)
  rw [List.append_nil] at h0
  simp [parseSass, h0, complete]

/-- `LT q e ts p0`: the same for the layered parser under the quirk setting `q`, with `singleValue`
for `sPrimary`, layer `p0` for `sExpr` and its fold for the climbing loop.  Fuel: a token is
reached through at most the seven layers and `singleValue`, hence `8 * ts.length`. -/
def LT (q : Quirks) (e : Ex) (ts : List Tok) (p0 : Nat) : Prop :=
  1 ≤ ts.length ∧
  (p0 = 6 → ∀ rest f, 8 * ts.length ≤ f → singleValue q f (ts ++ rest) = .ok e rest) ∧
  (p0 < 6 → ∀ rest g r f, okAtQ q (p0 + 1) rest → foldLoop q g p0 e rest = r →
      r ≠ .oof → g + 8 * ts.length ≤ f → layer q f p0 (ts ++ rest) = r)

theorem lt_layer {q : Quirks} {e : Ex} {ts : List Tok} {p0 : Nat} (he : LT q e ts p0) (h6 : p0 ≤ 6) (k : Nat)
    (rest : List Tok) (f : Nat) (hk : k ≤ p0) (hok : okAtQ q k rest)
    (hf : 8 * ts.length + 8 ≤ f) : layer q f k (ts ++ rest) = .ok e rest := by
  have hl := he.1
  by_cases hp : p0 = 6
  · have h0 : layer q (8 * ts.length + 1) p0 (ts ++ rest) = .ok e rest := by
      rw [layer, hp]
      simp only [Nat.le_refl, if_true]
      exact he.2.1 hp rest _ (Nat.le_refl _)
    have h1 := layer_lift h0 h6 (p0 - k) k (by omega) hok
    rw [layer_mono q (f := 8 * ts.length + 1 + (p0 - k)) (by omega) k _
      (by rw [h1]; simp), h1]
  · have h0 : layer q (1 + 8 * ts.length) p0 (ts ++ rest) = .ok e rest :=
      he.2.2 (by omega) rest 1 _ _ (okAtQ_mono q (by omega) rest hok)
        (foldLoop_stop q 0 _ e rest (okAtQ_mono q hk rest hok)) (by simp) (Nat.le_refl _)
    have h1 := layer_lift h0 h6 (p0 - k) k (by omega) hok
    rw [layer_mono q (f := 1 + 8 * ts.length + (p0 - k)) (by omega) k _
      (by rw [h1]; simp), h1]

theorem lt_of_prim {q : Quirks} {e : Ex} {ts : List Tok} (hl : 1 ≤ ts.length)
    (hA : ∀ rest f, 8 * ts.length ≤ f → singleValue q f (ts ++ rest) = .ok e rest) : LT q e ts 6 :=
  ⟨hl, fun _ => hA, fun h => absurd h (by omega)⟩

theorem lt_paren {q : Quirks} {e : Ex} {ts : List Tok} {p0 : Nat} (he : LT q e ts p0) (h6 : p0 ≤ 6) :
    LT q e (Tok.lp :: ts ++ [Tok.rp]) 6 := by
  apply lt_of_prim (by simp)
  intro rest f hf
  have hl : (Tok.lp :: ts ++ [Tok.rp]).length = ts.length + 2 := by simp
  rw [hl] at hf
  obtain ⟨f2, rfl⟩ : ∃ f2, f = f2 + 1 := ⟨f - 1, by omega⟩
  have hin : layer q f2 0 (ts ++ Tok.rp :: rest) = .ok e (Tok.rp :: rest) :=
    lt_layer he h6 0 _ _ (Nat.zero_le _) trivial (by omega)
  simp only [List.cons_append, List.append_assoc, List.nil_append]
  rw [singleValue, hin]

theorem lt_atom {q : Quirks} {t : Tok} {e : Ex} (ht : ∀ f r, singleValue q (f + 1) (t :: r) = .ok e r) :
    LT q e [t] 6 :=
  lt_of_prim (Nat.le_refl 1) fun rest f hf => by
    obtain ⟨f1, rfl⟩ : ∃ f1, f = f1 + 1 := ⟨f - 1, by simp at hf; omega⟩
    exact ht f1 rest

theorem lt_unary {q : Quirks} {t : Tok} {u : Ex → Ex}
    (ht : ∀ f r e rest, singleValue q f r = .ok e rest → singleValue q (f + 1) (t :: r) = .ok (u e) rest)
    {e : Ex} {ts : List Tok} (he : LT q e ts 6) : LT q (u e) (t :: ts) 6 := by
  apply lt_of_prim (by simp)
  intro rest f hf
  have hl : (t :: ts).length = ts.length + 1 := by simp
  rw [hl] at hf
  obtain ⟨f1, rfl⟩ : ∃ f1, f = f1 + 1 := ⟨f - 1, by omega⟩
  exact ht f1 _ e rest (he.2.1 rfl rest f1 (by omega))

/-- one iteration of the fold of layer `k`: after the right operand the fold goes on with `a op b` -/
theorem foldLoop_step {q : Quirks} {f g k : Nat} {o : BOp} {a b : Ex} {ts rest : List Tok} {r : PR}
    (hk : rsLvl q o = k) (h1 : layer q f (rhsLayer q k) ts = .ok b rest)
    (hc : foldLoop q g k (.bin o a b) rest = r) (hr : r ≠ .oof) :
    foldLoop q (max g f + 1) k a (.bop o :: ts) = r := by
  rw [foldLoop]
  simp only [hk, if_true]
  rw [layer_mono q (Nat.le_max_right g f) _ _ (by rw [h1]; nofun), h1]
  simp only []
  rw [foldLoop_mono q (Nat.le_max_left g f) k _ rest (by rw [hc]; exact hr), hc]

theorem lt_bin {q : Quirks} {o : BOp} {a b : Ex} {tsa tsb : List Tok} {pa pb : Nat}
    (hco : rsLvl q o = lvl o) (hcr : rhsLayer q (lvl o) = lvl o + 1)
    (ha : LT q a tsa pa) (hb : LT q b tsb pb) (ha6 : pa ≤ 6) (hb6 : pb ≤ 6)
    (hpa : lvl o ≤ pa) (hpb : lvl o + 1 ≤ pb) :
    LT q (.bin o a b) (tsa ++ Tok.bop o :: tsb) (lvl o) := by
  have hla := ha.1
  have hlb := hb.1
  have ho5 := lvl_le5 o
  have hl : (tsa ++ Tok.bop o :: tsb).length = tsa.length + 1 + tsb.length := by
    rw [List.length_append, List.length_cons, Nat.add_assoc, Nat.add_comm 1]
  refine ⟨by omega, fun h => absurd h (by omega), ?_⟩
  intro _ rest g r f hok hc hr hf
  have hg := foldLoop_pos hc hr
  rw [hl] at hf
  have hpm : (tsa ++ Tok.bop o :: tsb) ++ rest = tsa ++ (Tok.bop o :: (tsb ++ rest)) := by simp
  rw [hpm]
  have h2 : foldLoop q (max g (8 * tsb.length + 8) + 1) (lvl o) a (Tok.bop o :: (tsb ++ rest)) = r :=
    foldLoop_step hco (hcr ▸ lt_layer hb hb6 (lvl o + 1) rest _ hpb hok (Nat.le_refl _)) hc hr
  by_cases hpe : pa = lvl o
  · have := ha.2.2 (by omega) (Tok.bop o :: (tsb ++ rest)) _ r f
      (by simp [okAtQ, hco]; omega) (by rw [hpe]; exact h2) hr (by omega)
    rw [hpe] at this
    exact this
  · obtain ⟨f1, rfl⟩ : ∃ f1, f = f1 + 1 := ⟨f - 1, by omega⟩
    have hk6 : ¬ 6 ≤ lvl o := by omega
    rw [layer]
    simp only [hk6, if_false]
    have h3 : layer q f1 (lvl o + 1) (tsa ++ Tok.bop o :: (tsb ++ rest)) =
        .ok a (Tok.bop o :: (tsb ++ rest)) :=
      lt_layer ha ha6 (lvl o + 1) _ f1 (by omega) (by simp [okAtQ, hco]) (by omega)
    rw [h3]
    simp only []
    rw [foldLoop_mono q (f := max g (8 * tsb.length + 8) + 1) (by omega) _ _ _
      (by rw [h2]; exact hr), h2]

theorem lt_of_wf (q : Quirks) : ∀ {e ts p}, WF e ts p → Clean q e → LT q e ts p := by
  intro e ts p h
  induction h with
  | num n => exact fun _ => lt_atom fun _ _ => rfl
  | tt => exact fun _ => lt_atom fun _ _ => rfl
  | ff => exact fun _ => lt_atom fun _ _ => rfl
  | neg _ ih => exact fun hc => lt_unary (fun f r e rest h => by simp only [singleValue, h]) (ih hc)
  | not _ ih => exact fun hc => lt_unary (fun f r e rest h => by simp only [singleValue, h]) (ih hc)
  | paren h ih => exact fun hc => lt_paren (ih hc) h.le6
  | bin h1 h2 hpa hpb iha ihb =>
    exact fun hc => lt_bin hc.1 hc.2.1 (iha hc.2.2.1) (ihb hc.2.2.2) h1.le6 h2.le6 hpa hpb

theorem parseRsass_of_lt {q : Quirks} {e : Ex} {ts : List Tok} {p : Nat} (h : LT q e ts p) (h6 : p ≤ 6) :
    parseRsass q ts = some e := by
  have h0 := lt_layer h h6 0 [] (rsFuelFor ts) (Nat.zero_le _) trivial (by simp [rsFuelFor]; omega)
  rw [List.append_nil] at h0
  simp [parseRsass, singleExpression, h0, complete]

end Expr
