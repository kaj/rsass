/-
Core/LemmasArgs.lean — lemmas about Core/Args.lean used by Theorems/C18.lean: keys of association
lists (`hasKey` after `eraseAssoc`/`setAssoc`, `eraseAll`), the loop `bindRemaining`, `bindPlan` past
its guards with one lemma per error condition, and the distinct-keys invariant of `CallArgs.named`.
-/
import RsassModel.Core.Args
import RsassModel.Core.LemmasScope
namespace Core

theorem hasKey_eraseAssoc {β} (x y : Name) (m : List (Name × β)) :
    hasKey y (eraseAssoc x m) = (!decide (y = x) && hasKey y m) := by
  simp only [hasKey, getAssoc_eraseAssoc]
  split <;> simp [*]

theorem hasKey_iff_mem {β} (x : Name) (m : List (Name × β)) :
    hasKey x m = true ↔ x ∈ m.map (·.1) := by
  induction m with
  | nil => simp [hasKey, getAssoc]
  | cons a r ih =>
    by_cases hy : a.1 = x
    · simp [hasKey, getAssoc, hy]
    · have : ¬ x = a.1 := fun h => hy h.symm
      simp only [hasKey, getAssoc, hy, if_false, List.map_cons, List.mem_cons, this, false_or]
      exact ih

theorem eraseAssoc_of_getAssoc_none {β} {x : Name} {m : List (Name × β)} (h : getAssoc x m = none) :
    eraseAssoc x m = m := by
  induction m with
  | nil => rfl
  | cons a t ih =>
    obtain ⟨y, w⟩ := a
    by_cases hy : y = x
    · simp [getAssoc, hy] at h
    · simp only [getAssoc, hy, if_false] at h
      simp [eraseAssoc, hy, ih h]

/-- `m` with the names of all parameters in `l` removed -/
def eraseAll {β} (l : List (Name × Option Expr)) (m : List (Name × β)) : List (Name × β) :=
  l.foldl (fun m p => eraseAssoc (normName p.1) m) m

theorem hasKey_eraseAll {β} (l : List (Name × Option Expr)) (m : List (Name × β)) (y : Name) :
    hasKey y (eraseAll l m) = (hasKey y m && !(l.any fun p => normName p.1 = y)) := by
  induction l generalizing m with
  | nil => simp [eraseAll]
  | cons p r ih =>
    simp only [eraseAll, List.foldl_cons] at ih ⊢
    rw [ih]
    by_cases hy : y = normName p.1
    · subst hy; simp [hasKey_eraseAssoc]
    · have : ¬ normName p.1 = y := fun h => hy h.symm
      simp [hasKey_eraseAssoc, hy, this]

theorem bindRemaining_missing (l : List (Name × Option Expr)) (m : List (Name × V))
    (h : l.any (fun p => !hasKey (normName p.1) m && p.2.isNone) = true) :
    bindRemaining l m = .error .err := by
  obtain ⟨q, hq, hq2⟩ := List.any_eq_true.mp h
  simp only [Bool.and_eq_true, Bool.not_eq_true', Option.isNone_iff_eq_none] at hq2
  clear h
  induction l generalizing m with
  | nil => cases hq
  | cons p r ih =>
    obtain ⟨x, d⟩ := p
    simp only [bindRemaining, omRemove]
    cases hg : getAssoc (normName x) m with
    | some v =>
      -- the head is bound, so `q` is in the tail, and erasing a name keeps `q` absent
      have hqr : q ∈ r := by
        rcases List.mem_cons.mp hq with rfl | hqr
        · simp [hasKey, hg] at hq2
        · exact hqr
      have hk : hasKey (normName q.1) (eraseAssoc (normName x) m) = false := by
        rw [hasKey_eraseAssoc, hq2.1, Bool.and_false]
      simp only [ih _ hqr ⟨hk, hq2.2⟩]
    | none =>
      cases d with
      | none => rfl
      | some e =>
        have hqr : q ∈ r := by
          rcases List.mem_cons.mp hq with rfl | hqr
          · simp at hq2
          · exact hqr
        simp only [ih _ hqr hq2]

theorem bindRemaining_ok (l : List (Name × Option Expr)) (m : List (Name × V))
    (hnd : (l.map fun p => normName p.1).Nodup)
    (h : l.any (fun p => !hasKey (normName p.1) m && p.2.isNone) = false) :
    ∃ bs, bindRemaining l m = .ok (bs, eraseAll l m)
      ∧ bs.map (·.1) = l.map (fun p => normName p.1)
      ∧ ∀ i (hi : i < l.length), ∃ b, bs[i]? = some (normName l[i].1, b) ∧
          (match getAssoc (normName l[i].1) m with
           | some v => b = Binding.val v
           | none => ∃ e, l[i].2 = some e ∧ b = Binding.dflt e) := by
  induction l generalizing m with
  | nil => exact ⟨[], by simp [bindRemaining, eraseAll], rfl, by intro i hi; simp at hi⟩
  | cons p r ih =>
    obtain ⟨x, d⟩ := p
    simp only [List.map_cons, List.nodup_cons] at hnd
    simp only [List.any_cons, Bool.or_eq_false_iff] at h
    obtain ⟨hp, hr⟩ := h
    simp only [bindRemaining, omRemove]
    have hne : ∀ q ∈ r, normName q.1 ≠ normName x := by
      intro q hq heq
      exact hnd.1 (List.mem_map.mpr ⟨q, hq, heq⟩)
    cases hg : getAssoc (normName x) m with
    | some v =>
      simp only
      have hr' : r.any (fun p => !hasKey (normName p.1) (eraseAssoc (normName x) m) && p.2.isNone) = false := by
        rw [List.any_eq_false] at hr ⊢
        intro q hq
        have := hr q hq
        simpa only [hasKey_eraseAssoc, hne q hq, decide_false, Bool.not_false, Bool.true_and] using this
      obtain ⟨bs, hb, hnames, hval⟩ := ih (eraseAssoc (normName x) m) hnd.2 hr'
      refine ⟨(normName x, .val v) :: bs, ?_, ?_, ?_⟩
      · rw [hb]
        rfl
      · rw [List.map_cons, hnames]
        rfl
      · intro i hi
        cases i with
        | zero => exact ⟨.val v, rfl, by simp only [List.getElem_cons_zero, hg]⟩
        | succ j =>
          have hj : j < r.length := Nat.lt_of_succ_lt_succ hi
          obtain ⟨b, hb1, hb2⟩ := hval j hj
          rw [getAssoc_eraseAssoc, if_neg (hne r[j] (List.getElem_mem hj))] at hb2
          exact ⟨b, hb1, hb2⟩
    | none =>
      simp only
      cases d with
      | none => simp [hasKey, hg] at hp
      | some e =>
        simp only
        obtain ⟨bs, hb, hnames, hval⟩ := ih m hnd.2 hr
        have herase : eraseAll ((x, some e) :: r) m = eraseAll r m := by
          simp [eraseAll, eraseAssoc_of_getAssoc_none hg]
        refine ⟨(normName x, .dflt e) :: bs, ?_, ?_, ?_⟩
        · rw [hb, herase]
        · rw [List.map_cons, hnames]
          rfl
        · intro i hi
          cases i with
          | zero =>
            refine ⟨.dflt e, rfl, ?_⟩
            simp only [List.getElem_cons_zero, hg]
            exact ⟨e, rfl, rfl⟩
          | succ j => exact hval j (Nat.lt_of_succ_lt_succ hi)

theorem bindRemaining_result (l : List (Name × Option Expr)) (m : List (Name × V)) :
    match bindRemaining l m with
    | .error e => e = .err
    | .ok (_, nm) => nm = eraseAll l m := by
  induction l generalizing m with
  | nil => simp [bindRemaining, eraseAll]
  | cons p r ih =>
    obtain ⟨x, d⟩ := p
    simp only [bindRemaining, omRemove]
    cases hg : getAssoc (normName x) m with
    | some v =>
      simp only
      have := ih (eraseAssoc (normName x) m)
      revert this
      cases bindRemaining r (eraseAssoc (normName x) m) <;> exact id
    | none =>
      cases d with
      | none => simp
      | some e =>
        simp only
        have := ih m
        rw [eraseAll, List.foldl_cons, eraseAssoc_of_getAssoc_none hg]
        revert this
        cases bindRemaining r m <;> exact id

theorem zip_take_take {α β} : ∀ (ps : List α) (pos : List β),
    (ps.take (pos.take ps.length).length).zip (pos.take ps.length) = ps.zip pos := by
  intro ps
  induction ps with
  | nil => intro pos; simp
  | cons p r ih =>
    intro pos
    cases pos with
    | nil => simp
    | cons v vs => simpa [List.length_take] using ih vs

theorem drop_take_length {α β} (ps : List α) (pos : List β) :
    ps.drop (pos.take ps.length).length = ps.drop pos.length := by
  rw [List.length_take]
  by_cases h : pos.length ≤ ps.length
  · rw [Nat.min_eq_right h]
  · have h' : ps.length ≤ pos.length := by omega
    rw [Nat.min_eq_left h', List.drop_eq_nil_of_le (Nat.le_refl _), List.drop_eq_nil_of_le h']

theorem eq_nil_of_no_key {β} (m : List (Name × β)) (h : ∀ y, hasKey y m = false) : m = [] := by
  cases m with
  | nil => rfl
  | cons a t =>
    have := h a.1
    simp [hasKey, getAssoc] at this

theorem bindPlan_tooMany {q : ArgQuirks} {ps : Params} {c : CallArgs} (hr : ps.rest = none)
    (h : c.pos.length + c.named.length > ps.ps.length) : bindPlan q ps c = .error .err := by
  simp [bindPlan, hr, h]

theorem bindPlan_dup {q : ArgQuirks} {ps : Params} {c : CallArgs} (hq : q.restSwallowsDup = false)
    (h : (ps.ps.take c.pos.length).any (fun p => hasKey (normName p.1) c.named) = true) :
    bindPlan q ps c = .error .err := by
  have hB : (!q.restSwallowsDup && (ps.ps.take c.pos.length).any fun p => hasKey (normName p.1) c.named) = true := by
    simp [hq, h]
  unfold bindPlan
  simp only [hB, if_true]
  split <;> rfl

theorem bindPlan_of_guards {q : ArgQuirks} {ps : Params} {c : CallArgs}
    (hA : ps.rest = none → c.pos.length + c.named.length ≤ ps.ps.length)
    (hB : q.restSwallowsDup = false →
      (ps.ps.take c.pos.length).any (fun p => hasKey (normName p.1) c.named) = false) :
    bindPlan q ps c =
      match bindRemaining (ps.ps.drop c.pos.length) c.named with
      | .error e => .error e
      | .ok (b2, named') =>
        match ps.rest with
        | some r =>
          .ok { binds := ((ps.ps.zip c.pos).map fun (p, v) => (normName p.1, Binding.val v)) ++ b2,
                rest := some (normName r,
                  if q.onlyNamedRest && (c.pos.drop ps.ps.length).isEmpty && named'.length == 1 then
                    match getAssoc (normName r) named' with
                    | some v => RestVal.direct v
                    | none => RestVal.arglist (c.pos.drop ps.ps.length) named'
                  else RestVal.arglist (c.pos.drop ps.ps.length) named') }
        | none =>
          if named'.isEmpty then
            .ok { binds := ((ps.ps.zip c.pos).map fun (p, v) => (normName p.1, Binding.val v)) ++ b2, rest := none }
          else .error .err := by
  have hA' : ¬ ((ps.rest.isNone && decide (c.pos.length + c.named.length > ps.ps.length)) = true) := by
    cases hr : ps.rest with
    | none => simpa using hA hr
    | some r => simp
  have hB' : ¬ ((!q.restSwallowsDup && (ps.ps.take c.pos.length).any fun p => hasKey (normName p.1) c.named) = true) := by
    cases hq : q.restSwallowsDup with
    | false => simp [hB hq]
    | true => simp
  unfold bindPlan
  rw [if_neg hA', if_neg hB']
  simp only [drop_take_length, zip_take_take]
  rfl

theorem bindPlan_missing {q : ArgQuirks} {ps : Params} {c : CallArgs}
    (h : (ps.ps.drop c.pos.length).any (fun p => !hasKey (normName p.1) c.named && p.2.isNone) = true) :
    bindPlan q ps c = .error .err := by
  by_cases hA : ps.rest = none ∧ c.pos.length + c.named.length > ps.ps.length
  · exact bindPlan_tooMany hA.1 hA.2
  by_cases hB : q.restSwallowsDup = false ∧
      (ps.ps.take c.pos.length).any (fun p => hasKey (normName p.1) c.named) = true
  · exact bindPlan_dup hB.1 hB.2
  rw [bindPlan_of_guards (fun hr => Nat.le_of_not_gt fun hgt => hA ⟨hr, hgt⟩) (fun hq => eq_false_of_ne_true fun hX => hB ⟨hq, hX⟩),
    bindRemaining_missing _ _ h]

theorem bindPlan_leftover {q : ArgQuirks} {ps : Params} {c : CallArgs} (hr : ps.rest = none) {y : Name}
    (hy : hasKey y c.named = true) (hlate : (ps.ps.drop c.pos.length).any (fun p => normName p.1 = y) = false) :
    bindPlan q ps c = .error .err := by
  by_cases hA : c.pos.length + c.named.length > ps.ps.length
  · exact bindPlan_tooMany hr hA
  by_cases hB : q.restSwallowsDup = false ∧
      (ps.ps.take c.pos.length).any (fun p => hasKey (normName p.1) c.named) = true
  · exact bindPlan_dup hB.1 hB.2
  rw [bindPlan_of_guards (fun _ => Nat.le_of_not_gt hA) (fun hq => eq_false_of_ne_true fun hX => hB ⟨hq, hX⟩)]
  have hres := bindRemaining_result (ps.ps.drop c.pos.length) c.named
  cases hbr : bindRemaining (ps.ps.drop c.pos.length) c.named with
  | error e =>
    rw [hbr] at hres
    rw [hres]
  | ok res =>
    obtain ⟨b2, nm⟩ := res
    rw [hbr] at hres
    have hk : hasKey y nm = true := by
      rw [hres, hasKey_eraseAll, hy, hlate]
      rfl
    have : nm.isEmpty = false := by
      cases nm with
      | nil => simp [hasKey, getAssoc] at hk
      | cons a t => rfl
    simp [hr, this]

theorem nodup_keys_setAssoc {β} (x : Name) (v : β) (m : List (Name × β)) (h : (m.map (·.1)).Nodup) :
    ((setAssoc x v m).map (·.1)).Nodup := by
  induction m with
  | nil => simp [setAssoc]
  | cons a r ih =>
    obtain ⟨y, w⟩ := a
    simp only [List.map_cons, List.nodup_cons] at h
    by_cases hy : y = x
    · subst hy
      simpa [setAssoc] using h
    · simp only [setAssoc, hy, if_false, List.map_cons, List.nodup_cons]
      refine ⟨fun hmem => ?_, ih h.2⟩
      rw [← hasKey_iff_mem, hasKey, getAssoc_setAssoc, if_neg hy] at hmem
      exact h.1 ((hasKey_iff_mem _ _).mp hmem)

theorem nodup_keys_spread (acc : CallArgs) (v : V) (acc' : CallArgs)
    (h : (acc.named.map (·.1)).Nodup) (hs : spread acc v = .ok acc') : (acc'.named.map (·.1)).Nodup := by
  cases v with
  | atom a =>
    cases a <;> simp [spread] at hs <;> subst hs <;> exact h
  | list xs c | blist xs c =>
    simp [spread] at hs
    subst hs
    exact h
  | map kv =>
    simp only [spread, Except.ok.injEq] at hs
    subst hs
    simp only
    generalize acc.named = m at h
    induction kv generalizing m with
    | nil => simpa using h
    | cons a r ih =>
      simp only [List.foldl_cons]
      exact ih _ (nodup_keys_setAssoc _ _ _ h)
  | arglist pos named =>
    simp only [spread] at hs
    cases hadd : spread.addNamed acc.named named with
    | error e => simp [hadd] at hs
    | ok m' =>
      simp only [hadd, Except.ok.injEq] at hs
      subst hs
      simp only
      generalize acc.named = m at h hadd
      induction named generalizing m with
      | nil =>
        simp [spread.addNamed] at hadd
        subst hadd
        exact h
      | cons a r ih =>
        obtain ⟨k, w⟩ := a
        simp only [spread.addNamed, omInsert] at hadd
        by_cases hk : hasKey k m = true
        · simp [hk] at hadd
        · simp only [hk, Bool.false_eq_true, if_false] at hadd
          exact ih _ (nodup_keys_setAssoc _ _ _ h) hadd

theorem hasKey_setAssoc {β} (x y : Name) (v : β) (m : List (Name × β)) :
    hasKey y (setAssoc x v m) = (decide (y = x) || hasKey y m) := by
  simp only [hasKey, getAssoc_setAssoc]
  split <;> simp [*]

theorem hasKey_foldl_mapSplat (kv : List (List Char × Atom)) :
    ∀ (m : List (Name × V)) (y : Name),
      (hasKey y m = true ∨ ∃ p ∈ kv, normName p.1 = y) →
      hasKey y (kv.foldl (fun m p => (omInsert (normName p.1) (.atom p.2) m).1) m) = true := by
  induction kv with
  | nil =>
    intro m y h
    rcases h with h | ⟨p, hp, _⟩
    · exact h
    · simp at hp
  | cons a r ih =>
    intro m y h
    simp only [List.foldl_cons]
    apply ih
    rcases h with h | ⟨p, hp, hpe⟩
    · exact Or.inl (by rw [omInsert, hasKey_setAssoc, h, Bool.or_true])
    · simp only [List.mem_cons] at hp
      rcases hp with rfl | hp
      · exact Or.inl (by rw [omInsert, hasKey_setAssoc, decide_eq_true hpe.symm, Bool.true_or])
      · exact Or.inr ⟨p, hp, hpe⟩

end Core
