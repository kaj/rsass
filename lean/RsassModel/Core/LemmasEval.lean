/-
Core/LemmasEval.lean — lemmas about the evaluator (Core/Eval.lean): `bindVals` (binding a prefix of
evaluated arguments) with what `runBinds` and a lookup do with it, and the call-free expressions
`Expr.simple`, whose evaluation leaves the state alone (the declaration-only fragment of C16).
-/
import RsassModel.Core.Eval
import RsassModel.Core.LemmasScope
namespace Core

theorem exec_nil (fuel : Nat) (cfg : Cfg) (fn : Bool) (s : Nat) (st : St) :
    exec (fuel + 1) cfg fn s [] st = .ok (none, st) := by
  simp [exec]

def bindVals (h : Heap) (a : Nat) (vs : List (Name × V)) : Heap :=
  vs.foldl (fun h b => insertLocal h a b.1 b.2) h

theorem size_bindVals (a : Nat) : ∀ (vs : List (Name × V)) (h : Heap), (bindVals h a vs).size = h.size := by
  intro vs
  induction vs with
  | nil => intro h; rfl
  | cons b r ih =>
    intro h
    simp only [bindVals, List.foldl_cons] at ih ⊢
    rw [ih]
    simp [insertLocal, size_insertAt]

theorem wf_bindVals (a : Nat) : ∀ (vs : List (Name × V)) (h : Heap), h.WF → (bindVals h a vs).WF := by
  intro vs
  induction vs with
  | nil => intro h wf; exact wf
  | cons b r ih =>
    intro h wf
    simp only [bindVals, List.foldl_cons] at ih ⊢
    exact ih _ (wf_insertAt wf _ _ _)

theorem getAssoc_bindVals_ne (a : Nat) (x : Name) : ∀ (vs : List (Name × V)) (h : Heap), a < h.size →
    x ∉ vs.map (·.1) → getAssoc x (varsAt (bindVals h a vs) a) = getAssoc x (varsAt h a) := by
  intro vs
  induction vs with
  | nil => intro h _ _; rfl
  | cons b r ih =>
    intro h ha hx
    simp only [List.map_cons, List.mem_cons, not_or] at hx
    simp only [bindVals, List.foldl_cons] at ih ⊢
    rw [ih _ (by simp [insertLocal, size_insertAt, ha]) hx.2, insertLocal, varsAt_insertAt_self _ _ ha,
      getAssoc_setAssoc, if_neg hx.1]

theorem getAssoc_bindVals_mem (a : Nat) : ∀ (vs : List (Name × V)) (h : Heap), a < h.size →
    (vs.map (·.1)).Nodup → ∀ b ∈ vs, getAssoc b.1 (varsAt (bindVals h a vs) a) = some b.2 := by
  intro vs
  induction vs with
  | nil => intro h _ _ b hb; simp at hb
  | cons c r ih =>
    intro h ha hnd b hb
    simp only [List.map_cons, List.nodup_cons] at hnd
    have ha' : a < (insertLocal h a c.1 c.2).size := by simp [insertLocal, size_insertAt, ha]
    simp only [List.mem_cons] at hb
    rcases hb with rfl | hb
    · show getAssoc b.1 (varsAt (bindVals (insertLocal h a b.1 b.2) a r) a) = some b.2
      rw [getAssoc_bindVals_ne a b.1 r _ ha' hnd.1, insertLocal, varsAt_insertAt_self _ _ ha,
        getAssoc_setAssoc, if_pos rfl]
    · exact ih _ ha' hnd.2 b hb

theorem lookup_of_declared {h : Heap} (wf : h.WF) {s : Nat} (hs : s < h.size) {x : Name} {v : V}
    (hd : getAssoc x (varsAt h s) = some v) : lookup h s x = some v := by
  obtain ⟨sc, hsc⟩ : ∃ sc, h[s]? = some sc := ⟨h[s], by simp [Array.getElem?_eq_getElem hs]⟩
  unfold lookup
  rw [chain_unfold wf hsc]
  simp [hd]

theorem ghostRead_of_declared {h : Heap} (wf : h.WF) {s : Nat} (hs : s < h.size) {x : Name} {v : V}
    (hd : getAssoc x (varsAt h s) = some v) : ghostRead h s x = false := by
  obtain ⟨sc, hsc⟩ : ∃ sc, h[s]? = some sc := ⟨h[s], by simp [Array.getElem?_eq_getElem hs]⟩
  unfold ghostRead
  rw [chain_unfold wf hsc]
  simp [declares, hd]

theorem runBinds_vals_prefix (cfg : Cfg) (a : Nat) (post : List (Name × Binding)) (f : Nat) :
    ∀ (vs : List (Name × V)) (st : St),
      runBinds (f + vs.length) cfg a (vs.map (fun b => (b.1, Binding.val b.2)) ++ post) st =
        runBinds f cfg a post { st with heap := bindVals st.heap a vs } := by
  intro vs
  induction vs with
  | nil => intro st; rfl
  | cons b r ih =>
    intro st
    simp only [List.length_cons, List.map_cons, List.cons_append]
    rw [show f + (r.length + 1) = (f + r.length) + 1 from by omega, runBinds]
    rw [ih]
    rfl

def Expr.isAtomE : Expr → Bool
  | .null | .num _ | .bool _ | .ident _ | .qstr _ | .var _ => true
  | _ => false

/-- literals, variable reads, and one arithmetic / comparison step over them -/
def Expr.simple : Expr → Bool
  | .add a b | .lt a b | .eq a b => a.isAtomE && b.isAtomE
  | e => e.isAtomE

theorem readVar_state {cfg : Cfg} {s : Nat} {x : Name} {st st' : St} {v : V}
    (h : readVar cfg s x st = .ok (v, st')) : st' = st := by
  unfold readVar at h
  split at h
  · simp at h
  · split at h
    · simp at h; exact h.2.symm
    · simp at h

theorem evalExpr_atom_state {cfg : Cfg} {s : Nat} {e : Expr} (he : e.isAtomE = true) :
    ∀ {fuel : Nat} {st st' : St} {v : V}, evalExpr fuel cfg s e st = .ok (v, st') → st' = st := by
  intro fuel st st' v h
  cases fuel with
  | zero => simp [evalExpr] at h
  | succ f =>
    cases e with
    | var x => exact readVar_state (by simpa only [evalExpr] using h)
    | null | num _ | bool _ | ident _ | qstr _ =>
      simp only [evalExpr, Except.ok.injEq, Prod.mk.injEq] at h
      exact h.2.symm
    | _ => cases he

theorem evalExpr_simple_state {cfg : Cfg} {s : Nat} {e : Expr} (he : e.simple = true) :
    ∀ {fuel : Nat} {st st' : St} {v : V}, evalExpr fuel cfg s e st = .ok (v, st') → st' = st := by
  intro fuel st st' v h
  cases fuel with
  | zero => simp [evalExpr] at h
  | succ f =>
    cases e with
    | add a b | lt a b | eq a b =>
      simp only [Expr.simple, Bool.and_eq_true] at he
      simp only [evalExpr] at h
      cases ha : evalExpr f cfg s a st with
      | error e' => simp [ha] at h
      | ok ra =>
        obtain ⟨va, st1⟩ := ra
        have h1 := evalExpr_atom_state he.1 ha
        subst h1
        simp only [ha] at h
        cases hb : evalExpr f cfg s b st1 with
        | error e' => simp [hb] at h
        | ok rb =>
          obtain ⟨vb, st2⟩ := rb
          have h2 := evalExpr_atom_state he.2 hb
          subst h2
          simp only [hb] at h
          split at h <;> cases h <;> rfl
    | null | num _ | bool _ | ident _ | qstr _ | var _ => exact evalExpr_atom_state (by rfl) h
    | list _ _ | map _ | call _ _ | inspect _ | keywords _ | blist _ _ => simp [Expr.simple, Expr.isAtomE] at he

end Core
