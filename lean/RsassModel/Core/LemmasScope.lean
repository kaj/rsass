/-
Core/LemmasScope.lean — lemmas about the heap of scopes (Core/Scope.lean): association
lists, what a write does to the heap (every write is an `Array.modify` of one scope that keeps
its parent link, so chains never change), the parent chain of a well-formed heap, the walk
`findTarget` as the chain-level `assignSpec`, and the two frame relations `Heap.Ext` /
`Heap.Upd` of Theorems/C16.lean.
-/
import RsassModel.Core.Scope
namespace Core

theorem getAssoc_setAssoc {β} (x y : Name) (v : β) (m : List (Name × β)) :
    getAssoc y (setAssoc x v m) = if y = x then some v else getAssoc y m := by
  induction m with
  | nil => simp [setAssoc, getAssoc, eq_comm]
  | cons a r ih =>
    obtain ⟨z, w⟩ := a
    by_cases hz : z = x
    · subst hz
      by_cases hy : z = y
      · simp [setAssoc, getAssoc, hy]
      · simp [setAssoc, getAssoc, hy, Ne.symm hy]
    · by_cases hy : z = y
      · subst hy
        simp [setAssoc, getAssoc, hz]
      · simp [setAssoc, getAssoc, hz, hy, ih]

theorem getAssoc_eraseAssoc {β} (x y : Name) (m : List (Name × β)) :
    getAssoc y (eraseAssoc x m) = if y = x then none else getAssoc y m := by
  induction m with
  | nil => simp [eraseAssoc, getAssoc]
  | cons a r ih =>
    obtain ⟨z, w⟩ := a
    by_cases hz : z = x
    · subst hz
      by_cases hy : z = y
      · subst hy
        simp [eraseAssoc, ih]
      · simp [eraseAssoc, getAssoc, hy, Ne.symm hy, ih]
    · by_cases hy : z = y
      · subst hy
        simp [eraseAssoc, getAssoc, hz]
      · simp [eraseAssoc, getAssoc, hz, hy, ih]

theorem varsAt_insertAt_self (h : Heap) (t : Nat) (ht : t < h.size) (x : Name) (v : V) :
    varsAt (insertAt h t x v) t = setAssoc x v (varsAt h t) := by
  simp [varsAt, insertAt, ht, Array.getElem_modify]

theorem parentAt_insertAt (h : Heap) (t i : Nat) (x : Name) (v : V) :
    parentAt (insertAt h t x v) i = parentAt h i := by
  by_cases hti : t = i
  · subst hti
    cases hs : h[t]? <;> simp [parentAt, insertAt, Array.getElem?_modify, hs]
  · simp [parentAt, insertAt, Array.getElem?_modify, hti]

theorem size_insertAt (h : Heap) (t : Nat) (x : Name) (v : V) : (insertAt h t x v).size = h.size := by
  simp [insertAt]

theorem getAssoc_restoreLocal_self (h : Heap) (s : Nat) (hs : s < h.size) (x y : Name) (o : Option V) :
    getAssoc y (varsAt (restoreLocal h s x o) s) = if y = x then o else getAssoc y (varsAt h s) := by
  cases o <;>
    simp [restoreLocal, varsAt, hs, Array.getElem_modify, getAssoc_setAssoc, getAssoc_eraseAssoc]

theorem Heap.WF.parent_lt {h : Heap} (wf : h.WF) {i : Nat} {sc : Scope} {p : Nat}
    (hi : h[i]? = some sc) (hp : sc.parent = some p) : p < i := by
  apply wf i p
  simp [parentAt, hi, hp]

theorem wf_init : Heap.init.WF := by
  intro i q hq
  cases i <;> simp [parentAt, Heap.init] at hq

theorem wf_alloc {h : Heap} (wf : h.WF) {p : Nat} (hp : p < h.size) (k : Kind) (fl : Bool) :
    (alloc h p k fl).1.WF := by
  intro i q hq
  by_cases hi : i = h.size
  · subst hi
    simp [parentAt, alloc] at hq
    omega
  · apply wf i q
    simpa [parentAt, alloc, Array.getElem?_push, hi] using hq

theorem wf_insertAt {h : Heap} (wf : h.WF) (t : Nat) (x : Name) (v : V) : (insertAt h t x v).WF := by
  intro i q hq
  rw [parentAt_insertAt] at hq
  exact wf i q hq

theorem chainAux_fuel {h : Heap} (wf : h.WF) :
    ∀ (s fuel : Nat), s + 1 ≤ fuel → chainAux h fuel s = chainAux h (s + 1) s := by
  intro s
  induction s using Nat.strongRecOn with
  | _ s ih =>
    intro fuel hf
    obtain ⟨f, rfl⟩ : ∃ f, fuel = f + 1 := ⟨fuel - 1, by omega⟩
    simp only [chainAux]
    cases hs : h[s]? with
    | none => rfl
    | some sc =>
      simp only
      cases hp : sc.parent with
      | none => rfl
      | some p =>
        have hlt : p < s := wf.parent_lt hs hp
        simp only [ih p hlt f (by omega), ih p hlt s (by omega)]

theorem chain_unfold {h : Heap} (wf : h.WF) {s : Nat} {sc : Scope} (hs : h[s]? = some sc) :
    chain h s = s :: (match sc.parent with
                      | none => []
                      | some p => chain h p) := by
  show chainAux h (s + 1) s = _
  rw [chainAux]
  simp only [hs]
  cases hp : sc.parent with
  | none => rfl
  | some p =>
    simp only [chainAux_fuel wf p s (by have := wf.parent_lt hs hp; omega)]
    rfl

theorem chain_ne_nil {h : Heap} {s : Nat} {sc : Scope} (hs : h[s]? = some sc) : chain h s ≠ [] := by
  simp [chain, chainAux, hs]

theorem rootOf_unfold {h : Heap} (wf : h.WF) {s : Nat} (hs : s < h.size) :
    rootOf h s = match parentAt h s with
                 | none => s
                 | some p => rootOf h p := by
  have hsc := Array.getElem?_eq_getElem hs
  simp only [rootOf, chain_unfold wf hsc, parentAt, hsc]
  cases hp : h[s].parent with
  | none => rfl
  | some p =>
    have hps : p < h.size := by have := wf.parent_lt hsc hp; omega
    obtain ⟨q, r, hc⟩ := List.exists_cons_of_ne_nil (chain_ne_nil (Array.getElem?_eq_getElem hps))
    simp [hc, List.getLast?_eq_some_getLast]

theorem chainAux_mem {h : Heap} : ∀ (fuel s j : Nat), j ∈ chainAux h fuel s →
    (∃ sc, h[j]? = some sc) ∧ (h.WF → j ≤ s) := by
  intro fuel
  induction fuel with
  | zero => intro s j hj; simp [chainAux] at hj
  | succ f ih =>
    intro s j hj
    rw [chainAux] at hj
    cases hs : h[s]? with
    | none => simp [hs] at hj
    | some sc =>
      simp only [hs, List.mem_cons] at hj
      rcases hj with rfl | hj
      · exact ⟨⟨sc, hs⟩, fun _ => Nat.le_refl _⟩
      · cases hp : sc.parent with
        | none => simp [hp] at hj
        | some p =>
          simp only [hp] at hj
          refine ⟨(ih p j hj).1, fun wf => ?_⟩
          have := (ih p j hj).2 wf
          have := wf.parent_lt hs hp
          omega

theorem rootOf_lt {h : Heap} {s : Nat} (hs : s < h.size) : rootOf h s < h.size := by
  unfold rootOf
  cases hg : (chain h s).getLast? with
  | none => simpa using hs
  | some r =>
    obtain ⟨sc, hsc⟩ := (chainAux_mem _ _ _ (List.mem_of_getLast? hg)).1
    simpa using (Array.getElem?_eq_some_iff.mp hsc).1

theorem chainAux_congr {h h' : Heap} (wf : h.WF) :
    ∀ (fuel s : Nat), (∀ j, j ≤ s → h'[j]? = h[j]?) → chainAux h' fuel s = chainAux h fuel s := by
  intro fuel
  induction fuel with
  | zero => intro s _; rfl
  | succ f ih =>
    intro s hag
    rw [chainAux, chainAux, hag s (Nat.le_refl _)]
    cases hs : h[s]? with
    | none => rfl
    | some sc =>
      simp only
      cases hp : sc.parent with
      | none => rfl
      | some p =>
        have hlt := wf.parent_lt hs hp
        simp only [ih p (fun j hj => hag j (by omega))]

theorem findSome?_congr_mem {α β} (l : List α) (f g : α → Option β) (hfg : ∀ a ∈ l, f a = g a) :
    l.findSome? f = l.findSome? g := by
  induction l with
  | nil => rfl
  | cons a r ih =>
    simp only [List.findSome?_cons, hfg a (List.mem_cons_self ..)]
    cases g a with
    | some b => rfl
    | none => exact ih (fun b hb => hfg b (List.mem_cons_of_mem _ hb))

theorem lookup_congr {h h' : Heap} (wf : h.WF) (s : Nat) (hag : ∀ j, j ≤ s → h'[j]? = h[j]?) (y : Name) :
    lookup h' s y = lookup h s y := by
  unfold lookup chain
  rw [chainAux_congr wf (s + 1) s hag]
  apply findSome?_congr_mem
  intro j hj
  simp [varsAt, hag j ((chainAux_mem _ _ _ hj).2 wf)]

/-- the recursion of `findTarget` on the frame abstraction, giving a position in the chain -/
def specIdx : Bool → List (Bool × Bool) → Option Nat
  | _, [] => none
  | af, (d, f) :: r =>
    if d then (if r.isEmpty && !af then none else some 0)
    else (specIdx (af && f) r).map (· + 1)

theorem frames_unfold {h : Heap} (wf : h.WF) {s : Nat} {sc : Scope} (hs : h[s]? = some sc) (x : Name) :
    frames h s x = ((getAssoc x sc.vars).isSome, sc.flow) ::
      (match sc.parent with
       | none => []
       | some p => frames h p x) := by
  simp only [frames, chain_unfold wf hs, List.map_cons, declares, varsAt, flowAt, hs]
  cases sc.parent <;> rfl

/-- the key step of `assign_refines_spec`; strong induction on the scope index, since parents are
older, and any fuel above `cur` gives the same -/
theorem findTarget_eq {h : Heap} (wf : h.WF) (x : Name) :
    ∀ (cur fuel : Nat) (af : Bool), cur + 1 ≤ fuel →
      findTarget h x fuel cur af = (specIdx af (frames h cur x)).bind ((chain h cur)[·]?) := by
  intro cur
  induction cur using Nat.strongRecOn with
  | _ cur ih =>
    intro fuel af hf
    obtain ⟨f, rfl⟩ : ∃ f, fuel = f + 1 := ⟨fuel - 1, by omega⟩
    rw [findTarget]
    cases hs : h[cur]? with
    | none => simp [frames, chain, chainAux, hs, specIdx]
    | some sc =>
      simp only
      rw [frames_unfold wf hs, chain_unfold wf hs, specIdx]
      cases hp : sc.parent with
      | none => cases (getAssoc x sc.vars).isSome <;> cases af <;> rfl
      | some p =>
        have hlt : p < cur := wf.parent_lt hs hp
        have hps : p < h.size := by have := (Array.getElem?_eq_some_iff.mp hs).1; omega
        have hne : frames h p x ≠ [] := by
          simpa [frames] using chain_ne_nil (Array.getElem?_eq_getElem hps)
        cases (getAssoc x sc.vars).isSome with
        | true => simp [hne]
        | false => simp [ih p hlt f (af && sc.flow) (by omega), Option.bind_map, Function.comp_def]

theorem specIdx_findIdx (fr : List (Bool × Bool)) (af : Bool) :
    specIdx af fr = (fr.findIdx? (·.1)).bind fun i =>
      if i + 1 < fr.length ∨ (af = true ∧ (fr.take i).all (·.2) = true) then some i else none := by
  induction fr generalizing af with
  | nil => rfl
  | cons a r ih =>
    obtain ⟨d, f⟩ := a
    cases d with
    | true =>
      cases r with
      | nil => cases af <;> rfl
      | cons b r => simp [specIdx, List.findIdx?_cons]
    | false =>
      simp only [specIdx, ih, List.findIdx?_cons]
      cases r.findIdx? (·.1) with
      | none => rfl
      | some i => simp [Nat.succ_lt_succ_iff, and_assoc]

/-- with `af = true` at the start this is `assignSpec`: both look at the first declaring frame `i`;
if it is not the last they agree on `i`, if it is the last (`i = n - 1`) both ask whether all
frames before it are flow control, and `n ≤ 1` makes every answer `0` -/
theorem specIdx_assignSpec (fr : List (Bool × Bool)) :
    (specIdx true fr).getD 0 = assignSpec false fr := by
  rw [specIdx_findIdx]
  unfold assignSpec
  cases hfi : fr.findIdx? (·.1) with
  | none => simp
  | some i =>
    have hlt : i < fr.length := (List.findIdx?_eq_some_iff_getElem.mp hfi).1
    simp only [Option.bind_some, true_and, Bool.false_eq_true, if_false]
    by_cases h1 : i + 1 < fr.length
    · rw [if_pos (Or.inl h1), if_neg (by omega), if_pos h1]
      rfl
    · obtain rfl : i = fr.length - 1 := by omega
      simp only [h1, false_or, if_false]
      by_cases hn : fr.length ≤ 1
      · rw [if_pos hn]
        split <;> simp <;> omega
      · rw [if_neg hn]
        split <;> rfl

theorem specTarget_eq_assignSpec {h : Heap} (wf : h.WF) {s : Nat} (hs : s < h.size) (x : Name) :
    specTarget h s x = (chain h s).getD (assignSpec false (frames h s x)) s := by
  have hc := chain_unfold wf (Array.getElem?_eq_getElem hs)
  rw [specTarget, findTarget_eq wf x s (s + 1) true (Nat.le_refl _), ← specIdx_assignSpec]
  cases specIdx true (frames h s x) with
  | none => simp [hc]
  | some i => simp [List.getD_eq_getElem?_getD]

theorem rootOf_eq_assignSpec (h : Heap) (s : Nat) (x : Name) :
    rootOf h s = (chain h s).getD (assignSpec true (frames h s x)) s := by
  simp [rootOf, assignSpec, frames, List.getLast?_eq_getElem?, List.getD_eq_getElem?_getD]

theorem findTarget_declares (h : Heap) (x : Name) : ∀ (fuel cur : Nat) (af : Bool) (t : Nat),
    findTarget h x fuel cur af = some t → declares h x t = true := by
  intro fuel
  induction fuel with
  | zero => intro cur af t ht; simp [findTarget] at ht
  | succ f ih =>
    intro cur af t ht
    rw [findTarget] at ht
    cases hs : h[cur]? with
    | none => simp [hs] at ht
    | some sc =>
      simp only [hs] at ht
      split at ht
      next hd =>
        split at ht
        · simp at ht
        · obtain rfl : cur = t := by simpa using ht
          simp [declares, varsAt, hs, hd]
      next =>
        cases hp : sc.parent with
        | none => simp [hp] at ht
        | some p => simp only [hp] at ht; exact ih p _ t ht

/-- `h'` extends `h`: all scopes of `h` are unchanged (new ones may have been allocated) -/
def Heap.Ext (h h' : Heap) : Prop := h.size ≤ h'.size ∧ ∀ i, i < h.size → h'[i]? = h[i]?

theorem Heap.Ext.refl (h : Heap) : h.Ext h := ⟨Nat.le_refl _, fun _ _ => rfl⟩

theorem Heap.Ext.trans {a b c : Heap} (hab : a.Ext b) (hbc : b.Ext c) : a.Ext c :=
  ⟨Nat.le_trans hab.1 hbc.1, fun i hi => by rw [hbc.2 i (by have := hab.1; omega), hab.2 i hi]⟩

theorem Heap.Ext.lookup {h h' : Heap} (wf : h.WF) (he : h.Ext h') {s : Nat} (hs : s < h.size) (y : Name) :
    Core.lookup h' s y = Core.lookup h s y :=
  lookup_congr wf s (fun j hj => he.2 j (by omega)) y

theorem ext_alloc (h : Heap) (p : Nat) (k : Kind) (fl : Bool) : h.Ext (alloc h p k fl).1 := by
  refine ⟨by simp [alloc], fun i hi => ?_⟩
  simp [alloc, Array.getElem?_push, Nat.ne_of_lt hi]

theorem Heap.Ext.modify_newer {h0 h : Heap} (he : h0.Ext h) {t : Nat} (ht : h0.size ≤ t) (f : Scope → Scope) :
    h0.Ext (h.modify t f) := by
  refine ⟨by simpa using he.1, fun i hi => ?_⟩
  rw [Array.getElem?_modify, if_neg (by omega), he.2 i hi]

theorem Heap.Ext.insertAt_newer {h0 h : Heap} (he : h0.Ext h) {t : Nat} (ht : h0.size ≤ t) (x : Name) (v : V) :
    h0.Ext (insertAt h t x v) :=
  he.modify_newer ht _

theorem lookup_alloc {h : Heap} (wf : h.WF) {p : Nat} (hp : p < h.size) (k : Kind) (fl : Bool) (x : Name) :
    lookup (alloc h p k fl).1 (alloc h p k fl).2 x = lookup h p x := by
  have hn : (alloc h p k fl).1[(alloc h p k fl).2]? = some { parent := some p, kind := k, flow := fl } := by
    simp [alloc]
  rw [lookup, chain_unfold (wf_alloc wf hp k fl) hn]
  simp only [List.findSome?_cons, varsAt, hn, getAssoc]
  exact (ext_alloc h p k fl).lookup wf hp x

/-- `h` came from `h0` by allocating new scopes and by *assigning* to variables the old
scopes already declared: every old scope still has the same parent and declares exactly the
names it declared (values may differ). -/
def Heap.Upd (h0 h : Heap) : Prop :=
  h0.size ≤ h.size ∧ ∀ i, i < h0.size → parentAt h i = parentAt h0 i ∧ ∀ y, declares h y i = declares h0 y i

theorem Heap.Upd.refl (h : Heap) : h.Upd h := ⟨Nat.le_refl _, fun _ _ => ⟨rfl, fun _ => rfl⟩⟩

theorem Heap.Ext.toUpd {h0 h : Heap} (he : h0.Ext h) : h0.Upd h :=
  ⟨he.1, fun i hi => by simp [parentAt, declares, varsAt, he.2 i hi]⟩

theorem Heap.Upd.trans {a b c : Heap} (hab : a.Upd b) (hbc : b.Upd c) : a.Upd c := by
  refine ⟨Nat.le_trans hab.1 hbc.1, fun i hi => ?_⟩
  have hib : i < b.size := by have := hab.1; omega
  obtain ⟨p1, d1⟩ := hab.2 i hi
  obtain ⟨p2, d2⟩ := hbc.2 i hib
  exact ⟨p2.trans p1, fun y => (d2 y).trans (d1 y)⟩

theorem Heap.Upd.ite {h0 a b : Heap} {c : Prop} [Decidable c] (ha : h0.Upd a) (hb : h0.Upd b) :
    h0.Upd (if c then a else b) := by
  split <;> assumption

theorem Heap.Upd.modify_newer {h0 h : Heap} (hu : h0.Upd h) {t : Nat} (ht : h0.size ≤ t) (f : Scope → Scope) :
    h0.Upd (h.modify t f) := by
  refine ⟨by simpa using hu.1, fun i hi => ?_⟩
  have hit : t ≠ i := by omega
  simpa only [parentAt, declares, varsAt, Array.getElem?_modify, hit, if_false] using hu.2 i hi

theorem upd_modify_keep (h : Heap) (j : Nat) (f : Scope → Scope)
    (hf : ∀ sc, (f sc).parent = sc.parent ∧ (f sc).vars = sc.vars) : h.Upd (h.modify j f) := by
  refine ⟨by simp, fun i _ => ?_⟩
  by_cases hji : j = i
  · subst hji
    cases hs : h[j]? <;> simp [parentAt, declares, varsAt, Array.getElem?_modify, hs, hf]
  · simp [parentAt, declares, varsAt, Array.getElem?_modify, hji]

theorem upd_markGhosts (h : Heap) (t : Nat) (x : Name) : h.Upd (markGhosts h t x) := by
  unfold markGhosts
  generalize ghostScopes h ((chain h t).drop 1) = l
  induction l generalizing h with
  | nil => exact Heap.Upd.refl h
  | cons j r ih =>
    refine Heap.Upd.trans (upd_modify_keep h j _ fun sc => ?_) (ih _)
    split <;> simp

theorem upd_insertAt_declared (h : Heap) (t : Nat) (x : Name) (v : V) (hd : declares h x t = true) :
    h.Upd (insertAt h t x v) := by
  refine ⟨by rw [size_insertAt]; exact Nat.le_refl _, fun i hi => ⟨parentAt_insertAt h t i x v, fun y => ?_⟩⟩
  by_cases hit : i = t
  · subst hit
    simp only [declares, varsAt_insertAt_self h i hi, getAssoc_setAssoc]
    split
    · subst y; simpa [declares] using hd.symm
    · rfl
  · simp [declares, varsAt, insertAt, Array.getElem?_modify, Ne.symm hit]

/-- the write lands in the executing scope itself or in a scope that already declares the name -/
theorem upd_setVariable_local {h0 h : Heap} (hu : h0.Upd h) (q : ScopeQuirks) {s : Nat} (hs : h0.size ≤ s)
    (x : Name) (v : V) (dflt : Bool) : h0.Upd (setVariable q h s x v dflt false) := by
  unfold setVariable
  generalize (dflt && match lookup h s x with
                      | none => false
                      | some w => !w.isNull) = c
  cases c with
  | true => exact hu
  | false =>
    simp only [Bool.false_eq_true, if_false]
    split
    · exact hu.modify_newer hs _
    · unfold specTarget
      cases ht : findTarget h x (s + 1) s true with
      | none => exact hu.modify_newer hs _
      | some t => exact hu.trans (upd_insertAt_declared h t x v (findTarget_declares h x _ _ _ t ht))

end Core
