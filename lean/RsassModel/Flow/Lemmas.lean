/-
C17 — helper lemmas: the lists `ValueRange` produces, as explicit counting lists.
-/
import RsassModel.Flow.Basic
namespace Flow

/-- `[a, a+1, …]`, `k` elements -/
def countUp : Nat → Int → List Int
  | 0, _ => []
  | k + 1, a => a :: countUp k (a + 1)

/-- `[a, a-1, …]`, `k` elements -/
def countDown : Nat → Int → List Int
  | 0, _ => []
  | k + 1, a => a :: countDown k (a - 1)

theorem countUp_eq_map (k : Nat) (a : Int) : countUp k a = (List.range k).map fun i : Nat => a + i := by
  induction k generalizing a with
  | zero => rfl
  | succ k ih =>
    rw [countUp, ih, List.range_succ_eq_map, List.map_cons, List.map_map]
    simp [Function.comp_def, Int.add_assoc, Int.add_comm 1]

theorem countDown_eq_map (k : Nat) (a : Int) : countDown k a = (List.range k).map fun i : Nat => a - i := by
  induction k generalizing a with
  | zero => rfl
  | succ k ih =>
    rw [countDown, ih, List.range_succ_eq_map, List.map_cons, List.map_map]
    simp [Function.comp_def, Int.sub_sub, Int.add_comm 1]

theorem countUp_length (k : Nat) (a : Int) : (countUp k a).length = k := by
  simp [countUp_eq_map]

theorem countDown_length (k : Nat) (a : Int) : (countDown k a).length = k := by
  simp [countDown_eq_map]

theorem mem_countUp (k : Nat) (a i : Int) : i ∈ countUp k a ↔ a ≤ i ∧ i < a + k := by
  simp only [countUp_eq_map, List.mem_map, List.mem_range]
  exact ⟨fun ⟨j, hj, e⟩ => by omega, fun h => ⟨(i - a).toNat, by omega, by omega⟩⟩

theorem mem_countDown (k : Nat) (a i : Int) : i ∈ countDown k a ↔ i ≤ a ∧ a - k < i := by
  simp only [countDown_eq_map, List.mem_map, List.mem_range]
  exact ⟨fun ⟨j, hj, e⟩ => by omega, fun h => ⟨(a - i).toNat, by omega, by omega⟩⟩

theorem countUp_getElem? (k : Nat) (a : Int) (i : Nat) :
    (countUp k a)[i]? = if i < k then some (a + i) else none := by
  simp only [countUp_eq_map, List.getElem?_map]
  split <;> simp [*]

theorem countDown_getElem? (k : Nat) (a : Int) (i : Nat) :
    (countDown k a)[i]? = if i < k then some (a - i) else none := by
  simp only [countDown_eq_map, List.getElem?_map]
  split <;> simp [*]

theorem rangeList_up (n : Nat) (a b : Int) (h : (b - a).toNat ≤ n) :
    rangeList n a b 1 = countUp (b - a).toNat a := by
  induction n generalizing a with
  | zero =>
    rw [Nat.le_zero.mp h]
    rfl
  | succ n ih =>
    simp only [rangeList, show compare (0 : Int) 1 = .lt from rfl, Int.compare_eq_lt]
    by_cases hab : a < b
    · rw [if_pos hab, show (b - a).toNat = (b - (a + 1)).toNat + 1 by omega, countUp, ih (a + 1) (by omega)]
    · rw [if_neg hab, show (b - a).toNat = 0 by omega]
      rfl

theorem rangeList_down (n : Nat) (a b : Int) (h : (a - b).toNat ≤ n) :
    rangeList n a b (-1) = countDown (a - b).toNat a := by
  induction n generalizing a with
  | zero =>
    rw [Nat.le_zero.mp h]
    rfl
  | succ n ih =>
    simp only [rangeList, show compare (0 : Int) (-1) = .gt from rfl, Int.compare_eq_gt]
    by_cases hab : b < a
    · rw [if_pos hab, show (a - b).toNat = (a + -1 - b).toNat + 1 by omega, countDown, ih (a + -1) (by omega),
        show a + -1 = a - 1 by omega]
    · rw [if_neg hab, show (a - b).toNat = 0 by omega]
      rfl

end Flow
