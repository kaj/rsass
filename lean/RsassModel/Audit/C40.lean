import RsassModel.Theorems.C40
#print axioms C40.outsUntilFail_cons
#print axioms C40.runLoop_stdout
#print axioms C40.runLoop_all_ok
#print axioms C40.cli_all_ok
#print axioms C40.runLoop_any_fail
#print axioms C40.cli_any_fail
#print axioms C40.cli_exit_zero_iff
#print axioms C40.cli_format_passthrough
#print axioms C40.parse_long_forms
#print axioms C40.parse_defaults
#print axioms C40.parse_duplicate_rejected
#print axioms C40.cli_usage_error
#print axioms C40.cli_load_order
#print axioms C40.fsFind_first
#print axioms C40.cli_load_prefers_input_dir
#print axioms C40.cli_load_falls_back_to_load_path
#print axioms C40.cli_load_order_partial
#print axioms C40.cli_load_order_refuted
