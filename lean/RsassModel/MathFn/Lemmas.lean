/- Lemmas for the C29 theorems, for every carrier: when `asUnit` succeeds; `cmp2` on units of
different dimensions; the result of `find_extreme` is an argument (`extremeLoop_mem`); and
`clamp` read as a rejection test plus a pick (`clampBad`, `clampPick`, `clamp_eq`). -/
import RsassModel.MathFn.Model
namespace MathFn
open MOps
variable {α : Type} [MOps α]

/-- `Unit::scale_to` succeeds exactly for equal units or units of one dimension -/
theorem unitScale_isSome (a b : MUnit) :
    (unitScale (α := α) a b).isSome = (decide (a = b) || decide (a.dim = b.dim)) := by
  unfold unitScale
  by_cases h1 : a = b
  · simp [h1]
  · by_cases h2 : a.dim = b.dim <;> simp [h1, h2]

theorem asUnit_none_of_dim (x : Q α) (u : MUnit) (h1 : x.u ≠ u) (h2 : x.u.dim ≠ u.dim) :
    asUnit x u = none := by
  simp [asUnit, unitScale, h1, h2]

theorem asUnit_some_of_dim (x : Q α) (u : MUnit) (h : x.u.dim = u.dim) :
    ∃ r, asUnit x u = some r := by
  unfold asUnit unitScale
  by_cases h1 : x.u = u <;> simp [h1, h]

theorem cmp2_none_of_incompatible (q : MathQuirks) (a b : Q α)
    (ha : a.u ≠ .none) (hb : b.u ≠ .none) (hd : a.u.dim ≠ b.u.dim) : cmp2 q a b = none := by
  have hne : a.u ≠ b.u := fun h => hd (by rw [h])
  have h1 : asUnit b a.u = none := asUnit_none_of_dim b a.u (fun h => hne h.symm) (fun h => hd h.symm)
  simp [cmp2, qcmp, hne, ha, hb, h1]

theorem extremeLoop_mem (q : MathQuirks) (pref : Ordering) (found : Q α) (rest : List (Q α))
    (v : α) (u : MUnit) (h : extremeLoop q pref found rest = .num v u) :
    ∃ x, x ∈ found :: rest ∧ x.v = v ∧ x.u = u := by
  induction rest generalizing found with
  | nil =>
    simp only [extremeLoop, Res.num.injEq] at h
    exact ⟨found, List.mem_cons_self, h⟩
  | cons y ys ih =>
    -- the loop goes on with `found` or with `y`
    have step : ∀ z, z = found ∨ z = y → extremeLoop q pref z ys = .num v u →
        ∃ x, x ∈ found :: y :: ys ∧ x.v = v ∧ x.u = u := by
      intro z hz hl
      obtain ⟨x, hx, hv⟩ := ih z hl
      refine ⟨x, ?_, hv⟩
      rcases List.mem_cons.mp hx with rfl | hx
      · rcases hz with rfl | rfl <;> simp
      · simp [hx]
    simp only [extremeLoop] at h
    split at h
    · exact step _ (by split <;> simp) h
    · split at h
      · split at h <;> cases h
      · split at h
        · exact step found (Or.inl rfl) h
        · cases h

/-- `clamp` rejects an argument with unit `v` against `$min` with unit `m`: exactly one of
the two is unitless, or the units are incompatible -/
def clampBad (m v : MUnit) : Bool :=
  (decide (v = .none) != decide (m = .none)) || !compatible v m

/-- the argument `clamp` returns when it accepts all three -/
def clampPick (q : MathQuirks) (mn num mx : Q α) : Q α :=
  if qle q (if qge q num mx then mx else num) mn then mn else if qge q num mx then mx else num

theorem clamp_eq (q : MathQuirks) (mn num mx : Q α) :
    clamp q mn num mx =
      if clampBad mn.u num.u then .err
      else if clampBad mn.u mx.u then .err
      else .num (clampPick q mn num mx).v (clampPick q mn num mx).u := rfl

theorem clamp_of_bad (q : MathQuirks) (mn num mx : Q α)
    (h : clampBad mn.u num.u = true ∨ clampBad mn.u mx.u = true) :
    clamp q mn num mx = .err := by
  rw [clamp_eq]
  split
  · rfl
  · rw [if_pos (h.resolve_left ‹_›)]

theorem clampPick_mem (q : MathQuirks) (mn num mx : Q α) :
    clampPick q mn num mx = mn ∨ clampPick q mn num mx = num ∨ clampPick q mn num mx = mx := by
  unfold clampPick
  by_cases h1 : qge q num mx = true
  · rw [if_pos h1]
    by_cases h2 : qle q mx mn = true
    · exact Or.inl (if_pos h2)
    · exact Or.inr (Or.inr (if_neg h2))
  · rw [if_neg h1]
    by_cases h2 : qle q num mn = true
    · exact Or.inl (if_pos h2)
    · exact Or.inr (Or.inl (if_neg h2))

theorem clampBad_of_dim (m v : MUnit) (h1 : v ≠ .none) (h2 : m ≠ .none)
    (h3 : v.dim ≠ m.dim) : clampBad m v = true := by
  simp [clampBad, compatible, h1, h2, h3]

theorem clampBad_of_unitless (m v : MUnit) (h : (v = .none) ≠ (m = .none)) :
    clampBad m v = true := by
  by_cases a : v = .none <;> by_cases b : m = .none <;> simp_all [clampBad]

theorem clampBad_of_same_dim {d : Dim} (m v : MUnit) (hv : v ≠ .none ∧ v.dim = d)
    (hm : m ≠ .none ∧ m.dim = d) : clampBad m v = false := by
  simp [clampBad, compatible, hv, hm]

end MathFn
