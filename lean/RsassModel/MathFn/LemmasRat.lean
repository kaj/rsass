/- Exact-carrier lemmas for C29.  `near_half` (rounding to the nearest integer); `factorQ_pos`;
`cmpQ`, the order of `ℚ` as an `Ordering`, and `ncmp_rat`; comparison after unit conversion
is comparison of the values in the base unit of the dimension (`canon`: `qcmp_canon`,
`cmp2_canon`, `qge_canon`, `qle_canon`); `sameDim` and the loop invariant of `find_extreme`. -/
import RsassModel.MathFn.RatInst
import RsassModel.MathFn.Lemmas
import Mathlib.Data.Rat.Floor
import Mathlib.Tactic.Ring
import Mathlib.Tactic.NormNum
namespace MathFn
open MOps

theorem near_half (n y : ℚ) (h1 : n ≤ y + 1 / 2) (h2 : y + 1 / 2 < n + 1) :
    |n - y| ≤ 1 / 2 ∧ (|n - y| = 1 / 2 → y < n) := by
  have h3 : -(1 / 2) < n - y := by
    have e : n + 1 = n + 1 / 2 + 1 / 2 := by rw [add_assoc, add_halves]
    rw [e] at h2
    exact neg_lt_sub_iff_lt_add'.mpr (lt_of_add_lt_add_right h2)
  have hpos : (0 : ℚ) < 1 / 2 := by norm_num
  refine ⟨abs_le.mpr ⟨le_of_lt h3, sub_le_iff_le_add'.mpr h1⟩, fun ht => ?_⟩
  rcases abs_eq hpos.le |>.mp ht with h | h
  · exact sub_pos.mp (h ▸ hpos)
  · rw [h] at h3
    exact absurd h3 (lt_irrefl _)

variable (L : Libm)

theorem factorQ_pos (hρ : 0 < L.radFactor) (u : MUnit) : 0 < factorQ L.radFactor u := by
  cases u
  case rad => exact hρ
  all_goals
    unfold factorQ
    norm_num

/-- the value in the base unit of its dimension -/
def canon (x : Q Rat) : Rat := x.v * factorQ L.radFactor x.u

def cmpQ (a b : Rat) : Ordering := if a = b then .eq else if a < b then .lt else .gt

theorem cmpQ_cases (a b : Rat) :
    (a < b ∧ cmpQ a b = .lt) ∨ (a = b ∧ cmpQ a b = .eq) ∨ (b < a ∧ cmpQ a b = .gt) := by
  unfold cmpQ
  rcases lt_trichotomy a b with h | h | h
  · exact Or.inl ⟨h, by rw [if_neg h.ne, if_pos h]⟩
  · exact Or.inr (Or.inl ⟨h, if_pos h⟩)
  · exact Or.inr (Or.inr ⟨h, by rw [if_neg h.ne', if_neg h.not_gt]⟩)

theorem cmpQ_lt (a b : Rat) : cmpQ a b = .lt ↔ a < b := by
  rcases cmpQ_cases a b with ⟨h, e⟩ | ⟨h, e⟩ | ⟨h, e⟩ <;> rw [e]
  · exact iff_of_true rfl h
  · exact iff_of_false Ordering.noConfusion h.not_lt
  · exact iff_of_false Ordering.noConfusion h.not_gt

theorem cmpQ_gt (a b : Rat) : cmpQ a b = .gt ↔ b < a := by
  rcases cmpQ_cases a b with ⟨h, e⟩ | ⟨h, e⟩ | ⟨h, e⟩ <;> rw [e]
  · exact iff_of_false Ordering.noConfusion h.not_gt
  · exact iff_of_false Ordering.noConfusion h.not_gt
  · exact iff_of_true rfl h

theorem neq_rat (q : MathQuirks) (a b : Rat) : @neq Rat (ratOps L) q a b = decide (a = b) := by
  unfold neq
  simp only [MOps.feq, MOps.isInf, MOps.lt]
  by_cases h1 : a = b <;> simp [h1]

theorem ncmp_rat (q : MathQuirks) (a b : Rat) : @ncmp Rat (ratOps L) q a b = some (cmpQ a b) := by
  unfold ncmp
  simp only [neq_rat, MOps.lt]
  rcases cmpQ_cases a b with ⟨h, e⟩ | ⟨h, e⟩ | ⟨h, e⟩ <;> rw [e]
  · simp [h.ne, h]
  · simp [h]
  · simp [h.ne', h, h.not_gt]

theorem cmpQ_scale (x y c : Rat) (hc : 0 < c) : cmpQ x y = cmpQ (x * c) (y * c) := by
  rcases cmpQ_cases x y with ⟨h, e⟩ | ⟨h, e⟩ | ⟨h, e⟩ <;> rw [e]
  · exact ((cmpQ_lt _ _).mpr (mul_lt_mul_of_pos_right h hc)).symm
  · rw [h, cmpQ, if_pos rfl]
  · exact ((cmpQ_gt _ _).mpr (mul_lt_mul_of_pos_right h hc)).symm

/-- all numbers have units, of one dimension -/
def sameDim (d : Dim) (xs : List (Q Rat)) : Prop := ∀ x, x ∈ xs → x.u ≠ .none ∧ x.u.dim = d

/-! In this section every lemma has the signature
`(L) (hρ : 0 < L.radFactor) (q) {a b : Q Rat} {d} (ha : a.u ≠ .none ∧ a.u.dim = d) (hb : …)`:
`a` and `b` carry units of one dimension `d`. -/
section canon
variable (hρ : 0 < L.radFactor) (q : MathQuirks) {a b : Q Rat} {d : Dim}
  (ha : a.u ≠ .none ∧ a.u.dim = d) (hb : b.u ≠ .none ∧ b.u.dim = d)
include hρ ha hb

/-- two numbers with units of one dimension are ordered by their base-unit values -/
theorem qcmp_canon : @qcmp Rat (ratOps L) q a b = some (cmpQ (canon L a) (canon L b)) := by
  obtain ⟨ha, hda⟩ := ha
  obtain ⟨hb, hdb⟩ := hb
  have hd : a.u.dim = b.u.dim := hda.trans hdb.symm
  have hFa := factorQ_pos L hρ a.u
  have hFb := factorQ_pos L hρ b.u
  unfold qcmp canon
  by_cases hu : a.u = b.u
  · simp only [hu, if_true, ncmp_rat]
    rw [cmpQ_scale a.v b.v _ hFb]
  · simp only [hu, if_false, ha, hb, or_self, asUnit, unitScale, Ne.symm hu, hd, eq_self, if_true,
      Option.map_some, ncmp_rat, neq_rat, MOps.mul, MOps.div, MOps.factor]
    -- `qcmp` converts `b` into the unit of `a`, and overrides the answer by `eq` when `a`
    -- converted into the unit of `b` equals `b`.  Both conversions compare the base-unit
    -- values (`key`, `hne`), so on exact numbers the override changes nothing.
    have key : cmpQ a.v (b.v * (factorQ L.radFactor b.u / factorQ L.radFactor a.u))
        = cmpQ (a.v * factorQ L.radFactor a.u) (b.v * factorQ L.radFactor b.u) := by
      rw [cmpQ_scale a.v _ _ hFa, mul_assoc, div_mul_cancel₀ _ hFa.ne']
    rw [key]
    by_cases he : a.v * factorQ L.radFactor a.u = b.v * factorQ L.radFactor b.u
    · simp [cmpQ, he]
    · have hne : ¬ a.v * (factorQ L.radFactor a.u / factorQ L.radFactor b.u) = b.v :=
        fun h => he (by rw [← h, mul_assoc, div_mul_cancel₀ _ hFb.ne'])
      simp [hne]

theorem cmp2_canon : @cmp2 Rat (ratOps L) q a b = some (cmpQ (canon L a) (canon L b)) := by
  unfold cmp2
  rw [qcmp_canon L hρ q ha hb]

theorem qge_canon : @qge Rat (ratOps L) q a b = decide (canon L b ≤ canon L a) := by
  unfold qge
  rw [qcmp_canon L hρ q ha hb]
  rcases cmpQ_cases (canon L a) (canon L b) with ⟨h, e⟩ | ⟨h, e⟩ | ⟨h, e⟩ <;> rw [e]
  · exact (decide_eq_false h.not_ge).symm
  · exact (decide_eq_true h.ge).symm
  · exact (decide_eq_true h.le).symm

theorem qle_canon : @qle Rat (ratOps L) q a b = decide (canon L a ≤ canon L b) := by
  unfold qle
  rw [qcmp_canon L hρ q ha hb]
  rcases cmpQ_cases (canon L a) (canon L b) with ⟨h, e⟩ | ⟨h, e⟩ | ⟨h, e⟩ <;> rw [e]
  · exact (decide_eq_true h.le).symm
  · exact (decide_eq_true h.le).symm
  · exact (decide_eq_false h.not_ge).symm

end canon

/-- Loop invariant of `find_extreme` on numbers of one dimension, for both directions at
once.  `R` is the order in which the preferred answer of `cmpQ` points (`≤` for `min`,
`≥` for `max`): the result is an argument whose base-unit value is `R`-below every
argument's.  `extreme q pref (x :: xs)` is `extremeLoop q pref x xs` by definition. -/
theorem extremeLoop_extremal (hρ : 0 < L.radFactor) (q : MathQuirks) (pref : Ordering)
    (R : Rat → Rat → Prop) (hrefl : ∀ a, R a a) (htrans : ∀ a b c, R a b → R b c → R a c)
    (hkeep : ∀ a b, cmpQ a b = pref → R a b) (hswap : ∀ a b, cmpQ a b ≠ pref → R b a)
    (d : Dim) (rest : List (Q Rat)) :
    ∀ found : Q Rat, sameDim d (found :: rest) →
    ∃ r, @extremeLoop Rat (ratOps L) q pref found rest = Res.num r.v r.u ∧
      r ∈ found :: rest ∧ ∀ y, y ∈ found :: rest → R (canon L r) (canon L y) := by
  induction rest with
  | nil =>
    intro found _
    exact ⟨found, rfl, List.mem_cons_self, fun y hy => List.mem_singleton.mp hy ▸ hrefl _⟩
  | cons y ys ih =>
    intro found hs
    have hsub : found :: ys ⊆ found :: y :: ys :=
      List.cons_subset_cons found (List.subset_cons_self y ys)
    have hf := hs found List.mem_cons_self
    have hy := hs y (List.mem_cons_of_mem _ List.mem_cons_self)
    simp only [extremeLoop, cmp2_canon L hρ q hf hy]
    by_cases hp : cmpQ (canon L found) (canon L y) = pref
    · obtain ⟨r, hr, hmem, hall⟩ := ih found fun x hx => hs x (hsub hx)
      obtain ⟨h1, h2⟩ := List.forall_mem_cons.mp hall
      rw [if_pos hp]
      exact ⟨r, hr, hsub hmem, List.forall_mem_cons.mpr
        ⟨h1, List.forall_mem_cons.mpr ⟨htrans _ _ _ h1 (hkeep _ _ hp), h2⟩⟩⟩
    · obtain ⟨r, hr, hmem, hall⟩ := ih y fun x hx => hs x (List.mem_cons_of_mem _ hx)
      rw [if_neg hp]
      exact ⟨r, hr, List.mem_cons_of_mem _ hmem, List.forall_mem_cons.mpr
        ⟨htrans _ _ _ (List.forall_mem_cons.mp hall).1 (hswap _ _ hp), hall⟩⟩

end MathFn
