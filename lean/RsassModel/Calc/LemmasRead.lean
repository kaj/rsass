/-
C30 — the output language of the specification printer, token level, and the CSS calc grammar.
`toksV` lists the tokens `printV spec` writes (operators are written ` op `, parentheses tight);
`Parses k ts e` is the standard left-recursive calc grammar with precedence levels
(0 sum, 1 product, 2 atom / parenthesised expression).  Proof-only file.
-/
import RsassModel.Calc.Model
import RsassModel.Calc.Lemmas
namespace Calc
open MathFn
variable {α : Type} [AOps α]
open MOps AOps

inductive Tok (α : Type)
  | atom (v : V α)
  | op (o : Op)
  | lp
  | rp

def isBin : V α → Bool
  | .bin _ _ _ => true
  | _ => false

/-- precedence level at which a value is printed: 0 sum, 1 product, 2 atom -/
def vprec : V α → Nat
  | .bin op _ _ => op.prec
  | _ => 2

/-- the parentheses rule of the specification printer for a right operand -/
def needR (op op2 : Op) : Bool :=
  op2.prec < op.prec || (op2.prec = op.prec && (op = .minus || op = .div))

/-- the left operand is parenthesised iff it is an operation of a lower precedence class -/
def leftToks (op : Op) (a : V α) (ta : List (Tok α)) : List (Tok α) :=
  match a with
  | .bin opa _ _ => if opa.prec < op.prec then [.lp] ++ ta ++ [.rp] else ta
  | _ => ta

/-- tokens written by `printV spec` -/
def toksV : V α → List (Tok α)
  | .num x => [.atom (.num x)]
  | .var n => [.atom (.var n)]
  | .ident s => [.atom (.ident s)]
  | .paren v => [.lp] ++ toksV v ++ [.rp]
  | .bin op a b =>
    let left := leftToks op a (toksV a)
    match b with
    | .num x =>
      if isNeg x.v && op = .plus then left ++ [.op .minus] ++ [.atom (.num ⟨neg x.v, x.u⟩)]
      else if isNeg x.v && op = .minus then left ++ [.op .plus] ++ [.atom (.num ⟨neg x.v, x.u⟩)]
      else left ++ [.op op] ++ [.atom (.num x)]
    | .bin op2 _ _ =>
      left ++ [.op op] ++ (if needR op op2 then [.lp] ++ toksV b ++ [.rp] else toksV b)
    | _ => left ++ [.op op] ++ toksV b

/-- the value the printed text denotes: a negative numeric right operand of `+`/`-` is written
with the opposite operator and the negated number -/
def signNorm : V α → V α
  | .paren v => .paren (signNorm v)
  | .bin op a b =>
    match b with
    | .num x =>
      if isNeg x.v && op = .plus then .bin .minus (signNorm a) (.num ⟨neg x.v, x.u⟩)
      else if isNeg x.v && op = .minus then .bin .plus (signNorm a) (.num ⟨neg x.v, x.u⟩)
      else .bin op (signNorm a) (.num x)
    | _ => .bin op (signNorm a) (signNorm b)
  | v => v

/-- values as `evalC` builds them: parentheses only around a non-operation -/
def wfV : V α → Bool
  | .paren v => !isBin v && wfV v
  | .bin _ a b => wfV a && wfV b
  | _ => true

/-- no right operand of `+` or `*` is an operation of the same precedence class (there the
specification printer relies on associativity and writes no parentheses) -/
def assocFree : V α → Bool
  | .paren v => assocFree v
  | .bin op a b =>
    assocFree a && assocFree b &&
      (match b with
       | .bin op2 _ _ => !(op2.prec = op.prec && (op = .plus || op = .mul))
       | _ => true)
  | _ => true

/-- the calc grammar: sum := sum (+|-) product | product; product := product (*|/) atom | atom;
atom := leaf | ( sum ) -/
inductive Parses : Nat → List (Tok α) → V α → Prop
  | leaf (v : V α) (h : isBin v = false) (hp : ∀ w, v ≠ .paren w) : Parses 2 [.atom v] v
  | parenBin (ts : List (Tok α)) (e : V α) : Parses 0 ts e → isBin e = true →
      Parses 2 ([.lp] ++ ts ++ [.rp]) e
  | parenAtom (ts : List (Tok α)) (e : V α) : Parses 0 ts e → isBin e = false →
      Parses 2 ([.lp] ++ ts ++ [.rp]) (.paren e)
  | mulop (t1 t2 : List (Tok α)) (a b : V α) (op : Op) : Parses 1 t1 a → Parses 2 t2 b → op.prec = 1 →
      Parses 1 (t1 ++ [.op op] ++ t2) (.bin op a b)
  | addop (t1 t2 : List (Tok α)) (a b : V α) (op : Op) : Parses 0 t1 a → Parses 1 t2 b → op.prec = 0 →
      Parses 0 (t1 ++ [.op op] ++ t2) (.bin op a b)
  | lift21 (ts : List (Tok α)) (e : V α) : Parses 2 ts e → Parses 1 ts e
  | lift10 (ts : List (Tok α)) (e : V α) : Parses 1 ts e → Parses 0 ts e

omit [AOps α] in
theorem Parses.liftTo {k j : Nat} {ts : List (Tok α)} {e : V α} (h : Parses k ts e) (hj : j ≤ k)
    (hk : k ≤ 2) : Parses j ts e := by
  induction hj with
  | refl => exact h
  | @step m _ ih =>
    refine ih ?_ (Nat.le_of_succ_le hk)
    match m, h, hk with
    | 0, h, _ => exact .lift10 _ _ h
    | 1, h, _ => exact .lift21 _ _ h

/-- operator and right operand as the printer writes them: a negative numeric right operand
of `+`/`-` appears negated under the opposite operator -/
def written (op : Op) : V α → Op × V α
  | .num x =>
    if isNeg x.v && op = .plus then (.minus, .num ⟨neg x.v, x.u⟩)
    else if isNeg x.v && op = .minus then (.plus, .num ⟨neg x.v, x.u⟩)
    else (op, .num x)
  | b => (op, b)

/-- the right operand is parenthesised iff it is an operation and `needR` says so -/
def rightToks (op : Op) (b : V α) (tb : List (Tok α)) : List (Tok α) :=
  match b with
  | .bin op2 _ _ => if needR op op2 then [.lp] ++ tb ++ [.rp] else tb
  | _ => tb

theorem written_num (op : Op) (x : Q α) : ∃ y, (written op (.num x)).2 = .num y := by
  simp only [written]
  split
  · exact ⟨_, rfl⟩
  · split <;> exact ⟨_, rfl⟩

theorem written_prec (op : Op) (b : V α) : (written op b).1.prec = op.prec := by
  cases b with
  | num x =>
    simp only [written]
    split
    · next h =>
      rw [of_decide_eq_true (Bool.and_eq_true_iff.mp h).2]
      rfl
    · split
      · next h =>
        rw [of_decide_eq_true (Bool.and_eq_true_iff.mp h).2]
        rfl
      · rfl
  | _ => rfl

/-- `toksV` and `signNorm` each spell out the three cases of a numeric right operand (flip `+`
to `-`, flip `-` to `+`, leave); this turns such a three-way `if` over any `g` into `g` applied to
`written`, so that the case split is made once -/
theorem apply_written {β : Type} (g : Op → V α → β) (op : Op) (x : Q α) :
    (if isNeg x.v && op = .plus then g .minus (.num ⟨neg x.v, x.u⟩)
      else if isNeg x.v && op = .minus then g .plus (.num ⟨neg x.v, x.u⟩)
      else g op (.num x)) = g (written op (.num x)).1 (written op (.num x)).2 := by
  simp only [written]
  split
  · rfl
  · split <;> rfl

theorem toksV_bin (op : Op) (a b : V α) :
    toksV (.bin op a b) = leftToks op a (toksV a) ++ [.op (written op b).1]
      ++ rightToks op (written op b).2 (toksV (written op b).2) := by
  cases b with
  | num x => exact apply_written (fun o v => leftToks op a (toksV a) ++ [.op o] ++ rightToks op v (toksV v)) op x
  | _ => rfl

theorem signNorm_bin (op : Op) (a b : V α) :
    signNorm (.bin op a b) = .bin (written op b).1 (signNorm a) (signNorm (written op b).2) := by
  cases b with
  | num x => exact apply_written (fun o v => V.bin o (signNorm a) (signNorm v)) op x
  | _ => rfl

theorem isBin_signNorm (v : V α) : isBin (signNorm v) = isBin v := by
  cases v with
  | bin op a b =>
    rw [signNorm_bin]
    rfl
  | _ => rfl

theorem vprec_signNorm (v : V α) : vprec (signNorm v) = vprec v := by
  cases v with
  | bin op a b =>
    rw [signNorm_bin]
    exact written_prec op b
  | _ => rfl

theorem op_prec_le (op : Op) : op.prec ≤ 1 := by cases op <;> simp [Op.prec]

omit [AOps α] in
theorem vprec_le (v : V α) : vprec v ≤ 2 := by
  cases v with
  | bin op _ _ => exact Nat.le_succ_of_le (op_prec_le op)
  | _ => exact Nat.le_refl 2

/-- a right operand written without parentheses, and not relying on associativity, binds
tighter than the operator -/
theorem prec_lt_of_not_needR {op op2 : Op} (hn : needR op op2 = false)
    (ha : (decide (op2.prec = op.prec) && (op = .plus || op = .mul)) = false) : op.prec < op2.prec := by
  revert hn ha
  cases op <;> cases op2 <;> decide

/-- an operation in parentheses is an atom of the grammar -/
theorem paren_parses {k : Nat} (hk : k ≤ 2) (op : Op) (x y : V α)
    (ih : Parses (vprec (.bin op x y)) (toksV (.bin op x y)) (signNorm (.bin op x y))) :
    Parses k ([.lp] ++ toksV (.bin op x y) ++ [.rp]) (signNorm (.bin op x y)) :=
  (Parses.parenBin _ _ (ih.liftTo (Nat.zero_le _) (vprec_le _)) ((isBin_signNorm _).trans rfl)).liftTo
    hk (Nat.le_refl _)

/-- left operand: parsed at the level of the operator -/
theorem left_parses (op : Op) (a : V α)
    (iha : Parses (vprec a) (toksV a) (signNorm a)) :
    Parses op.prec (leftToks op a (toksV a)) (signNorm a) := by
  have hle : op.prec ≤ 2 := Nat.le_succ_of_le (op_prec_le op)
  cases a with
  | bin opa x y =>
    change Parses _ (if opa.prec < op.prec then _ else _) _
    split
    · exact paren_parses hle opa x y iha
    · next h => exact iha.liftTo (Nat.le_of_not_lt h) (vprec_le _)
  | _ => exact iha.liftTo hle (Nat.le_refl _)

/-- right operand: parsed one level above the operator.  `hassoc` is the clause of `assocFree`
for this operand, in the form in which unfolding `assocFree` at `.bin op a b` yields it -/
theorem right_parses (op : Op) (b : V α)
    (hassoc : (match b with
       | .bin op2 _ _ => !(op2.prec = op.prec && (op = .plus || op = .mul))
       | _ => true) = true)
    (ihb : Parses (vprec b) (toksV b) (signNorm b)) :
    Parses (op.prec + 1) (rightToks op (written op b).2 (toksV (written op b).2))
      (signNorm (written op b).2) := by
  have hle : op.prec + 1 ≤ 2 := Nat.succ_le_succ (op_prec_le op)
  cases b with
  | num x =>
    obtain ⟨y, hy⟩ := written_num op x
    rw [hy]
    exact (Parses.leaf (.num y) rfl nofun).liftTo hle (Nat.le_refl _)
  | bin op2 x y =>
    change Parses _ (if needR op op2 then _ else _) _
    split
    · exact paren_parses hle op2 x y ihb
    · next hn =>
      exact ihb.liftTo (prec_lt_of_not_needR (Bool.not_eq_true _ ▸ hn) (Bool.not_eq_true' _ ▸ hassoc))
        (vprec_le _)
  | _ => exact ihb.liftTo hle (Nat.le_refl _)

omit [AOps α] in
/-- the two binary rules of the grammar as one, for either precedence class (nothing to do with
`Calc.combine` of the evaluator) -/
theorem combine_parses (op : Op) (t1 t2 : List (Tok α)) (a b : V α)
    (h1 : Parses op.prec t1 a) (h2 : Parses (op.prec + 1) t2 b) :
    Parses op.prec (t1 ++ [.op op] ++ t2) (.bin op a b) := by
  cases op with
  | plus => exact .addop _ _ _ _ _ h1 h2 rfl
  | minus => exact .addop _ _ _ _ _ h1 h2 rfl
  | mul => exact .mulop _ _ _ _ _ h1 h2 rfl
  | div => exact .mulop _ _ _ _ _ h1 h2 rfl

theorem wfV_shape (t : T α) : wfV (shape t) = true := by
  induction t with
  | paren t ih =>
    rw [shape]
    revert ih
    cases shape t with
    | var n => exact fun _ => rfl
    | _ => exact id
  | bin op a b iha ihb => simp [shape, wfV, iha, ihb]
  | _ => rfl

end Calc
