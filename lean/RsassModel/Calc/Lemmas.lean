/- Definitions the C30 statements use (`shape`: the tree a calculation keeps when nothing folds,
`pairFree`, leaves and operators in order) and the lemmas about `combine` and `evalC` behind them. -/
import RsassModel.Calc.Model
namespace Calc
open MathFn
variable {α : Type} [AOps α]

/-- the source tree with grouping parentheses removed (a parenthesised `var()` keeps them,
as the code does) -/
def shape : T α → V α
  | .num x => .num x
  | .var n => .var n
  | .ident s => .ident s
  | .paren t => match shape t with
    | .var n => .paren (.var n)
    | v => v
  | .bin op a b => .bin op (shape a) (shape b)

def isNumV : V α → Bool
  | .num _ => true
  | _ => false

/-- no operator has two numeric operands, so nothing can fold (identifier operands of `+` are
not excluded here: the theorems about `asis` ask for that separately) -/
def pairFree : T α → Bool
  | .bin op a b =>
    pairFree a && pairFree b && !(isNumV (shape a) && isNumV (shape b))
  | .paren t => pairFree t
  | _ => true

/-- operands in source order -/
def leavesT : T α → List (V α)
  | .num x => [.num x]
  | .var n => [.var n]
  | .ident s => [.ident s]
  | .paren t => leavesT t
  | .bin _ a b => leavesT a ++ leavesT b

def leavesV : V α → List (V α)
  | .paren v => leavesV v
  | .bin _ a b => leavesV a ++ leavesV b
  | v => [v]

/-- operators in infix order -/
def opsT : T α → List Op
  | .paren t => opsT t
  | .bin op a b => opsT a ++ [op] ++ opsT b
  | _ => []

def opsV : V α → List Op
  | .paren v => opsV v
  | .bin op a b => opsV a ++ [op] ++ opsV b
  | _ => []

theorem combine_num (q : CalcQuirks) (showQ : Q α → String) (op : Op) (va vb : V α) (z : Q α)
    (h : combine q showQ op va vb = .ok (.num z)) :
    ∃ x y, va = .num x ∧ vb = .num y ∧ foldNum op x y = .val z := by
  unfold combine at h
  split at h
  · next x y =>
    refine ⟨x, y, rfl, rfl, ?_⟩
    split at h <;> cases h
    assumption
  · split at h <;> cases h

theorem combine_keep (q : CalcQuirks) (showQ : Q α → String) (op : Op) (va vb : V α)
    (hn : (isNumV va && isNumV vb) = false)
    (hi : q.identPlusConcat = true → isIdentV va = false ∧ isIdentV vb = false) :
    combine q showQ op va vb = .ok (.bin op va vb) := by
  unfold combine
  split
  · cases hn
  · split
    · next hc =>
      simp only [Bool.and_eq_true, Bool.or_eq_true] at hc
      have := hi hc.1.1
      rw [this.1, this.2] at hc
      cases hc.2 <;> contradiction
    · rfl

theorem combine_fold (q : CalcQuirks) (showQ : Q α → String) (op : Op) (x y z : Q α)
    (h : foldNum op x y = .val z) : combine q showQ op (.num x) (.num y) = .ok (.num z) := by
  simp [combine, h]

theorem evalC_num_iff (q : CalcQuirks) (showQ : Q α → String) (t : T α) (z : Q α) :
    evalC q showQ t = .ok (.num z) ↔ arith t = some z := by
  induction t generalizing z with
  | num x => simp only [evalC, arith, R.ok.injEq, V.num.injEq, Option.some.injEq]
  | var n => exact ⟨nofun, nofun⟩
  | ident s => exact ⟨nofun, nofun⟩
  | paren t ih =>
    rw [arith, ← ih, evalC]
    split
    · next h =>
      rw [h]
      exact ⟨nofun, nofun⟩
    · rfl
  | bin op a b iha ihb =>
    constructor
    · intro h
      rw [evalC] at h
      split at h
      case h_5 va vb hea heb =>
        obtain ⟨x, y, rfl, rfl, hf⟩ := combine_num q showQ op va vb z h
        simp only [arith, (iha x).mp hea, (ihb y).mp heb, hf]
      all_goals cases h
    · intro h
      rw [arith] at h
      split at h
      · next x y ha hb =>
        split at h
        · next w hf =>
          cases h
          simp only [evalC, (iha x).mpr ha, (ihb y).mpr hb, combine_fold q showQ op x y _ hf]
        · cases h
      · cases h

omit [AOps α] in
theorem isIdentV_shape (t : T α) (hi : ∀ v ∈ leavesT t, isIdentV v = false) :
    isIdentV (shape t) = false := by
  induction t with
  | ident s => exact hi _ (List.mem_singleton_self _)
  | paren t ih =>
    have := ih hi
    rw [shape]
    revert this
    cases shape t <;> exact id
  | _ => rfl

theorem evalC_shape (q : CalcQuirks) (showQ : Q α → String) (t : T α) (h : pairFree t = true)
    (hi : q.identPlusConcat = true → ∀ v ∈ leavesT t, isIdentV v = false) :
    evalC q showQ t = .ok (shape t) := by
  induction t with
  | num x => rfl
  | var n => rfl
  | ident s => rfl
  | paren t ih =>
    rw [evalC, ih h hi, shape]
    cases shape t <;> rfl
  | bin op a b iha ihb =>
    simp only [pairFree, Bool.and_eq_true, Bool.not_eq_true'] at h
    have hia := fun hq v (hv : v ∈ leavesT a) => hi hq v (List.mem_append_left _ hv)
    have hib := fun hq v (hv : v ∈ leavesT b) => hi hq v (List.mem_append_right _ hv)
    rw [evalC, iha h.1.1 hia, ihb h.1.2 hib]
    exact combine_keep q showQ op _ _ h.2 fun hq => ⟨isIdentV_shape a (hia hq), isIdentV_shape b (hib hq)⟩

end Calc
