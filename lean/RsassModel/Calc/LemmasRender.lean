/-
C30 — the character text of the specification printer is the concatenation of the token texts
of `toksV` (operators written ` op `, parentheses tight).  Proof-only file.
-/
import RsassModel.Calc.LemmasRead
namespace Calc
open MathFn
variable {α : Type} [AOps α]
open MOps AOps

def tokText (showQ : Q α → String) : Tok α → String
  | .atom v => printV spec showQ v
  | .op o => " " ++ o.text ++ " "
  | .lp => "("
  | .rp => ")"

def render (showQ : Q α → String) : List (Tok α) → String
  | [] => ""
  | t :: ts => tokText showQ t ++ render showQ ts

theorem render_append (showQ : Q α → String) (a b : List (Tok α)) :
    render showQ (a ++ b) = render showQ a ++ render showQ b := by
  induction a with
  | nil => simp [render]
  | cons t ts ih => simp [render, ih, String.append_assoc]

/-- the left-operand text of `printV`, as a function of the operand's own text.  `leftStr` and
`binStr` repeat the `bin` arm of `printV` with the two recursive calls abstracted (`printV_bin`),
so that the induction in `print_eq_render` can rewrite them by its hypotheses -/
def leftStr (q : CalcQuirks) (op : Op) (a : V α) (pa : String) : String :=
  match a with
  | .bin opa _ _ => if !q.dropsLeftParens && opa.prec < op.prec then "(" ++ pa ++ ")" else pa
  | _ => pa

/-- the rest of `printV`'s `bin` case, as a function of the two operand texts -/
def binStr (q : CalcQuirks) (showQ : Q α → String) (op : Op) (b : V α) (left pb : String) : String :=
  match b with
  | .num x =>
    if isNeg x.v && op = .plus then left ++ " - " ++ showQ ⟨neg x.v, x.u⟩
    else if isNeg x.v && op = .minus then left ++ " + " ++ showQ ⟨neg x.v, x.u⟩
    else left ++ " " ++ op.text ++ " " ++ showQ x
  | .bin op2 _ _ =>
    let code := op2.rank < op.rank || (op = .minus && op2 = .minus)
    let need := op2.prec < op.prec || (op2.prec = op.prec && (op = .minus || op = .div))
    let right := if (if q.divRightAssoc then code else need) then "(" ++ pb ++ ")" else pb
    left ++ " " ++ op.text ++ " " ++ right
  | _ => left ++ " " ++ op.text ++ " " ++ pb

theorem printV_bin (q : CalcQuirks) (showQ : Q α → String) (op : Op) (a b : V α) :
    printV q showQ (.bin op a b)
      = binStr q showQ op b (leftStr q op a (printV q showQ a)) (printV q showQ b) := by
  cases a <;> cases b <;> rfl

theorem render_op (showQ : Q α → String) (l r : List (Tok α)) (o : Op) :
    render showQ (l ++ [.op o] ++ r) = render showQ l ++ " " ++ o.text ++ " " ++ render showQ r := by
  simp only [render_append, render, tokText, String.append_assoc, String.append_empty]

theorem render_paren (showQ : Q α → String) (ts : List (Tok α)) :
    render showQ ([.lp] ++ ts ++ [.rp]) = "(" ++ render showQ ts ++ ")" := by
  simp only [render_append, render, tokText, String.append_assoc, String.append_empty]

theorem render_atom (showQ : Q α → String) (v : V α) :
    render showQ [.atom v] = printV spec showQ v :=
  String.append_empty

theorem render_toksV_num (showQ : Q α → String) (y : Q α) :
    render showQ (toksV (.num y)) = showQ y :=
  render_atom showQ (.num y)

theorem leftStr_render (showQ : Q α → String) (op : Op) (a : V α) :
    leftStr spec op a (render showQ (toksV a)) = render showQ (leftToks op a (toksV a)) := by
  cases a with
  | bin opa x y =>
    simp only [leftStr, leftToks, spec, Bool.not_false, Bool.true_and, decide_eq_true_eq]
    split
    · rw [render_paren]
    · rfl
  | _ => rfl

theorem binStr_render (showQ : Q α → String) (op : Op) (b : V α) (left : String) :
    binStr spec showQ op b left (render showQ (toksV b))
      = left ++ " " ++ (written op b).1.text ++ " "
          ++ render showQ (rightToks op (written op b).2 (toksV (written op b).2)) := by
  cases b with
  | num x =>
    simp only [binStr, written]
    split
    · simp only [rightToks, render_toksV_num, String.append_assoc]
      rfl
    · split
      · simp only [rightToks, render_toksV_num, String.append_assoc]
        rfl
      · simp only [rightToks, render_toksV_num]
  | bin op2 x y =>
    have hb : binStr spec showQ op (.bin op2 x y) left (render showQ (toksV (.bin op2 x y)))
        = left ++ " " ++ op.text ++ " " ++ (if needR op op2 then "(" ++ render showQ (toksV (.bin op2 x y)) ++ ")"
            else render showQ (toksV (.bin op2 x y))) := rfl
    cases hn : needR op op2
    · simp only [hb, written, rightToks, hn, Bool.false_eq_true, if_false]
    · simp only [hb, written, rightToks, hn, if_true, render_paren]
  | _ => rfl

end Calc
