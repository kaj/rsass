/-
C10 — exact instance: (A) the digit-loop invariant, (C) `carry` adds exactly one unit in
the last place, (D) `stripZeros` keeps the value, and shape facts (digits < 10, last digit
non-zero) of the three.
-/
import RsassModel.Num.FormatLemmasBase
import RsassModel.Num.FormatLemmasCases
namespace Num
open NumOps

/-- one turn of the loop: `f ↦ (digit (10 f), fract (10 f))` peels one decimal off `|f|` -/
theorem digit_step (f : ℚ) (hf : |f| < 1) :
    digit (mul10 f) < 10 ∧ |fract (mul10 f)| < 1 ∧
      |f| = ((digit (mul10 f) : ℕ) + |fract (mul10 f)|) / 10 := by
  have hstep : ((digit (mul10 f) : ℕ) : ℚ) + |fract (mul10 f)| = |mul10 f| :=
    truncAbs_add_abs_fract _
  have h10 : |mul10 f| < 10 := by
    rw [abs_mul10]
    exact (mul_lt_iff_lt_one_left (by norm_num)).mpr hf
  have hd : ((digit (mul10 f) : ℕ) : ℚ) < 10 :=
    (le_add_of_nonneg_right (abs_nonneg _)).trans_lt (hstep.trans_lt h10)
  refine ⟨by exact_mod_cast hd, abs_fract_lt_one _, ?_⟩
  rw [hstep, abs_mul10, mul_div_cancel_right₀ _ (by norm_num : (10 : ℚ) ≠ 0)]

/-- Loop invariant of `for _ in 1..n { frac *= 10; push digit; frac = fract }`:
starting from `|f| < 1` the loop appends digits `ds` and leaves `r` with
`|f| = 0.ds + |r|/10^|ds|`, `|r| < 1`, every digit `< 10`, and it
stops early only on an exact zero remainder — and then the last digit is not `0`. -/
theorem digitLoop_inv (n : ℕ) : ∀ (f : ℚ) (acc : List ℕ), |f| < 1 →
    ∃ ds r, digitLoop n f acc = (acc ++ ds, r) ∧ |r| < 1 ∧
      |f| = fracVal ds + |r| / 10 ^ ds.length ∧ (∀ d ∈ ds, d < 10) ∧
      (r = 0 ∨ ds.length = n) ∧ (f ≠ 0 → r = 0 → NoTrailingZero ds) := by
  -- in each `refine` below the components come in the order of the statement: digits,
  -- remainder, output, `|r| < 1`, value, digits `< 10`, stop condition, last digit
  induction n with
  | zero =>
    intro f acc hf
    refine ⟨[], f, by rw [digitLoop, List.append_nil], hf, ?_,
      fun d hd => absurd hd List.not_mem_nil, Or.inr rfl, fun _ _ => Or.inl rfl⟩
    rw [fracVal, List.length_nil, pow_zero, div_one, zero_add]
  | succ n ih =>
    intro f acc hf
    obtain ⟨hd10, hf1, hstep⟩ := digit_step f hf
    rw [digitLoop]
    by_cases hz : isZero (fract (mul10 f)) = true
    · have hz0 : fract (mul10 f) = 0 := (isZero_iff _).mp hz
      rw [hz0, abs_zero, add_zero] at hstep
      refine ⟨[digit (mul10 f)], fract (mul10 f), if_pos hz, hf1, ?_,
        fun d hd => List.mem_singleton.mp hd ▸ hd10, Or.inl hz0, fun hf0 _ => ?_⟩
      · rw [hz0, abs_zero, zero_div, add_zero, fracVal, fracVal, add_zero]
        exact hstep
      · refine Or.inr ⟨[], _, rfl, fun h0 => hf0 ?_⟩
        rw [h0, Nat.cast_zero, zero_div] at hstep
        exact abs_eq_zero.mp hstep
    · obtain ⟨ds, r, heq, hr1, hval, hlt, hor, hlast⟩ :=
        ih (fract (mul10 f)) (acc ++ [digit (mul10 f)]) hf1
      have hnz : fract (mul10 f) ≠ 0 := fun h => hz ((isZero_iff _).mpr h)
      refine ⟨digit (mul10 f) :: ds, r, ?_, hr1, ?_, List.forall_mem_cons.mpr ⟨hd10, hlt⟩, ?_,
        fun _ hr0 => ?_⟩
      · rw [if_neg hz, heq, List.append_assoc, List.singleton_append]
      · rw [hstep, hval, ← add_assoc, add_div, div_div, fracVal, List.length_cons, pow_succ]
      · exact hor.imp id (fun h => by rw [List.length_cons, h])
      · have hds := hlast hnz hr0
        refine noTrailingZero_cons _ _ hds fun h0 => ?_
        rw [h0, fracVal, hr0, abs_zero, zero_div, add_zero] at hval
        exact hnz (abs_eq_zero.mp hval)

/-! Both `pop` loops work from the end of the digit list, so their lemmas go by induction
from the right. -/

theorem carry_snoc_nine (ds : List Nat) : carry (ds ++ [9]) = carry ds := by
  simp [carry]

theorem carry_snoc (ds : List Nat) (a : Nat) (h : a ≠ 9) :
    carry (ds ++ [a]) = (ds ++ [a + 1], false) := by
  simp [carry, h]

/-- `carry` adds exactly one unit in the last place; the unit that falls off the
front is reported as carry into the integer part. -/
theorem carry_val (dec : List ℕ) :
    fracVal (carry dec).1 + (if (carry dec).2 then 1 else 0)
      = fracVal dec + 1 / 10 ^ dec.length := by
  induction dec using List.reverseRecOn with
  | nil => simp [carry, fracVal]
  | append_singleton l a ih =>
    rw [fracVal_append_singleton, List.length_append, List.length_singleton]
    by_cases h : a = 9
    · -- a trailing `9` becomes `0` and the unit moves one place up: `9/10P + 1/10P = 1/P`
      rw [h, carry_snoc_nine, ih, add_assoc, ← add_div, pow_succ, mul_comm, ← div_div]
      norm_num
    · rw [carry_snoc l a h, fracVal_append_singleton, if_neg Bool.false_ne_true, add_zero,
        add_assoc, ← add_div, Nat.cast_succ]

theorem carry_shape (dec : List ℕ) (hlt : ∀ d ∈ dec, d < 10) :
    Canonical (carry dec).1 := by
  induction dec using List.reverseRecOn with
  | nil => exact canonical_nil
  | append_singleton l a ih =>
    have hl := fun d hd => hlt d (List.mem_append_left _ hd)
    have ha := hlt a (List.mem_append_right _ (List.mem_singleton.mpr rfl))
    by_cases h : a = 9
    · rw [h, carry_snoc_nine]
      exact ih hl
    · rw [carry_snoc l a h]
      refine ⟨Or.inr ⟨l, _, rfl, Nat.succ_ne_zero a⟩, fun d hd => ?_⟩
      rcases List.mem_append.mp hd with hd | hd
      · exact hl d hd
      · rw [List.mem_singleton.mp hd]
        omega

theorem stripZeros_snoc_zero (ds : List Nat) : stripZeros (ds ++ [0]) = stripZeros ds := by
  simp [stripZeros]

theorem stripZeros_snoc (ds : List Nat) (a : Nat) (h : a ≠ 0) :
    stripZeros (ds ++ [a]) = ds ++ [a] := by
  simp [stripZeros, h]

theorem stripZeros_val (dec : List ℕ) : fracVal (stripZeros dec) = fracVal dec := by
  induction dec using List.reverseRecOn with
  | nil => rfl
  | append_singleton l a ih =>
    by_cases h : a = 0
    · rw [h, stripZeros_snoc_zero, ih, fracVal_append_singleton, Nat.cast_zero, zero_div, add_zero]
    · rw [stripZeros_snoc l a h]

theorem stripZeros_shape (dec : List ℕ) :
    NoTrailingZero (stripZeros dec) ∧ ∀ d ∈ stripZeros dec, d ∈ dec := by
  induction dec using List.reverseRecOn with
  | nil => exact ⟨Or.inl rfl, fun d hd => hd⟩
  | append_singleton l a ih =>
    by_cases h : a = 0
    · rw [h, stripZeros_snoc_zero]
      exact ⟨ih.1, fun d hd => List.mem_append_left _ (ih.2 d hd)⟩
    · rw [stripZeros_snoc l a h]
      exact ⟨Or.inr ⟨l, a, rfl, h⟩, fun d hd => hd⟩
end Num
