/-
C10 — exact instance: (B) the final rounded digit and the assembly.  What `fracDigits`
prints lies in the half-open interval `(|x| - ½·10^-k, |x| + ½·10^-k]` and on the `10^-k`
grid, so it is `|x|` rounded to `k` places with ties away from zero,
`⌊|x|·10^k + ½⌋ / 10^k`; its digits are `< 10` and the last one is not `0`.
-/
import RsassModel.Num.FormatLemmasLoop
namespace Num
open NumOps

def HalfOpen (e d : ℚ) : Prop := -e < d ∧ d ≤ e

theorem HalfOpen.zero {e : ℚ} (he : 0 < e) : HalfOpen e 0 := ⟨neg_lt_zero.mpr he, he.le⟩

theorem HalfOpen.div {e d P : ℚ} (h : HalfOpen e d) (hP : 0 < P) : HalfOpen (e / P) (d / P) :=
  ⟨neg_div P e ▸ div_lt_div_of_pos_right h.1 hP, div_le_div_of_nonneg_right h.2 hP.le⟩

/-- `round().abs()` is `⌊|y| + ½⌋`: within `½` of `|y|`, an exact tie goes up. -/
theorem roundAbs_bounds (y : ℚ) : HalfOpen (1 / 2) (((roundAbs y : ℕ) : ℚ) - |y|) := by
  rw [rat_roundAbs, ratTruncNat_cast, ratAbs_eq,
    abs_of_nonneg (by positivity : (0 : ℚ) ≤ |y| + 1 / 2)]
  have h2 := Int.lt_floor_add_one (|y| + 1 / 2)
  rw [show ((⌊|y| + 1 / 2⌋ : ℤ) : ℚ) + 1 = ⌊|y| + 1 / 2⌋ + 1 / 2 + 1 / 2 by
    rw [add_assoc, add_halves]] at h2
  exact ⟨neg_lt_sub_iff_lt_add'.mpr (lt_of_add_lt_add_right h2),
    sub_le_iff_le_add'.mpr (Int.floor_le _)⟩

theorem final_digit (r : ℚ) (hr : |r| < 1) :
    roundAbs (mul10 r) ≤ 10 ∧ HalfOpen (1 / 2) (((roundAbs (mul10 r) : ℕ) : ℚ) - |r| * 10) := by
  have h := roundAbs_bounds (mul10 r)
  rw [abs_mul10] at h
  have : ((roundAbs (mul10 r) : ℕ) : ℚ) < 11 := by linarith only [h.2, hr]
  exact ⟨Nat.le_of_lt_succ (by exact_mod_cast this), h⟩

/-- the same value `whole + 0.ds + e/10^(|ds|+1)` whichever of the three branches (carry,
strip, append) is taken -/
theorem roundLast_val (ds : List ℕ) (r w : ℚ) (hr : r ≠ 0) :
    printedAbs (roundLast ds r w)
      = w + fracVal ds + ((roundAbs (mul10 r) : ℕ) : ℚ) / 10 ^ (ds.length + 1) := by
  rcases roundLast_cases ds r w with ⟨hz, _⟩ | ⟨he, h⟩ | ⟨he, h⟩ | ⟨_, _, h⟩
  · exact absurd ((isZero_iff r).mp hz) hr
  · have hw : (if (carry ds).2 then addOne w else w) = w + if (carry ds).2 then 1 else 0 := by
      split
      · rfl
      · exact (add_zero w).symm
    have hten : ((10 : ℕ) : ℚ) / 10 ^ (ds.length + 1) = 1 / 10 ^ ds.length := by
      rw [pow_succ, Nat.cast_ofNat, div_mul_eq_div_div_swap, div_self (by norm_num)]
    rw [h, he, hten, printedAbs, hw, add_assoc, add_comm _ (fracVal _), carry_val, add_assoc]
  · rw [h, he, printedAbs, stripZeros_val, Nat.cast_zero, zero_div, add_zero]
  · rw [h, printedAbs, fracVal_append_singleton, add_assoc]

theorem roundLast_shape (ds : List ℕ) (r w : ℚ) (hr : |r| < 1) (hlt : ∀ d ∈ ds, d < 10)
    (hlast : r = 0 → NoTrailingZero ds) :
    Canonical (roundLast ds r w).1 := by
  rcases roundLast_cases ds r w with ⟨hz, h⟩ | ⟨_, h⟩ | ⟨_, h⟩ | ⟨h10, h0, h⟩ <;> rw [h]
  · exact ⟨hlast ((isZero_iff r).mp hz), hlt⟩
  · exact carry_shape ds hlt
  · exact ⟨(stripZeros_shape ds).1, fun d hd => hlt d ((stripZeros_shape ds).2 d hd)⟩
  · refine ⟨Or.inr ⟨ds, _, rfl, h0⟩, fun d hd => ?_⟩
    rcases List.mem_append.mp hd with hd | hd
    · exact hlt d hd
    · rw [List.mem_singleton.mp hd]
      exact Nat.lt_of_le_of_ne (final_digit r hr).1 h10

/-- The step from the last digit to the printed value.  With `P = 10^n`, `w + v` the integer
part and the first `n` digits, `r` the remainder the loop left and `e` the digit rounded from
it: the printed value `w + v + e/(10P)` against the true one `w + v + r/P` is `e` against
`10 r`, scaled down by `10P`. -/
theorem interval_scale (w v e r P : ℚ) (hP : 0 < P) (h : HalfOpen (1 / 2) (e - r * 10)) :
    HalfOpen (1 / (2 * (P * 10))) (w + v + e / (P * 10) - (w + (v + r / P))) := by
  have key : w + v + e / (P * 10) - (w + (v + r / P)) = (e - r * 10) / (P * 10) := by
    field_simp
    ring
  rw [key, ← div_div]
  exact h.div (mul_pos hP (by norm_num))

theorem fracTail_interval (n : ℕ) (f w : ℚ) (hf : |f| < 1) :
    HalfOpen (1 / (2 * 10 ^ (n + 1))) (printedAbs (fracTail n f w) - (w + |f|)) := by
  obtain ⟨ds, r, heq, hr1, hval, -, hor, -⟩ := digitLoop_inv n f [] hf
  rw [fracTail, heq, List.nil_append, hval]
  by_cases hr : r = 0
  · rw [roundLast, if_pos ((isZero_iff r).mpr hr), hr, printedAbs, abs_zero, zero_div, add_zero,
      sub_self]
    exact HalfOpen.zero (by positivity)
  · rw [roundLast_val ds r w hr, hor.resolve_left hr, pow_succ]
    exact interval_scale w _ _ _ _ (by positivity) (final_digit r hr1).2

theorem fracTail_shape (n : ℕ) (f w : ℚ) (hf : |f| < 1) (hf0 : f ≠ 0) :
    Canonical (fracTail n f w).1 := by
  obtain ⟨ds, r, heq, hr1, -, hlt, -, hlast⟩ := digitLoop_inv n f [] hf
  rw [fracTail, heq, List.nil_append]
  exact roundLast_shape ds r w hr1 hlt (hlast hf0)

theorem round_to_int (w f : ℚ) (h0 : 0 ≤ f) (h1 : f < 1) :
    HalfOpen (1 / 2) ((if 1 / 2 ≤ f then w + 1 else w) - (w + f)) := by
  have half : (1 : ℚ) - 1 / 2 = 1 / 2 := by norm_num
  have hpos : (0 : ℚ) < 1 / 2 := by norm_num
  split
  · next hg =>
    rw [add_sub_add_left_eq_sub]
    refine ⟨lt_trans (neg_lt_zero.mpr hpos) (sub_pos.mpr h1), ?_⟩
    rw [sub_le_comm, half]
    exact hg
  · next hg =>
    rw [sub_add_cancel_left]
    exact ⟨neg_lt_neg (not_le.mp hg), le_trans (neg_nonpos.mpr h0) hpos.le⟩

/-- ROUNDING INTERVAL.  Whenever the zero-decimals deviation cannot fire (flag off, or at
least one decimal allowed) the printed magnitude is within half a unit of the `k`-th
place of `|x|`, the lower end excluded: ties go away from zero. -/
theorem fracDigits_interval (q : FmtQuirks) (p : ℕ) (x : ℚ)
    (h : q.precisionZeroOneDigit = false ∨ 1 ≤ decimalsOf p x) :
    HalfOpen (1 / (2 * 10 ^ decimalsOf p x)) (printedAbs (fracDigits q p x) - |x|) := by
  have hx := truncAbs_add_abs_fract x
  rcases fracDigits_cases q p x with ⟨hz, he⟩ | ⟨hk, _, he⟩ | ⟨_, hk, he⟩ <;> rw [he]
  · rw [(isZero_iff _).mp hz, abs_zero, add_zero] at hx
    rw [printedAbs, fracVal, add_zero, hx, sub_self]
    exact HalfOpen.zero (by positivity)
  · -- no decimal allowed: `|x|` is rounded to an integer by comparing `|fract x|` with `½`
    have hr := round_to_int (truncAbs x) |fract x| (abs_nonneg _) (abs_fract_lt_one x)
    rw [hk, pow_zero, mul_one, printedAbs, fracVal, add_zero, ← hx, rat_geHalf, ratAbs_eq]
    simp only [decide_eq_true_eq]
    exact hr
  · have hk1 : 1 ≤ decimalsOf p x :=
      h.elim (fun hq => hk.resolve_left (hq ▸ Bool.false_ne_true)) id
    have hi := fracTail_interval (decimalsOf p x - 1) (fract x) (truncAbs x) (abs_fract_lt_one x)
    rw [Nat.sub_add_cancel hk1, hx] at hi
    exact hi

theorem fracDigits_shape (q : FmtQuirks) (p : ℕ) (x : ℚ) :
    Canonical (fracDigits q p x).1 := by
  rcases fracDigits_cases q p x with ⟨_, he⟩ | ⟨_, _, he⟩ | ⟨hz, _, he⟩ <;> rw [he]
  · exact canonical_nil
  · exact canonical_nil
  · exact fracTail_shape _ _ _ (abs_fract_lt_one x) fun h0 =>
      Bool.noConfusion (((isZero_iff _).mpr h0).symm.trans hz)

theorem fracDigits_whole_nat (q : FmtQuirks) (p : ℕ) (x : ℚ) :
    ∃ w : ℕ, (fracDigits q p x).2 = w := by
  rcases fracDigits_whole q p x with h | ⟨_, h⟩
  · exact ⟨ratTruncNat x, h⟩
  · exact ⟨ratTruncNat x + 1, by rw [h, Nat.cast_succ]; rfl⟩

theorem printedAbs_eq_zero_iff (q : FmtQuirks) (p : ℕ) (x : ℚ) :
    printedAbs (fracDigits q p x) = 0 ↔
      (fracDigits q p x).2 = 0 ∧ (fracDigits q p x).1 = [] := by
  obtain ⟨w, hw⟩ := fracDigits_whole_nat q p x
  have hw0 : (0 : ℚ) ≤ (fracDigits q p x).2 := hw ▸ Nat.cast_nonneg w
  rw [printedAbs, add_eq_zero_iff_of_nonneg hw0 (fracVal_nonneg _)]
  refine and_congr_right fun _ => ⟨fun h => ?_, fun h => by rw [h, fracVal]⟩
  by_contra hne
  exact (fracVal_pos _ (fracDigits_shape q p x).1 hne).ne' h

theorem HalfOpen.abs {e d : ℚ} (h : HalfOpen e d) : |d| ≤ e ∧ (|d| = e → 0 < d) := by
  obtain ⟨h1, h2⟩ := h
  refine ⟨abs_le.mpr ⟨h1.le, h2⟩, fun he => ?_⟩
  rcases abs_choice d with h | h
  · rw [h] at he
    rw [← he] at h1
    exact neg_lt_self_iff.mp h1
  · rw [h] at he
    rw [← he, neg_neg] at h1
    exact absurd h1 (lt_irrefl d)

theorem printedAbs_scaled (q : FmtQuirks) (p : ℕ) (x : ℚ) (j : ℕ)
    (hj : (fracDigits q p x).1.length ≤ j) :
    ∃ m : ℤ, printedAbs (fracDigits q p x) * 10 ^ j = m := by
  obtain ⟨w, hw⟩ := fracDigits_whole_nat q p x
  obtain ⟨m, hm⟩ := fracVal_scaled (fracDigits q p x).1 j hj
  refine ⟨w * 10 ^ j + m, ?_⟩
  rw [printedAbs, add_mul, hw, hm]
  push_cast
  ring

/-- a value on the `10^-k` grid inside the half-open rounding interval of `X` IS
`⌊X·10^k + ½⌋ / 10^k`: scaled by `10^k` the interval says `m ≤ X·10^k + ½ < m + 1` for the
integer `m = P·10^k`, which is what characterises the floor. -/
theorem round_exact_of_interval (P X : ℚ) (k : ℕ) (m : ℤ) (hm : P * 10 ^ k = m)
    (h : HalfOpen (1 / (2 * 10 ^ k)) (P - X)) :
    P = (⌊X * 10 ^ k + 1 / 2⌋ : ℤ) / 10 ^ k := by
  obtain ⟨h1, h2⟩ := h
  have hp : (0 : ℚ) < 10 ^ k := by positivity
  have e : (1 / (2 * 10 ^ k) : ℚ) * 10 ^ k = 1 / 2 := by
    rw [one_div, mul_inv, inv_mul_cancel_right₀ hp.ne', one_div]
  have a1 := mul_lt_mul_of_pos_right h1 hp
  have a2 := mul_le_mul_of_nonneg_right h2 hp.le
  rw [neg_mul, e, sub_mul, hm] at a1
  rw [e, sub_mul, hm] at a2
  have hfl : ⌊X * 10 ^ k + 1 / 2⌋ = m := by
    rw [Int.floor_eq_iff]
    exact ⟨sub_le_iff_le_add'.mp a2, by linarith only [a1]⟩
  rw [hfl, eq_div_iff (ne_of_gt hp)]
  exact hm

end Num
