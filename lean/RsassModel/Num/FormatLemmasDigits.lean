/-
C10 — exact instance: decimal digits of a natural number (`decDigits`, the
`showWhole` of the exact instance), digit count and `⌈log10⌉` (`log10ceilNat`), and the
relation between the two that decides how many significant digits the cap
`16 - ⌈log10 whole⌉` really allows.
-/
import RsassModel.Num.FormatLemmasBase
namespace Num
open NumOps

/-- value of a list of integer digits, most significant first -/
def natVal : List ℕ → ℕ
  | [] => 0
  | d :: ds => d * 10 ^ ds.length + natVal ds

/-- Invariant of the division loop, with enough fuel (`n < fuel`): it puts `L ≥ 1` digits
in front of `acc`, where `10^(L-1) ≤ n < 10^L` (the lower bound only for `n ≥ 1`); read as a
numeral the result is `n` shifted past `acc`; every new digit is `< 10`. -/
theorem decDigitsAux_spec (fuel : ℕ) : ∀ (n : ℕ) (acc : List ℕ), n < fuel →
    ∃ L, (decDigitsAux fuel n acc).length = acc.length + L ∧ 1 ≤ L ∧ n < 10 ^ L ∧
      (1 ≤ n → 10 ^ (L - 1) ≤ n) ∧
      natVal (decDigitsAux fuel n acc) = n * 10 ^ acc.length + natVal acc ∧
      (∀ d ∈ decDigitsAux fuel n acc, d < 10 ∨ d ∈ acc) := by
  induction fuel with
  | zero =>
    intro n acc h
    exact absurd h (Nat.not_lt_zero n)
  | succ fuel ih =>
    intro n acc hn
    rw [decDigitsAux]
    by_cases h10 : n < 10
    · rw [if_pos h10]
      -- order as in the statement: `L`, length, `1 ≤ L`, upper bound, lower bound, value, digits
      refine ⟨1, rfl, le_refl _, h10, fun h => h, rfl, fun d hd => ?_⟩
      exact (List.mem_cons.mp hd).imp (fun e : d = n => e ▸ h10) id
    · rw [if_neg h10]
      have h10' : 10 ≤ n := Nat.le_of_not_lt h10
      have hlt : n / 10 < fuel :=
        Nat.lt_of_lt_of_le (Nat.div_lt_self (Nat.lt_of_lt_of_le (by decide) h10') (by decide))
          (Nat.le_of_lt_succ hn)
      obtain ⟨L, h1, h2, h3, h4, h5, h6⟩ := ih (n / 10) (n % 10 :: acc) hlt
      refine ⟨L + 1, ?_, Nat.le_add_left 1 L, ?_, fun _ => ?_, ?_, fun d hd => ?_⟩
      · rw [h1, List.length_cons, Nat.add_right_comm, Nat.add_assoc]
      · rw [Nat.pow_succ]
        exact (Nat.div_lt_iff_lt_mul (by decide)).mp h3
      · -- `L + 1 - 1 = (L - 1) + 1`, and `10^(L-1) ≤ n/10` lifts to `10^(L-1)·10 ≤ n`
        have := h4 ((Nat.le_div_iff_mul_le (by decide)).mpr h10')
        rw [Nat.add_sub_cancel, ← Nat.sub_add_cancel h2, Nat.pow_succ]
        exact (Nat.le_div_iff_mul_le (by decide)).mp this
      · rw [h5, natVal, List.length_cons, Nat.pow_succ]
        conv_rhs => rw [← Nat.div_add_mod n 10]
        ring
      · rcases h6 d hd with h | h
        · exact Or.inl h
        · exact (List.mem_cons.mp h).imp (fun e : d = n % 10 => e ▸ Nat.mod_lt n (by decide)) id
theorem decDigits_spec (n : ℕ) :
    (∀ d ∈ decDigits n, d < 10) ∧ natVal (decDigits n) = n ∧ 1 ≤ (decDigits n).length ∧
      n < 10 ^ (decDigits n).length ∧ (1 ≤ n → 10 ^ ((decDigits n).length - 1) ≤ n) := by
  obtain ⟨L, h1, h2, h3, h4, h5, h6⟩ := decDigitsAux_spec (n + 1) n [] (by omega)
  unfold decDigits
  simp only [List.length_nil, Nat.zero_add] at h1
  rw [h1]
  refine ⟨?_, by simpa [natVal] using h5, h2, h3, h4⟩
  intro d hd
  rcases h6 d hd with h | h
  · exact h
  · simp at h

theorem numDigits_zero : numDigits 0 = 0 := rfl

theorem numDigits_le_iff (n j : ℕ) : numDigits n ≤ j ↔ n < 10 ^ j := by
  rcases Nat.eq_zero_or_pos n with rfl | h
  · exact iff_of_true (Nat.zero_le _) (Nat.pow_pos (by decide))
  obtain ⟨_, _, _, h2, h3⟩ := decDigits_spec n
  rw [numDigits, if_neg (Nat.ne_of_gt h)]
  constructor
  · intro hj
    exact Nat.lt_of_lt_of_le h2 (Nat.pow_le_pow_right (by decide) hj)
  · intro hn
    have := (Nat.pow_lt_pow_iff_right (by decide : 1 < 10)).mp (Nat.lt_of_le_of_lt (h3 h) hn)
    omega

/-- `log10ceilNat n` is `⌈log10 n⌉`: the least `j` with `n ≤ 10^j`. -/
theorem log10ceilNat_le_iff (n j : ℕ) : log10ceilNat n ≤ j ↔ n ≤ 10 ^ j := by
  have := Nat.pow_pos (n := j) (by decide : 0 < 10)
  rw [log10ceilNat, numDigits_le_iff]
  omega

theorem log10ceilNat_zero : log10ceilNat 0 = 0 := rfl

theorem log10ceilNat_pow (j : ℕ) : log10ceilNat (10 ^ j) = j :=
  eq_of_forall_ge_iff fun i => by
    rw [log10ceilNat_le_iff, Nat.pow_le_pow_iff_right (by decide)]

theorem numDigits_pow (j : ℕ) : numDigits (10 ^ j) = j + 1 :=
  eq_of_forall_ge_iff fun i => by
    rw [numDigits_le_iff, Nat.pow_lt_pow_iff_right (by decide), Nat.succ_le_iff]

/-- SIGNIFICANT DIGITS vs THE CAP.  The digit count of `w` (with `numDigits 0 = 0`) is
`⌈log10 w⌉`, except for exact powers of ten, which have one digit more. -/
theorem numDigits_eq_log10ceil (w : ℕ) (hp : ∀ j, w ≠ 10 ^ j) :
    numDigits w = log10ceilNat w :=
  eq_of_forall_ge_iff fun i => by
    rw [numDigits_le_iff, log10ceilNat_le_iff, lt_iff_le_and_ne, and_iff_left (hp i)]

theorem numDigits_le_log10ceil_succ (w : ℕ) : numDigits w ≤ log10ceilNat w + 1 := by
  rw [numDigits_le_iff, Nat.pow_succ]
  have := (log10ceilNat_le_iff w _).mp (Nat.le_refl _)
  have := Nat.pow_pos (n := log10ceilNat w) (by decide : 0 < 10)
  omega

theorem ratTruncNat_natCast (n : ℕ) : ratTruncNat (n : ℚ) = n := by
  have h := ratTruncNat_cast (n : ℚ)
  rw [Nat.abs_cast, Int.floor_natCast, Int.cast_natCast] at h
  exact Nat.cast_injective h

theorem log10ceil_natCast (n : ℕ) : log10ceil (n : ℚ) = log10ceilNat n := by
  rw [rat_log10ceil, ratCeil_eq]
  have : ⌈(n : ℚ)⌉ = (n : ℤ) := Int.ceil_natCast n
  rw [this]
  simp

theorem log10ceil_truncAbs (x : ℚ) : log10ceil (truncAbs x) = log10ceilNat (ratTruncNat x) := by
  rw [rat_truncAbs, log10ceil_natCast]

theorem showWhole_natCast (n : ℕ) : showWhole (n : ℚ) = decDigits n := by
  rw [rat_showWhole, ratTruncNat_natCast]

end Num
