/-
C10 — the formatter branch by branch, for EVERY `NumOps` carrier (hence for whatever f64
does): which of its three ways `fracDigits` takes, what the last rounding step does with
the digits of the loop, how many digits come out, what happens to the integer part, and
the three pieces of the text.  Import-free apart from the model.
-/
import RsassModel.Num.Format
namespace Num
open NumOps

variable {α : Type} [NumOps α]

/-- the number of decimals `fracDigits` allows: `min (16 - ⌈log10 whole⌉) precision`.  The
`16` is the constant of `number.rs` (`let max_decimals = 16 - whole.log10().ceil()`): about
as many significant decimal digits as an `f64` holds. -/
def decimalsOf (p : Nat) (x : α) : Nat := min (16 - log10ceil (truncAbs x)) p

theorem decimalsOf_le (p : Nat) (x : α) : decimalsOf p x ≤ p := Nat.min_le_right _ _

/-- the end of `fracDigits`: the loop has left the digits `dec` and the remainder `fr`;
one more digit is rounded from `fr` and appended, carried (`10`) or dropped together with
trailing zeros (`0`). -/
def roundLast (dec : List Nat) (fr whole : α) : List Nat × α :=
  if isZero fr then (dec, whole)
  else if roundAbs (mul10 fr) == 10 then
    ((carry dec).1, if (carry dec).2 then addOne whole else whole)
  else if roundAbs (mul10 fr) == 0 then (stripZeros dec, whole)
  else (dec ++ [roundAbs (mul10 fr)], whole)

/-- what `fracDigits` does once at least one decimal is allowed (`n = decimals - 1`) -/
def fracTail (n : Nat) (frac whole : α) : List Nat × α :=
  roundLast (digitLoop n frac []).1 (digitLoop n frac []).2 whole

theorem fracDigits_eq (q : FmtQuirks) (p : Nat) (s : α) :
    fracDigits q p s =
      if isZero (fract s) then ([], truncAbs s)
      else if (decimalsOf p s == 0) ∧ !q.precisionZeroOneDigit then
        (if geHalf (fract s) then ([], addOne (truncAbs s)) else ([], truncAbs s))
      else fracTail (decimalsOf p s - 1) (fract s) (truncAbs s) := rfl

theorem fracDigits_of_int (q : FmtQuirks) (p : Nat) (s : α) (h : isZero (fract s) = true) :
    fracDigits q p s = ([], truncAbs s) := by
  rw [fracDigits_eq, if_pos h]

theorem fracDigits_of_no_decimals (q : FmtQuirks) (p : Nat) (s : α)
    (h : isZero (fract s) = false) (hk : decimalsOf p s = 0)
    (hq : q.precisionZeroOneDigit = false) :
    fracDigits q p s = ([], if geHalf (fract s) then addOne (truncAbs s) else truncAbs s) := by
  rw [fracDigits_eq, h, hk, hq, if_neg Bool.false_ne_true, if_pos ⟨rfl, rfl⟩]
  split <;> rfl

theorem fracDigits_of_decimals (q : FmtQuirks) (p : Nat) (s : α)
    (h : isZero (fract s) = false) (hk : q.precisionZeroOneDigit = true ∨ 1 ≤ decimalsOf p s) :
    fracDigits q p s = fracTail (decimalsOf p s - 1) (fract s) (truncAbs s) := by
  rw [fracDigits_eq, h, if_neg Bool.false_ne_true, if_neg]
  rintro ⟨h1, h2⟩
  rcases hk with hk | hk
  · rw [hk] at h2
    exact Bool.false_ne_true h2
  · rw [beq_iff_eq.mp h1] at hk
    exact absurd hk (by decide)

/-- As stated the disjuncts overlap: the middle one is taken only when `fract s` is not
zero, a fact no user needs and that is left out. -/
theorem fracDigits_cases (q : FmtQuirks) (p : Nat) (s : α) :
    (isZero (fract s) = true ∧ fracDigits q p s = ([], truncAbs s)) ∨
      (decimalsOf p s = 0 ∧ q.precisionZeroOneDigit = false ∧ fracDigits q p s =
        ([], if geHalf (fract s) then addOne (truncAbs s) else truncAbs s)) ∨
      (isZero (fract s) = false ∧ (q.precisionZeroOneDigit = true ∨ 1 ≤ decimalsOf p s) ∧
        fracDigits q p s = fracTail (decimalsOf p s - 1) (fract s) (truncAbs s)) := by
  cases h : isZero (fract s)
  · by_cases hk : q.precisionZeroOneDigit = true ∨ 1 ≤ decimalsOf p s
    · exact Or.inr (Or.inr ⟨rfl, hk, fracDigits_of_decimals q p s h hk⟩)
    · have hq : q.precisionZeroOneDigit = false := Bool.eq_false_iff.mpr fun e => hk (Or.inl e)
      have h0 : decimalsOf p s = 0 := Nat.eq_zero_of_not_pos fun e => hk (Or.inr e)
      exact Or.inr (Or.inl ⟨h0, hq, fracDigits_of_no_decimals q p s h h0 hq⟩)
  · exact Or.inl ⟨rfl, fracDigits_of_int q p s h⟩

theorem roundLast_cases (dec : List Nat) (fr whole : α) :
    (isZero fr = true ∧ roundLast dec fr whole = (dec, whole)) ∨
      (roundAbs (mul10 fr) = 10 ∧ roundLast dec fr whole =
        ((carry dec).1, if (carry dec).2 then addOne whole else whole)) ∨
      (roundAbs (mul10 fr) = 0 ∧ roundLast dec fr whole = (stripZeros dec, whole)) ∨
      (roundAbs (mul10 fr) ≠ 10 ∧ roundAbs (mul10 fr) ≠ 0 ∧
        roundLast dec fr whole = (dec ++ [roundAbs (mul10 fr)], whole)) := by
  unfold roundLast
  cases hz : isZero fr
  · rw [if_neg Bool.false_ne_true]
    by_cases h10 : roundAbs (mul10 fr) = 10
    · exact Or.inr (Or.inl ⟨h10, if_pos (beq_iff_eq.mpr h10)⟩)
    · rw [if_neg (fun h => h10 (beq_iff_eq.mp h))]
      by_cases h0 : roundAbs (mul10 fr) = 0
      · exact Or.inr (Or.inr (Or.inl ⟨h0, if_pos (beq_iff_eq.mpr h0)⟩))
      · exact Or.inr (Or.inr (Or.inr ⟨h10, h0, if_neg (fun h => h0 (beq_iff_eq.mp h))⟩))
  · exact Or.inl ⟨rfl, if_pos rfl⟩

theorem digitLoop_length (n : Nat) (frac : α) (acc : List Nat) :
    (digitLoop n frac acc).1.length ≤ acc.length + n := by
  induction n generalizing frac acc with
  | zero => exact Nat.le_refl _
  | succ n ih =>
    rw [digitLoop]
    split
    · rw [List.length_append, List.length_singleton]
      omega
    · have := ih (fract (mul10 frac)) (acc ++ [digit (mul10 frac)])
      rw [List.length_append, List.length_singleton] at this
      omega

theorem carry_cases (dec : List Nat) :
    carry dec = ([], true) ∨ ∃ l, carry dec = (l, false) ∧ l.length ≤ dec.length := by
  have h := (List.dropWhile_sublist (· == 9) (l := dec.reverse)).length_le
  rw [List.length_reverse] at h
  unfold carry
  split
  · exact Or.inl rfl
  · next c rest heq =>
    rw [heq] at h
    exact Or.inr ⟨_, rfl, by rw [List.length_reverse]; exact h⟩

theorem stripZeros_length (dec : List Nat) : (stripZeros dec).length ≤ dec.length := by
  have h := (List.dropWhile_sublist (· == 0) (l := dec.reverse)).length_le
  rw [List.length_reverse] at h
  rw [stripZeros, List.length_reverse]
  exact h

theorem roundLast_length (dec : List Nat) (fr whole : α) :
    (roundLast dec fr whole).1.length ≤ dec.length + 1 := by
  rcases roundLast_cases dec fr whole with ⟨_, h⟩ | ⟨_, h⟩ | ⟨_, h⟩ | ⟨_, _, h⟩ <;> rw [h]
  · exact Nat.le_succ _
  · rcases carry_cases dec with hc | ⟨l, hc, hl⟩ <;> rw [hc]
    · exact Nat.zero_le _
    · exact Nat.le_succ_of_le hl
  · exact Nat.le_succ_of_le (stripZeros_length dec)
  · exact Nat.le_of_eq List.length_append

theorem fracTail_length (n : Nat) (frac whole : α) :
    (fracTail n frac whole).1.length ≤ n + 1 := by
  have h1 := roundLast_length (digitLoop n frac []).1 (digitLoop n frac []).2 whole
  have h2 := digitLoop_length n frac []
  rw [List.length_nil] at h2
  unfold fracTail
  omega

theorem fracDigits_length (q : FmtQuirks) (p : Nat) (s : α) :
    (fracDigits q p s).1.length ≤ decimalsOf p s ∨
      (q.precisionZeroOneDigit = true ∧ decimalsOf p s = 0 ∧
        (fracDigits q p s).1.length ≤ 1) := by
  rcases fracDigits_cases q p s with ⟨_, h⟩ | ⟨_, _, h⟩ | ⟨_, hk, h⟩ <;> rw [h]
  · exact Or.inl (Nat.zero_le _)
  · exact Or.inl (Nat.zero_le _)
  · have hl := fracTail_length (decimalsOf p s - 1) (fract s) (truncAbs s)
    by_cases h0 : decimalsOf p s = 0
    · exact Or.inr ⟨hk.resolve_right (by omega), h0, by omega⟩
    · exact Or.inl (by omega)

theorem roundLast_whole (dec : List Nat) (fr whole : α) :
    (roundLast dec fr whole).2 = whole ∨
      ((roundLast dec fr whole).1 = [] ∧ (roundLast dec fr whole).2 = addOne whole) := by
  rcases roundLast_cases dec fr whole with ⟨_, h⟩ | ⟨_, h⟩ | ⟨_, h⟩ | ⟨_, _, h⟩ <;> rw [h]
  · exact Or.inl rfl
  · rcases carry_cases dec with hc | ⟨l, hc, _⟩ <;> rw [hc]
    · exact Or.inr ⟨rfl, rfl⟩
    · exact Or.inl rfl
  · exact Or.inl rfl
  · exact Or.inl rfl

/-- the `+ 1` comes from a carry or from rounding to an integer; no fractional digit is
printed then -/
theorem fracDigits_whole (q : FmtQuirks) (p : Nat) (s : α) :
    (fracDigits q p s).2 = truncAbs s ∨
      ((fracDigits q p s).1 = [] ∧ (fracDigits q p s).2 = addOne (truncAbs s)) := by
  rcases fracDigits_cases q p s with ⟨_, h⟩ | ⟨_, _, h⟩ | ⟨_, _, h⟩ <;> rw [h]
  · exact Or.inl rfl
  · cases geHalf (fract s)
    · exact Or.inl rfl
    · exact Or.inr ⟨rfl, rfl⟩
  · exact roundLast_whole _ _ _

theorem fmtNumber_finite (q : FmtQuirks) (c : Bool) (p : Nat) (s : α)
    (h1 : isNaN s = false) (h2 : isInf s = false) :
    fmtNumber q c p s =
      (if signBit s ∧ (!isZero (fracDigits q p s).2 ∨ !(fracDigits q p s).1.isEmpty)
        then "-" else "") ++
      (if isZero (fracDigits q p s).2 ∧ c ∧ !(fracDigits q p s).1.isEmpty then ""
        else showDigits (showWhole (fracDigits q p s).2)) ++
      (if (fracDigits q p s).1.isEmpty then "" else "." ++ showDigits (fracDigits q p s).1) := by
  unfold fmtNumber
  rw [h1, h2]
  rfl

end Num
