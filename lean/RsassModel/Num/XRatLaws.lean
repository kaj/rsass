/-
`NumCmpLaws` hold for the exact carrier `XRat` (so the hypotheses of the C12 theorems are
satisfiable, and the refutations can be computed by `decide`).  `key a b` is the pair of
integers that both `lt` and `feq` compare (`lt_eq`, `feq_eq`); the laws are then the order
laws of `ℤ`.
-/
import RsassModel.Num.XRat
namespace Num
namespace XRat
open NumCmpOps

/-- the two integers `lt` and `feq` compare: the signs of two infinities, the
cross-multiplied numerators otherwise -/
def key (a b : XRat) : Int × Int :=
  if a.den = 0 ∧ b.den = 0 then (a.num.sign, b.num.sign) else (a.num * b.den, b.num * a.den)

theorem key_swap (a b : XRat) : key b a = ((key a b).2, (key a b).1) := by
  unfold key
  by_cases h : a.den = 0 ∧ b.den = 0
  · rw [if_pos h, if_pos h.symm]
  · rw [if_neg h, if_neg (fun e => h e.symm)]

theorem key_self (a : XRat) : (key a a).1 = (key a a).2 := by
  unfold key
  split <;> rfl

theorem lt_eq (a b : XRat) :
    NumCmpOps.lt a b = (!isNaN a && !isNaN b && decide ((key a b).1 < (key a b).2)) := by
  show XRat.lt a b = (!nan a && !nan b && _)
  unfold XRat.lt key
  split <;> rfl

theorem feq_eq (a b : XRat) :
    NumCmpOps.feq a b = (!isNaN a && !isNaN b && decide ((key a b).1 = (key a b).2)) := by
  show XRat.feq a b = (!nan a && !nan b && _)
  unfold XRat.feq key
  split <;> rfl

theorem laws : NumCmpLaws XRat where
  abs_sub_comm a b := by
    show XRat.abs (XRat.sub a b) = XRat.abs (XRat.sub b a)
    simp only [XRat.abs, XRat.sub, XRat.mk.injEq]
    refine ⟨?_, Nat.mul_comm _ _⟩
    have : (a.num * ↑b.den - b.num * ↑a.den).natAbs = (b.num * ↑a.den - a.num * ↑b.den).natAbs := by
      omega
    rw [this]
  feq_comm a b := by
    rw [feq_eq, feq_eq, key_swap a b, Bool.and_comm (!isNaN a), decide_eq_decide.mpr eq_comm]
  feq_refl a h := by
    rw [feq_eq, h, decide_eq_true (key_self a)]
    rfl
  lt_irrefl a := by
    rw [lt_eq, key_self a, decide_eq_false (Int.lt_irrefl _), Bool.and_false]
  lt_asymm a b h := by
    rw [lt_eq, Bool.and_eq_true, decide_eq_true_eq] at h
    rw [lt_eq, key_swap a b, decide_eq_false (Int.lt_asymm h.2), Bool.and_false]
  lt_not_feq a b h := by
    rw [lt_eq, Bool.and_eq_true, decide_eq_true_eq] at h
    rw [feq_eq, decide_eq_false (Int.ne_of_lt h.2), Bool.and_false]
  total a b ha hb := by
    rw [lt_eq, feq_eq, lt_eq, key_swap a b, ha, hb]
    rcases Int.lt_trichotomy (key a b).1 (key a b).2 with h | h | h
    · exact Or.inl (by rw [decide_eq_true h]; rfl)
    · exact Or.inr (Or.inl (by rw [decide_eq_true h]; rfl))
    · exact Or.inr (Or.inr (by rw [decide_eq_true h]; rfl))

end XRat
end Num
