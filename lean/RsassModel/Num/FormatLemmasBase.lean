/-
C10 — the exact-rational `NumOps` instance seen through Mathlib's ordered-field vocabulary
(`|x|`, `⌊x⌋`, `Int.fract`); the value `fracVal` of a list of fractional digits; and the
canonical digit lists (`NoTrailingZero`, `Canonical`: last digit not `0`, every digit `< 10`).
Proof-only file (imports single Mathlib modules; never linked into a driver).
-/
import RsassModel.Num.RatInst
import Mathlib.Data.Rat.Floor
import Mathlib.Tactic.Linarith
import Mathlib.Tactic.Ring
import Mathlib.Tactic.FieldSimp
import Mathlib.Tactic.Positivity
import Mathlib.Tactic.NormNum
namespace Num
open NumOps

theorem ratFloor_eq (q : ℚ) : q.floor = ⌊q⌋ := rfl
theorem ratCeil_eq (q : ℚ) : q.ceil = ⌈q⌉ := by
  rw [Rat.ceil_eq_neg_floor_neg, ratFloor_eq, Int.floor_neg, neg_neg]

theorem ratAbs_eq (x : ℚ) : ratAbs x = |x| := by
  unfold ratAbs
  split_ifs with h
  · exact (abs_of_neg h).symm
  · exact (abs_of_nonneg (not_lt.mp h)).symm

theorem ratTruncNat_cast (x : ℚ) : ((ratTruncNat x : ℕ) : ℚ) = (⌊|x|⌋ : ℤ) := by
  rw [ratTruncNat, ratAbs_eq, ratFloor_eq, ← Int.cast_natCast,
    Int.toNat_of_nonneg (Int.floor_nonneg.mpr (abs_nonneg x))]

theorem rat_isNaN (x : ℚ) : isNaN x = false := rfl
theorem rat_isInf (x : ℚ) : isInf x = false := rfl
theorem rat_signBit (x : ℚ) : signBit x = decide (x < 0) := rfl
theorem rat_fract (x : ℚ) : fract x = x - ratTrunc x := rfl
theorem rat_truncAbs (x : ℚ) : truncAbs x = (ratTruncNat x : ℚ) := rfl
theorem rat_isZero (x : ℚ) : isZero x = decide (x = 0) := rfl
theorem rat_mul10 (x : ℚ) : mul10 x = x * 10 := rfl
theorem rat_digit (x : ℚ) : digit x = ratTruncNat x := rfl
theorem rat_roundAbs (x : ℚ) : roundAbs x = ratTruncNat (ratAbs x + 1 / 2) := rfl
theorem rat_geHalf (x : ℚ) : geHalf x = decide (1 / 2 ≤ ratAbs x) := rfl
theorem rat_addOne (x : ℚ) : addOne x = x + 1 := rfl
theorem rat_showWhole (x : ℚ) : showWhole x = decDigits (ratTruncNat x) := rfl
theorem rat_log10ceil (x : ℚ) : log10ceil x = log10ceilNat x.ceil.toNat := rfl

theorem isZero_iff (x : ℚ) : isZero x = true ↔ x = 0 := by
  rw [rat_isZero]
  exact decide_eq_true_iff

/-- `fract` keeps the sign; its magnitude is the fractional part of `|x|`. -/
theorem abs_fract (x : ℚ) : |fract x| = Int.fract |x| := by
  rw [rat_fract]
  unfold ratTrunc
  rw [ratTruncNat_cast]
  split_ifs with h
  · rw [abs_of_neg h]
    have : x - -((⌊-x⌋ : ℤ) : ℚ) = -(Int.fract (-x)) := by
      unfold Int.fract
      ring
    rw [this, abs_neg]
    exact abs_of_nonneg (Int.fract_nonneg _)
  · rw [abs_of_nonneg (not_lt.mp h)]
    exact abs_of_nonneg (Int.fract_nonneg _)

theorem abs_fract_lt_one (x : ℚ) : |fract x| < 1 := by
  rw [abs_fract]
  exact Int.fract_lt_one _

/-- `trunc().abs()` and `|fract()|` split `|x|`.  `digit` is the same `ratTruncNat`, so this
is also `digit y + |fract y| = |y|`. -/
theorem truncAbs_add_abs_fract (x : ℚ) : truncAbs x + |fract x| = |x| := by
  rw [abs_fract, rat_truncAbs, ratTruncNat_cast]
  exact Int.floor_add_fract _

theorem abs_mul10 (f : ℚ) : |mul10 f| = |f| * 10 := by
  rw [rat_mul10, abs_mul]
  norm_num

theorem fracVal_append_singleton (ds : List ℕ) (e : ℕ) :
    fracVal (ds ++ [e]) = fracVal ds + (e : ℚ) / 10 ^ (ds.length + 1) := by
  induction ds with
  | nil => simp [fracVal]
  | cons d ds ih =>
    simp only [List.cons_append, fracVal, ih, List.length_cons]
    rw [pow_succ (10 : ℚ) (ds.length + 1)]
    field_simp
    ring

theorem fracVal_nonneg (ds : List ℕ) : 0 ≤ fracVal ds := by
  induction ds with
  | nil => exact le_refl _
  | cons d ds ih =>
    rw [fracVal]
    positivity

theorem fracVal_lt_one (ds : List ℕ) (h : ∀ d ∈ ds, d < 10) : fracVal ds < 1 := by
  induction ds with
  | nil => exact zero_lt_one
  | cons d ds ih =>
    have h1 := ih (fun e he => h e (List.mem_cons_of_mem _ he))
    have h3 : (d : ℚ) ≤ 9 := by exact_mod_cast Nat.le_of_lt_succ (h d List.mem_cons_self)
    rw [fracVal, div_lt_one (by norm_num)]
    linarith

theorem fracVal_scaled (ds : List ℕ) : ∀ j, ds.length ≤ j → ∃ m : ℕ, fracVal ds * 10 ^ j = m := by
  induction ds with
  | nil =>
    intro j _
    exact ⟨0, by rw [fracVal, zero_mul, Nat.cast_zero]⟩
  | cons d ds ih =>
    intro j hj
    cases j with
    | zero => exact absurd hj (Nat.not_succ_le_zero _)
    | succ j' =>
      obtain ⟨m, hm⟩ := ih j' (Nat.le_of_succ_le_succ hj)
      refine ⟨d * 10 ^ j' + m, ?_⟩
      rw [fracVal, pow_succ, mul_comm (10 ^ j') 10, ← mul_assoc,
        div_mul_cancel₀ _ (by norm_num : (10 : ℚ) ≠ 0), add_mul, hm]
      push_cast
      rfl

def NoTrailingZero (ds : List ℕ) : Prop := ds = [] ∨ ∃ ds' c, ds = ds' ++ [c] ∧ c ≠ 0

theorem noTrailingZero_iff (ds : List ℕ) : NoTrailingZero ds ↔ ds.getLast? ≠ some 0 := by
  unfold NoTrailingZero
  constructor
  · rintro (h | ⟨ds', c, h, hc⟩)
    · simp [h]
    · simp [h, hc]
  · intro h
    rcases List.eq_nil_or_concat ds with h0 | ⟨ds', c, h0⟩
    · exact Or.inl h0
    · right
      refine ⟨ds', c, by simpa using h0, ?_⟩
      intro hc
      apply h
      subst hc
      simp [h0]

theorem noTrailingZero_cons (d : ℕ) (ds : List ℕ) (h : NoTrailingZero ds) (hne : ds ≠ []) :
    NoTrailingZero (d :: ds) := by
  rcases h with h | ⟨ds', c, h, hc⟩
  · exact absurd h hne
  · exact Or.inr ⟨d :: ds', c, by rw [h, List.cons_append], hc⟩

def Canonical (ds : List ℕ) : Prop := NoTrailingZero ds ∧ ∀ d ∈ ds, d < 10

theorem canonical_nil : Canonical [] := ⟨Or.inl rfl, fun _ h => absurd h List.not_mem_nil⟩

theorem Canonical.tail {d : ℕ} {ds : List ℕ} (h : Canonical (d :: ds)) : Canonical ds := by
  refine ⟨?_, (List.forall_mem_cons.mp h.2).2⟩
  rcases h.1 with h | ⟨ds', c, h, hc⟩
  · exact absurd h (List.cons_ne_nil _ _)
  · cases ds' with
    | nil => exact Or.inl (List.cons.inj h).2
    | cons a t => exact Or.inr ⟨t, c, (List.cons.inj h).2, hc⟩

theorem fracVal_pos (ds : List ℕ) (h : NoTrailingZero ds) (hne : ds ≠ []) : 0 < fracVal ds := by
  rcases h with h | ⟨ds', c, h, hc⟩
  · exact absurd h hne
  · rw [h, fracVal_append_singleton]
    have hc' : (0 : ℚ) < c := Nat.cast_pos.mpr (Nat.pos_of_ne_zero hc)
    exact add_pos_of_nonneg_of_pos (fracVal_nonneg ds') (div_pos hc' (pow_pos (by norm_num) _))

end Num
