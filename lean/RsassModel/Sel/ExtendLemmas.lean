/-
C24 lemmas (namespace `Sel`): list plumbing of extend / replace for every superselector
test `S`, unifier `U` and dedup `D`; nesting in the root context is the identity; the
`&suffix` form of nesting computes what `selector.append` does.
-/
import RsassModel.Sel.Extend
import RsassModel.Sel.NestLemmas

namespace Sel

theorem sublist_flatMap_of_single {α : Type} (g : α → List α) (h : ∀ x, List.Sublist [x] (g x)) :
    ∀ (l : List α), List.Sublist l (l.flatMap g)
  | [] => by simp
  | x :: xs => by
    simp only [List.flatMap_cons]
    have := List.Sublist.append (h x) (sublist_flatMap_of_single g h xs)
    simpa using this

theorem extendStep_keeps (S : Selector → Selector → Bool) (U : Selector → Selector → List Selector)
    (D : Compound → Compound → Compound) (er : SelSet) (o s : Selector) :
    List.Sublist [s] (extendStep S U D er o s) := by
  unfold extendStep
  split
  · exact List.Sublist.cons_cons s (List.nil_sublist _)
  · exact List.Sublist.refl _

theorem foldl_extend_sublist (S : Selector → Selector → Bool) (U : Selector → Selector → List Selector)
    (D : Compound → Compound → Compound) (er : SelSet) :
    ∀ (ee : SelSet) (l : List Selector),
      List.Sublist l (ee.foldl (fun result o => result.flatMap (extendStep S U D er o)) l)
  | [], l => by simp
  | o :: os, l => by
    simp only [List.foldl_cons]
    exact List.Sublist.trans
      (sublist_flatMap_of_single _ (extendStep_keeps S U D er o) l)
      (foldl_extend_sublist S U D er os _)

theorem Selector.extendW_keeps (S : Selector → Selector → Bool) (U : Selector → Selector → List Selector)
    (D : Compound → Compound → Compound) (ee er : SelSet) (s : Selector) :
    List.Sublist [s] (Selector.extendW S U D ee er s) :=
  foldl_extend_sublist S U D er ee [s]

theorem replaceTop_noMatch (S : Selector → Selector → Bool) (U : Selector → Selector → List Selector)
    (D : Compound → Compound → Compound) (r : SelSet) (s : Selector) :
    ∀ (o : SelSet), (∀ x ∈ o, S x s = false) → replaceTop S U D o r s = [s] := by
  intro o
  unfold replaceTop
  induction o with
  | nil => intro _; rfl
  | cons x xs ih =>
    intro h
    simp only [List.foldl_cons, List.flatMap_cons, List.flatMap_nil, List.append_nil]
    have hx : S x s = false := h x (by simp)
    simp only [replaceStep, hx, Bool.false_eq_true, if_false]
    exact ih fun y hy => h y (by simp [hy])

mutual
  /-- nothing in the selector (nor, recursively, in the pseudo arguments `replace` enters) is
  matched by a member of `o` -/
  def Selector.noMatchD (S : Selector → Selector → Bool) (o : SelSet) : Selector → Bool
    | .leaf c => (o.all fun x => !S x (.leaf c)) && Compound.noMatchD S o c
    | .rel k s c => (o.all fun x => !S x (.rel k s c)) && Compound.noMatchD S o c
  def Compound.noMatchD (S : Selector → Selector → Bool) (o : SelSet) : Compound → Bool
    | .mk _ _ _ _ _ _ ps => Pseudo.noMatchListD S o ps
  def Pseudo.noMatchD (S : Selector → Selector → Bool) (o : SelSet) : Pseudo → Bool
    | .mk n a _ => if nameIn n (replacePseudoNames.map String.toList) then PArg.noMatchD S o a else true
  def PArg.noMatchD (S : Selector → Selector → Bool) (o : SelSet) : PArg → Bool
    | .sel s => Selector.noMatchListD S o s
    | _ => true
  def Pseudo.noMatchListD (S : Selector → Selector → Bool) (o : SelSet) : List Pseudo → Bool
    | [] => true
    | p :: ps => Pseudo.noMatchD S o p && Pseudo.noMatchListD S o ps
  def Selector.noMatchListD (S : Selector → Selector → Bool) (o : SelSet) : List Selector → Bool
    | [] => true
    | s :: ss => Selector.noMatchD S o s && Selector.noMatchListD S o ss
end

mutual
  theorem Selector.replaceD_noMatch (S : Selector → Selector → Bool)
      (U : Selector → Selector → List Selector) (D : Compound → Compound → Compound) (o r : SelSet) :
      ∀ (s : Selector), Selector.noMatchD S o s = true → Selector.replaceD S U D o r s = [s]
    | .leaf c, h | .rel _ _ c, h => by
      simp only [Selector.noMatchD, Bool.and_eq_true, List.all_eq_true, Bool.not_eq_true'] at h
      simp only [Selector.replaceD, Compound.replaceInPseudoD_noMatch S U D o r c h.2]
      exact replaceTop_noMatch S U D r _ o h.1
  theorem Compound.replaceInPseudoD_noMatch (S : Selector → Selector → Bool)
      (U : Selector → Selector → List Selector) (D : Compound → Compound → Compound) (o r : SelSet) :
      ∀ (c : Compound), Compound.noMatchD S o c = true → Compound.replaceInPseudoD S U D o r c = c
    | .mk b e p cl i a ps, h => by
      simp only [Compound.noMatchD] at h
      simp only [Compound.replaceInPseudoD, Pseudo.replaceListD_noMatch S U D o r ps h]
  theorem Pseudo.replaceD_noMatch (S : Selector → Selector → Bool)
      (U : Selector → Selector → List Selector) (D : Compound → Compound → Compound) (o r : SelSet) :
      ∀ (p : Pseudo), Pseudo.noMatchD S o p = true → Pseudo.replaceD S U D o r p = p
    | .mk n a e, h => by
      simp only [Pseudo.noMatchD] at h
      simp only [Pseudo.replaceD]
      split
      · next hn =>
        simp only [hn, if_true] at h
        rw [PArg.replaceD_noMatch S U D o r a h]
      · rfl
  theorem PArg.replaceD_noMatch (S : Selector → Selector → Bool)
      (U : Selector → Selector → List Selector) (D : Compound → Compound → Compound) (o r : SelSet) :
      ∀ (a : PArg), PArg.noMatchD S o a = true → PArg.replaceD S U D o r a = a
    | .sel s, h => by
      simp only [PArg.noMatchD] at h
      simp only [PArg.replaceD, Selector.replaceListD_noMatch S U D o r s h]
    | .other _, _ => rfl
    | .none, _ => rfl
  theorem Pseudo.replaceListD_noMatch (S : Selector → Selector → Bool)
      (U : Selector → Selector → List Selector) (D : Compound → Compound → Compound) (o r : SelSet) :
      ∀ (ps : List Pseudo), Pseudo.noMatchListD S o ps = true → Pseudo.replaceListD S U D o r ps = ps
    | [], _ => rfl
    | p :: ps, h => by
      simp only [Pseudo.noMatchListD, Bool.and_eq_true] at h
      simp only [Pseudo.replaceListD, Pseudo.replaceD_noMatch S U D o r p h.1,
        Pseudo.replaceListD_noMatch S U D o r ps h.2]
  theorem Selector.replaceListD_noMatch (S : Selector → Selector → Bool)
      (U : Selector → Selector → List Selector) (D : Compound → Compound → Compound) (o r : SelSet) :
      ∀ (ss : List Selector), Selector.noMatchListD S o ss = true → Selector.replaceListD S U D o r ss = ss
    | [], _ => rfl
    | s :: ss, h => by
      simp only [Selector.noMatchListD, Bool.and_eq_true] at h
      simp only [Selector.replaceListD, Selector.replaceD_noMatch S U D o r s h.1,
        Selector.replaceListD_noMatch S U D o r ss h.2, List.singleton_append]
end

theorem Selector.nest_root (o : Selector) : Selector.nest Selector.root o = o := by
  have h : Selector.root.isRootLike = true := by decide
  cases o <;> simp [Selector.nest, h]

theorem rootNest_id (q : NestQuirks) (a : SelSet) (ha : ∀ i ∈ a, i.hasBackref = false) :
    Ctx.root.nest q a = a := by
  unfold Ctx.nest SelSet.nest
  simp only [Ctx.root]
  rw [nestRows_no_amp q SelSet.root _ a ha, roundRobin_matrixRows]
  simp [SelSet.root, Selector.nest_root]

theorem ruleNest_eq (q : NestQuirks) (a b : SelSet) (ha : ∀ i ∈ a, i.hasBackref = false)
    (hroot : SelSet.isRoot a = false) : ruleNest q a b = SelSet.nest q a b a := by
  unfold ruleNest
  rw [rootNest_id q a ha]
  simp [Ctx.nest, Ctx.ofSet, Ctx.getBackref, hroot]

theorem Compound.setBackref_roundtrip (c : Compound) (h : c.backref = false) :
    (c.setBackref true).setBackref false = c := by
  cases c
  simp only [Compound.backref] at h
  simp [Compound.setBackref, h]

theorem Pseudo.resolveRefList_noSel (q : NestQuirks) (ctx : SelSet) :
    ∀ (ps : List Pseudo), (∀ p ∈ ps, ∀ X, p.arg ≠ .sel X) → Pseudo.resolveRefList q ctx ps = ps
  | [], _ => by simp [Pseudo.resolveRefList]
  | p :: ps, h => by
    have hp := h p (by simp)
    have ih := Pseudo.resolveRefList_noSel q ctx ps fun x hx => h x (by simp [hx])
    cases p with
    | mk n a e =>
      cases a with
      | sel X => exact absurd rfl (hp X)
      | other _ | none => simp [Pseudo.resolveRefList, Pseudo.resolveRef, PArg.resolveRef, ih]

theorem allSome_cons_some {α : Type} {x : Option α} {rest : List (Option α)} {R : List α}
    (h : allSome (x :: rest) = some R) : ∃ r R', x = some r ∧ allSome rest = some R' ∧ R = r :: R' := by
  cases x with
  | none => simp [allSome] at h
  | some r =>
    simp only [allSome, Option.map_eq_some_iff] at h
    obtain ⟨R', h1, h2⟩ := h
    exact ⟨r, R', rfl, h1, h2.symm⟩

/-- when `selector.append(a, c)` succeeds with `R` (the hypothesis is `fnAppend a [.leaf c] = some R`
unfolded), resolving `&c` against `a` gives `R` -/
theorem resolveOneList_of_append (c : Compound) :
    ∀ (a : SelSet) (R : SelSet),
      allSome (a.flatMap fun b => [Selector.leaf c].map fun e => Selector.appendSel Compound.append b e) = some R →
      resolveOneList nestAsis c a = R
  | [], R, h => by
    simp [allSome] at h
    simp [resolveOneList, h]
  | s :: ss, R, h => by
    simp only [List.flatMap_cons, List.map_cons, List.map_nil, List.singleton_append] at h
    obtain ⟨r, R', h1, h2, rfl⟩ := allSome_cons_some h
    have ih := resolveOneList_of_append c ss R' h2
    simp only [resolveOneList, ih]
    simp only [Selector.appendSel] at h1
    split at h1
    · simp at h1
    · split at h1
      · simp at h1
      · split at h1
        · next x hx =>
          simp only [Option.some.injEq] at h1
          simp [resolveOne, hx, nestAsis, h1]
        · simp at h1

end Sel
