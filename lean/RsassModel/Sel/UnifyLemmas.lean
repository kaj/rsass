/-
C24 lemmas (namespace `Sel`): soundness of `combine_vital` (in the argument order that drops
the more general element) and of `CompoundSelector::unify`.
-/
import RsassModel.Sel.Unify
import RsassModel.Sel.SuperFuel

namespace Sel

theorem combineVital_mem {α : Type} (k : Bool) (f : α → α → Bool) (v o : List α) (x : α)
    (h : x ∈ combineVital k f v o) : x ∈ v ∨ x ∈ o := by
  simp only [combineVital, List.mem_append, List.mem_filter] at h
  rcases h with h | h
  · exact Or.inl h.1
  · exact Or.inr h.1

/-- with the sound argument order every element of either list is above an element of the result -/
theorem combineVital_sound {α : Type} (f : α → α → Bool) (v o : List α)
    (hr : ∀ x, x ∈ v ∨ x ∈ o → f x x = true)
    (ht : ∀ x y z, f x y = true → f y z = true → f x z = true) :
    (∀ x ∈ v, ∃ y ∈ combineVital false f v o, f x y = true)
      ∧ (∀ x ∈ o, ∃ y ∈ combineVital false f v o, f x y = true) := by
  have key : ∀ x ∈ o, ∃ y ∈ combineVital false f v o, f x y = true := by
    intro x hx
    by_cases hk : ((v.filter fun a => !o.any fun b => f a b).any fun b => f x b) = true
    · obtain ⟨c, hc, hxc⟩ := List.any_eq_true.1 hk
      refine ⟨c, ?_, hxc⟩
      simp only [combineVital, Bool.false_eq_true, if_false, List.mem_append]
      exact Or.inl hc
    · refine ⟨x, ?_, hr x (Or.inr hx)⟩
      simp only [combineVital, Bool.false_eq_true, if_false, List.mem_append, List.mem_filter]
      right
      exact ⟨hx, by simpa using hk⟩
  refine ⟨?_, key⟩
  intro x hx
  by_cases hk : (o.any fun b => f x b) = true
  · obtain ⟨b, hb, hxb⟩ := List.any_eq_true.1 hk
    obtain ⟨y, hy, hby⟩ := key b hb
    exact ⟨y, hy, ht x b y hxb hby⟩
  · refine ⟨x, ?_, hr x (Or.inl hx)⟩
    simp only [combineVital, Bool.false_eq_true, if_false, List.mem_append, List.mem_filter]
    left
    exact ⟨hx, by simpa using hk⟩

theorem combineVital_symm {α : Type} (f : α → α → Bool) (v o : List α)
    (hs : ∀ x ∈ v, ∀ y ∈ o, f x y = f y x) : combineVital true f v o = combineVital false f v o := by
  simp only [combineVital, if_true, Bool.false_eq_true, if_false]
  have h1 : (v.filter fun a => !o.any fun b => f b a) = (v.filter fun a => !o.any fun b => f a b) := by
    apply List.filter_congr
    intro a ha
    congr 1
    exact any_congr_mem fun b hb => (hs a ha b hb).symm
  rw [h1]
  congr 1
  apply List.filter_congr
  intro a ha
  congr 1
  apply any_congr_mem
  intro b hb
  exact hs b (List.mem_filter.1 hb).1 a ha

theorem pushNew_sub_left : ∀ (cs acc : List (List Char)), ∀ x ∈ acc, x ∈ pushNew acc cs
  | [], _, x, h => by simpa [pushNew] using h
  | c :: cs, acc, x, h => by
    simp only [pushNew]
    split
    · exact pushNew_sub_left cs acc x h
    · exact pushNew_sub_left cs (acc ++ [c]) x (by simp [h])

theorem pushNew_sub_right : ∀ (cs acc : List (List Char)), ∀ x ∈ cs, x ∈ pushNew acc cs
  | [], _, x, h => by simp at h
  | c :: cs, acc, x, h => by
    simp only [pushNew]
    rcases List.mem_cons.1 h with h | h
    · subst h
      split
      · next hc => exact pushNew_sub_left cs acc x (by simpa using hc)
      · exact pushNew_sub_left cs (acc ++ [x]) x (by simp)
    · split
      · exact pushNew_sub_right cs acc x h
      · exact pushNew_sub_right cs (acc ++ [c]) x h

theorem unifyPe_sound {R : SelSet → SelSet → Bool} {x y : Option Pseudo} {pe : Option Pseudo}
    (h : unifyPe (Pseudo.isSuperW R) x y = some pe) (hs : x.isSome = y.isSome)
    (hr : ∀ p, x = some p ∨ y = some p → Pseudo.isSuperW R p p = true) :
    peClause R x pe = true ∧ peClause R y pe = true := by
  cases x with
  | none =>
    cases y with
    | none =>
      simp only [unifyPe, Option.some.injEq] at h
      subst h
      simp [peClause]
    | some q => simp at hs
  | some p =>
    cases y with
    | none => simp at hs
    | some q =>
      simp only [unifyPe] at h
      split at h
      · next hqp =>
        simp only [Option.some.injEq] at h; subst h
        exact ⟨by simpa [peClause] using hr p (Or.inl rfl), by simpa [peClause] using hqp⟩
      · split at h
        · next hpq =>
          simp only [Option.some.injEq] at h; subst h
          exact ⟨by simpa [peClause] using hpq, by simpa [peClause] using hr q (Or.inr rfl)⟩
        · simp at h

theorem unifyPe_mem {P : Pseudo → Pseudo → Bool} {x y : Option Pseudo} {p : Pseudo}
    (h : unifyPe P x y = some (some p)) : x = some p ∨ y = some p := by
  cases x <;> cases y <;> simp only [unifyPe] at h
  · exact nomatch h
  · exact Or.inr (Option.some.inj h)
  · exact Or.inl (Option.some.inj h)
  · split at h
    · exact Or.inl (Option.some.inj h)
    · split at h
      · exact Or.inr (Option.some.inj h)
      · exact nomatch h

theorem unifyElem_sound {EU : List Char → List Char → Option (List Char)} {x y el : Option (List Char)}
    (hEU : ∀ e f r, x = some e → y = some f → EU e f = some r →
      elemIsSuper e r = true ∧ elemIsSuper f r = true)
    (h : unifyElem EU x y = some el) : elemClause x el = true ∧ elemClause y el = true := by
  cases x with
  | none =>
    cases y with
    | none =>
      simp only [unifyElem, Option.some.injEq] at h
      subst h
      simp [elemClause]
    | some e =>
      simp only [unifyElem, Option.some.injEq] at h; subst h
      exact ⟨by simp [elemClause], elemClause_refl _⟩
  | some e =>
    cases y with
    | none =>
      simp only [unifyElem, Option.some.injEq] at h; subst h
      exact ⟨elemClause_refl _, by simp [elemClause]⟩
    | some f =>
      simp only [unifyElem, Option.map_eq_some_iff] at h
      obtain ⟨r, hr, rfl⟩ := h
      have := hEU e f r rfl rfl hr
      simp [elemClause, this.1, this.2]

theorem unifyId_sound {x y i : Option (List Char)} (h : unifyId x y = some i) :
    (x = none ∨ i = x) ∧ (y = none ∨ i = y) := by
  cases x <;> cases y <;> simp only [unifyId, Option.some.injEq] at h
  · subst h; simp
  · subst h; simp
  · subst h; simp
  · split at h
    · next hxy =>
      simp only [Option.some.injEq] at h
      subst h
      subst hxy
      simp
    · simp at h

/-- every pseudo-element of the compound is its `pseudo_element()`: at most one -/
def Compound.onePe (c : Compound) : Prop :=
  ∀ p ∈ c.pseudos, p.isElement = true → c.pseudoElement = some p

theorem find_isElement_opt (pe : Option Pseudo) (h : ∀ p, pe = some p → p.isElement = true) :
    (match pe with | some p => [p] | none => []).find? Pseudo.isElement = pe := by
  cases pe with
  | none => simp
  | some p => simp [h p rfl]

/-- `c ⊒ u` for a `u` assembled as `CompoundSelector::unify` does, one hypothesis per clause of
the compound test: element type (`hel`), placeholders and classes (`hpl`, `hcl`: subsets), id
(`hid`), attributes (`hat`), pseudo-classes (`hps`: each is covered in `cv`, which holds no
pseudo-element, `hcv`), pseudo-element (`hpe`, with `h1`: `c` has at most one).  The pseudos of
`u` are `cv` followed by a tail `tl` that holds the chosen pseudo-element `pe` (`htl`, `hmem`),
which is then `u`'s `pseudo_element()`. -/
theorem Compound.isSuperG_mk {A : Attr → Attr → Bool} {R : SelSet → SelSet → Bool} {c : Compound}
    {bk : Bool} {elem id : Option (List Char)} {pl cl : List (List Char)} {ats : List Attr}
    {cv tl : List Pseudo} {pe : Option Pseudo}
    (hel : elemClause c.elem elem = true)
    (hpl : ∀ x ∈ c.placeholders, x ∈ pl) (hcl : ∀ x ∈ c.classes, x ∈ cl)
    (hid : c.id = none ∨ id = c.id)
    (hat : ∀ x ∈ c.attrs, ∃ y ∈ ats, A x y = true)
    (hcv : ∀ p ∈ cv, p.isElement = false)
    (htl : tl.find? Pseudo.isElement = pe) (hmem : ∀ q, pe = some q → q ∈ tl)
    (hps : ∀ x ∈ c.pseudos, x.isElement = false → ∃ y ∈ cv, Pseudo.isSuperW R x y = true)
    (hpe : peClause R c.pseudoElement pe = true) (h1 : c.onePe) :
    Compound.isSuperG A R c (.mk bk elem pl cl id ats (cv ++ tl)) = true := by
  have hupe : Compound.pseudoElement (.mk bk elem pl cl id ats (cv ++ tl)) = pe := by
    show List.find? Pseudo.isElement (cv ++ tl) = pe
    rw [List.find?_append, List.find?_eq_none.2 fun x hx => by simp [hcv x hx], Option.none_or, htl]
  simp only [Compound.isSuperG, Bool.and_eq_true]
  refine ⟨⟨⟨⟨⟨⟨hel, allAny_of_subset (fun _ _ => by simp) hpl⟩,
    allAny_of_subset (fun _ _ => by simp) hcl⟩, ?_⟩, allAny_iff.2 hat⟩, allAny_iff.2 ?_⟩, hupe ▸ hpe⟩
  · show (match c.id with | none => true | some i => decide (id = some i)) = true
    rcases hid with h0 | h0
    · simp [h0]
    · rw [h0]; cases c.id <;> simp
  · intro p hp
    by_cases hpE : p.isElement = true
    · rw [h1 p hp hpE] at hpe
      cases pe with
      | none => simp [peClause] at hpe
      | some q => exact ⟨q, List.mem_append_right _ (hmem q rfl), by simpa [peClause] using hpe⟩
    · obtain ⟨y, hy, hxy⟩ := hps p hp (by simpa using hpE)
      exact ⟨y, List.mem_append_left _ hy, hxy⟩

/-- **Soundness of compound unification** for the argument order that drops the more general
element: both inputs are (compound) superselectors of the result.  Over any reflexive and
transitive attribute relation `A`, any transitive argument relation `R` (reflexive on the
pseudos involved) and any element-type unifier `EU` that is sound on the two element types at
hand. -/
theorem Compound.unifyG_sound {A : Attr → Attr → Bool} {R : SelSet → SelSet → Bool}
    {EU : List Char → List Char → Option (List Char)} {a b u : Compound}
    (hAr : ∀ x, A x x = true) (hAt : ∀ x y z, A x y = true → A y z = true → A x z = true)
    (hR : RTrans R)
    (hPr : ∀ p, p ∈ a.pseudos ∨ p ∈ b.pseudos → Pseudo.isSuperW R p p = true)
    (hEU : ∀ x y r, a.elem = some x → b.elem = some y → EU x y = some r →
      elemIsSuper x r = true ∧ elemIsSuper y r = true)
    (hpe : a.pseudoElement.isSome = b.pseudoElement.isSome) (ha1 : a.onePe) (hb1 : b.onePe)
    (h : Compound.unifyG false A (Pseudo.isSuperW R) EU a b = some u) :
    Compound.isSuperG A R a u = true ∧ Compound.isSuperG A R b u = true := by
  unfold Compound.unifyG at h
  split at h
  · next pe elem id hp he hi =>
    rw [Option.ite_none_left_eq_some] at h
    obtain rfl := Option.some.inj h.2
    have hpes := unifyPe_sound hp hpe fun p hp' => by
      rcases hp' with hp' | hp'
      · exact hPr p (Or.inl (List.mem_of_find?_eq_some hp'))
      · exact hPr p (Or.inr (List.mem_of_find?_eq_some hp'))
    have hel := unifyElem_sound hEU he
    have hid := unifyId_sound hi
    have hcv := combineVital_sound (Pseudo.isSuperW R)
      (a.pseudos.filter fun p => !p.isElement) (b.pseudos.filter fun p => !p.isElement)
      (fun x hx => by
        rcases hx with hx | hx
        · exact hPr x (Or.inl (List.mem_filter.1 hx).1)
        · exact hPr x (Or.inr (List.mem_filter.1 hx).1))
      (fun x y z => Pseudo.isSuperW_trans hR)
    have hca := combineVital_sound A a.attrs b.attrs (fun x _ => hAr x) hAt
    have hnoEl : ∀ p ∈ combineVital false (Pseudo.isSuperW R)
        (a.pseudos.filter fun p => !p.isElement) (b.pseudos.filter fun p => !p.isElement),
        p.isElement = false := by
      intro p hp'
      rcases combineVital_mem _ _ _ _ p hp' with h' | h' <;> simpa using (List.mem_filter.1 h').2
    have hpeEl : ∀ p, pe = some p → p.isElement = true := by
      rintro p rfl
      rcases unifyPe_mem hp with h' | h'
      · simpa using List.find?_some h'
      · simpa using List.find?_some h'
    have hmem : ∀ q, pe = some q → q ∈ (match pe with | some p => [p] | none => []) := by
      rintro q rfl
      exact List.mem_singleton.2 rfl
    have hnE : ∀ (l : List Pseudo) (x : Pseudo), x ∈ l → x.isElement = false →
        x ∈ l.filter fun p => !p.isElement :=
      fun l x hx hxE => List.mem_filter.2 ⟨hx, by simpa using hxE⟩
    exact ⟨Compound.isSuperG_mk hel.1 (pushNew_sub_left _ _) (pushNew_sub_left _ _) hid.1 hca.1
        hnoEl (find_isElement_opt pe hpeEl) hmem (fun x hx hxE => hcv.1 x (hnE _ x hx hxE))
        hpes.1 ha1,
      Compound.isSuperG_mk hel.2 (pushNew_sub_right _ _) (pushNew_sub_right _ _) hid.2 hca.2
        hnoEl (find_isElement_opt pe hpeEl) hmem (fun x hx hxE => hcv.2 x (hnE _ x hx hxE))
        hpes.2 hb1⟩
  · simp at h

theorem takeWhile_bar_free (e : List Char) : (e.takeWhile (· ≠ '|')).contains '|' = false := by
  induction e with
  | nil => simp
  | cons x xs ih =>
    by_cases hx : x = '|'
    · simp [hx]
    · simp only [List.takeWhile, ne_eq, hx, not_false_eq_true, decide_true, List.contains_cons,
        Bool.or_eq_false_iff, beq_eq_false_iff_ne]
      exact ⟨fun h => hx h.symm, ih⟩

theorem split_join_some (ns name : List Char) (h : ns.contains '|' = false) :
    elemSplitNs (ns ++ '|' :: name) = (some ns, name) := by
  have hall : ∀ c ∈ ns, decide (c ≠ '|') = true := by
    intro c hc
    have hne : c ≠ '|' := fun e => by
      rw [e, ← List.contains_iff_mem, h] at hc
      exact Bool.false_ne_true hc
    exact decide_eq_true hne
  have hc : (ns ++ '|' :: name).contains '|' = true := by simp
  simp only [elemSplitNs, hc, if_true, List.takeWhile_append_of_pos hall, List.dropWhile_append_of_pos hall]
  simp

theorem split_join_none (name : List Char) (h : name.contains '|' = false) :
    elemSplitNs name = (none, name) := by
  simp only [elemSplitNs, h, Bool.false_eq_true, if_false]

theorem split_ns_bar_free (e ns : List Char) (h : (elemSplitNs e).1 = some ns) : ns.contains '|' = false := by
  unfold elemSplitNs at h
  split at h
  · simp only [Option.some.injEq] at h
    rw [← h]
    exact takeWhile_bar_free e
  · simp at h

/-- element types as the parser produces them: at most one `|` -/
def elemWf (e : List Char) : Bool := !(elemSplitNs e).2.contains '|'

theorem split_join (ns : Option (List Char)) (name : List Char)
    (hns : ∀ s, ns = some s → s.contains '|' = false) (hn : name.contains '|' = false) :
    elemSplitNs (joinNs ns name) = (ns, name) := by
  cases ns with
  | none => exact split_join_none name hn
  | some s => exact split_join_some s name (hns s rfl)

/-- the namespace half of `ElemType::unify` -/
def nsUnify : Option (List Char) → Option (List Char) → Option (Option (List Char))
  | none, none => some none
  | some a, b => if a = ['*'] then some b
                 else match b with
                   | some b' => if b' = ['*'] then some (some a) else if a = b' then some (some a) else none
                   | none => none
  | none, some b => if b = ['*'] then some none else none

/-- the name half of `ElemType::unify` -/
def nameUnify (en on : List Char) : Option (List Char) :=
  if en = ['*'] then some on else if on = ['*'] then some en else if en = on then some en else none

theorem elemUnify_eq (e o : List Char) :
    elemUnify e o =
      match nsUnify (elemSplitNs e).1 (elemSplitNs o).1, nameUnify (elemSplitNs e).2 (elemSplitNs o).2 with
      | some ns, some name => some (joinNs ns name)
      | _, _ => none := rfl

theorem matchName_star (b : List Char) : matchName ['*'] b = true := rfl

theorem nameUnify_sound {x y r : List Char} (h : nameUnify x y = some r) :
    matchName x r = true ∧ matchName y r = true ∧ (r = x ∨ r = y) := by
  unfold nameUnify at h
  split at h
  · next hx =>
    obtain rfl := Option.some.inj h
    exact ⟨hx ▸ matchName_star _, matchName_refl _, Or.inr rfl⟩
  · split at h
    · next hy =>
      obtain rfl := Option.some.inj h
      exact ⟨matchName_refl _, hy ▸ matchName_star _, Or.inl rfl⟩
    · split at h
      · next hxy =>
        obtain rfl := Option.some.inj h
        exact ⟨matchName_refl _, hxy ▸ matchName_refl _, Or.inl rfl⟩
      · exact nomatch h

theorem nsUnify_sound {x y r : Option (List Char)} (h : nsUnify x y = some r) :
    matchName (x.getD ['*']) (r.getD ['*']) = true ∧ matchName (y.getD ['*']) (r.getD ['*']) = true
      ∧ (r = x ∨ r = y) := by
  unfold nsUnify at h
  split at h
  · obtain rfl := Option.some.inj h
    exact ⟨rfl, rfl, Or.inl rfl⟩
  · split at h
    · next ha =>
      obtain rfl := Option.some.inj h
      exact ⟨ha ▸ matchName_star _, matchName_refl _, Or.inr rfl⟩
    · split at h
      · split at h
        · next hb =>
          obtain rfl := Option.some.inj h
          exact ⟨matchName_refl _, hb ▸ matchName_star _, Or.inl rfl⟩
        · split at h
          · next hab =>
            obtain rfl := Option.some.inj h
            exact ⟨matchName_refl _, hab ▸ matchName_refl _, Or.inl rfl⟩
          · exact nomatch h
      · exact nomatch h
  · split at h
    · next hb =>
      obtain rfl := Option.some.inj h
      exact ⟨rfl, hb ▸ matchName_star _, Or.inl rfl⟩
    · exact nomatch h

theorem elemUnify_sound (x y r : List Char) (hx : elemWf x = true) (hy : elemWf y = true)
    (h : elemUnify x y = some r) : elemIsSuper x r = true ∧ elemIsSuper y r = true := by
  simp only [elemWf, Bool.not_eq_true'] at hx hy
  rw [elemUnify_eq] at h
  split at h
  · next ns name hns hname =>
    obtain rfl := Option.some.inj h
    obtain ⟨n1, n2, hn⟩ := nsUnify_sound hns
    obtain ⟨m1, m2, hm⟩ := nameUnify_sound hname
    have hsplit : elemSplitNs (joinNs ns name) = (ns, name) := by
      apply split_join
      · intro s hs
        rcases hn with hn | hn
        · exact split_ns_bar_free x s (hn ▸ hs)
        · exact split_ns_bar_free y s (hn ▸ hs)
      · rcases hm with hm | hm
        · rw [hm]; exact hx
        · rw [hm]; exact hy
    simp only [elemIsSuper, hsplit, n1, n2, m1, m2, Bool.and_self, and_self]
  · exact nomatch h

theorem Compound.unify_sound {a b u : Compound}
    (hpe : a.pseudoElement.isSome = b.pseudoElement.isSome) (ha1 : a.onePe) (hb1 : b.onePe)
    (hwa : ∀ e, a.elem = some e → elemWf e = true) (hwb : ∀ e, b.elem = some e → elemWf e = true)
    (h : Compound.unify unifySpec a b = some u) :
    Compound.isSuper superSpec a u = true ∧ Compound.isSuper superSpec b u = true :=
  Compound.unifyG_sound (Attr.isSuper_refl superSpec) (fun _ _ _ => Attr.isSuper_trans_of rfl)
    (SelSet.isSuper_trans_of superSpec fun _ _ _ => Attr.isSuper_trans_of rfl)
    (fun p _ => Pseudo.isSuperW_self_refl superSpec p)
    (fun x y r hx hy hr => elemUnify_sound x y r (hwa x hx) (hwb y hy) hr) hpe ha1 hb1 h

theorem Selector.unify_leaf (q : UnifyQuirks) (a b : Compound) :
    Selector.unify q (.leaf a) (.leaf b)
      = match Compound.unify q a b with | some u => [.leaf u] | none => [] := by
  -- the fuel is `8 * (1 + 1) + 8 = 24`; two levels of it are used
  show unifyN q (23 + 1) (.leaf a) (.leaf b) = _
  simp only [unifyN]
  show (innerUnifyN q (22 + 1) (.leaf a) (.leaf b)).getD [] = _
  simp only [innerUnifyN, Selector.relOf, Selector.compound]
  cases Compound.unify q a b <;> simp

end Sel
