/-
Helper lemmas for Theorems/C25.lean: the name lexer on plain text and on the printer's
digit escape.
-/
import RsassModel.Sel.Parse

namespace Sel

/-- a name made of plain characters only (`selector_plain_part` characters) -/
def isPlainName (q : LexQuirks) (n : List Char) : Bool := !n.isEmpty && n.all (isPlainChar q)

/-- the lexer stops at `stop`: end of text or a character that cannot continue a name -/
def stopsName (q : LexQuirks) (rest : List Char) : Bool :=
  match rest with
  | [] => true
  | c :: _ => !isPlainChar q c && c != '\\' && c != '#'

theorem nameTail_plain (q : LexQuirks) (hash : Bool) :
    ∀ (n acc rest : List Char) (fuel : Nat), n.all (isPlainChar q) = true → stopsName q rest = true →
      n.length < fuel → nameTail q hash fuel acc (n ++ rest) = (acc ++ n, rest)
  | [], acc, rest, fuel, _, hs, hf => by
    cases fuel with
    | zero => simp at hf
    | succ f =>
      cases rest with
      | nil => simp [nameTail]
      | cons c r =>
        simp only [stopsName, Bool.and_eq_true, Bool.not_eq_true', bne_iff_ne, ne_eq] at hs
        obtain ⟨⟨h1, h2⟩, h3⟩ := hs
        simp [nameTail, h1, h2, h3]
  | x :: xs, acc, rest, fuel, hn, hs, hf => by
    cases fuel with
    | zero => simp at hf
    | succ f =>
      simp only [List.all_cons, Bool.and_eq_true] at hn
      have := nameTail_plain q hash xs (acc ++ [x]) rest f hn.2 hs (by simpa using hf)
      simp [nameTail, hn.1, this]

theorem cssName_plain (q : LexQuirks) (hash : Bool) (n rest : List Char) (hn : isPlainName q n = true)
    (hs : stopsName q rest = true) : cssName q hash (n ++ rest) = some (n, rest) := by
  cases n with
  | nil => simp [isPlainName] at hn
  | cons x xs =>
    simp only [isPlainName, List.isEmpty_cons, Bool.not_false, Bool.true_and, List.all_cons,
      Bool.and_eq_true] at hn
    have := nameTail_plain q hash xs [x] rest ((xs ++ rest).length + 1) hn.2 hs (by simp; omega)
    simp only [List.length_append] at this
    simp [cssName, hn.1, this]

theorem not_plain_backslash (q : LexQuirks) : isPlainChar q '\\' = false := by
  have : isAlphanumeric '\\' = false := by decide
  simp [isPlainChar, this]

/-- the printer's escape of a leading digit, `\3X `, and what the lexer makes of it: ten cases,
each by evaluation (the rest of the text stays a variable) -/
theorem digit_escape (q : LexQuirks) {d : Char}
    (hd : d ∈ ['0', '1', '2', '3', '4', '5', '6', '7', '8', '9']) :
    isAsciiDigit d = true ∧ normFirst q d = '\\' :: (hexLower d.toNat ++ [' ']) ∧
      ∀ r, escapedChar ('\\' :: (hexLower d.toNat ++ ' ' :: r)) = some (d, r) := by
  simp only [List.mem_cons, List.not_mem_nil, or_false] at hd
  rcases hd with rfl | rfl | rfl | rfl | rfl | rfl | rfl | rfl | rfl | rfl <;>
    exact ⟨rfl, rfl, fun _ => rfl⟩

end Sel
