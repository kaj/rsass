/-
C23 lemmas about the relation walk of `Selector::is_superselector` (namespace `Sel`), over
an arbitrary relation `C` on compounds: reflexivity, transitivity, congruence, and the two
monotonicity facts (same link with larger compounds and left parts; prefixing ancestors).
-/
import RsassModel.Sel.SuperLemmas

namespace Sel

/-- the compounds of a complex selector, rightmost first -/
def Selector.compounds : Selector → List Compound
  | .leaf c => [c]
  | .rel _ s c => c :: s.compounds

/-- what the `RelKind::Ancestor` walk tries: every selector hanging on an ancestor or
parent link, anywhere up the chain -/
def ancCands : Selector → List Selector
  | .leaf _ => []
  | .rel k ss _ => (match k with | .ancestor | .parent => [ss] | _ => []) ++ ancCands ss

/-- what the `RelKind::Sibling` walk tries: selectors reached through sibling / adjacent
links only -/
def sibCands : Selector → List Selector
  | .leaf _ => []
  | .rel k ss _ => match k with | .sibling | .adjacent => ss :: sibCands ss | _ => []

/-- what the `RelKind::Parent` arm tries: the selector on the `>` link — the nearest link,
or (with `through`) the first link after sibling / adjacent links -/
def parCands (through : Bool) : Selector → List Selector
  | .leaf _ => []
  | .rel .parent ss _ => [ss]
  | .rel .sibling ss _ => if through then parCands through ss else []
  | .rel .adjacent ss _ => if through then parCands through ss else []
  | .rel .ancestor _ _ => []

/-- every proper left part of a complex selector -/
def Selector.tails : Selector → List Selector
  | .leaf _ => []
  | .rel _ ss _ => ss :: ss.tails

theorem walkAnc_eq (f : Selector → Bool) (s : Selector) : walkAnc f s = (ancCands s).any f := by
  fun_induction walkAnc f s
  · simp [ancCands]
  · next k ss c ih => cases k <;> simp_all [ancCands]

theorem walkSib_eq (f : Selector → Bool) (s : Selector) : walkSib f s = (sibCands s).any f := by
  fun_induction walkSib f s <;> simp_all [sibCands]

theorem walkPar_eq (t : Bool) (f : Selector → Bool) (s : Selector) :
    walkPar t f s = (parCands t s).any f := by
  fun_induction walkPar t f s <;> cases t <;> simp_all [parCands]

theorem compound_mem_compounds (s : Selector) : s.compound ∈ s.compounds := by
  cases s <;> simp [Selector.compound, Selector.compounds]

theorem ancCands_sub_tails : ∀ (s : Selector), ∀ y ∈ ancCands s, y ∈ s.tails
  | .leaf _, y, h => by simp [ancCands] at h
  | .rel k ss _, y, h => by
    simp only [ancCands, List.mem_append] at h
    simp only [Selector.tails, List.mem_cons]
    rcases h with h | h
    · left; cases k <;> simp_all
    · right; exact ancCands_sub_tails ss y h

theorem mem_sibCands {y ss : Selector} {k : Rel} {c : Compound} :
    y ∈ sibCands (.rel k ss c) ↔ (k = .sibling ∨ k = .adjacent) ∧ (y = ss ∨ y ∈ sibCands ss) := by
  cases k <;> simp [sibCands]

theorem sibCands_sub_tails : ∀ (s : Selector), ∀ y ∈ sibCands s, y ∈ s.tails
  | .leaf _, y, h => by simp [sibCands] at h
  | .rel k ss _, y, h => by
    rw [Selector.tails, List.mem_cons]
    exact (mem_sibCands.1 h).2.imp id (sibCands_sub_tails ss y)

theorem parCands_sub_anc (t : Bool) (s : Selector) : ∀ y ∈ parCands t s, y ∈ ancCands s := by
  fun_induction parCands t s <;> simp_all [ancCands]

theorem sub_of_tail {α : Type} {F : Selector → List α}
    (hF : ∀ k ss c, ∀ x ∈ F ss, x ∈ F (.rel k ss c)) :
    ∀ (s : Selector), ∀ y ∈ s.tails, ∀ x ∈ F y, x ∈ F s
  | .leaf _, _, h, _, _ => nomatch h
  | .rel k ss c, y, h, x, hx => by
    rcases List.mem_cons.1 h with rfl | h
    · exact hF k y c x hx
    · exact hF k ss c x (sub_of_tail hF ss y h x hx)

theorem ancCands_of_tail : ∀ (s : Selector), ∀ y ∈ s.tails, ∀ x ∈ ancCands y, x ∈ ancCands s :=
  sub_of_tail fun k ss c x hx => by simp [ancCands, hx]

theorem compounds_of_tail : ∀ (s : Selector), ∀ y ∈ s.tails, ∀ x ∈ y.compounds, x ∈ s.compounds :=
  sub_of_tail fun k ss c x hx => by simp [Selector.compounds, hx]

theorem sub_of_sib {α : Type} {F : Selector → List α}
    (hF : ∀ k ss c, (k = .sibling ∨ k = .adjacent) → ∀ x ∈ F ss, x ∈ F (.rel k ss c)) :
    ∀ (s : Selector), ∀ y ∈ sibCands s, ∀ x ∈ F y, x ∈ F s
  | .leaf _, _, h, _, _ => nomatch h
  | .rel k ss c, y, h, x, hx => by
    obtain ⟨hk, h⟩ := mem_sibCands.1 h
    rcases h with rfl | h
    · exact hF k y c hk x hx
    · exact hF k ss c hk x (sub_of_sib hF ss y h x hx)

theorem sibCands_of_sib : ∀ (s : Selector), ∀ y ∈ sibCands s, ∀ x ∈ sibCands y, x ∈ sibCands s :=
  sub_of_sib fun _ _ _ hk _ hx => mem_sibCands.2 ⟨hk, Or.inr hx⟩

theorem parCands_of_sib : ∀ (s : Selector), ∀ y ∈ sibCands s, ∀ x ∈ parCands true y, x ∈ parCands true s :=
  sub_of_sib fun k ss c hk x hx => by rcases hk with rfl | rfl <;> simpa [parCands] using hx

/-- what the arm of `Selector::is_superselector` for a `k` link tries in `sub`: the selectors
the part left of the link may be matched against -/
def cands (t : Bool) : Rel → Selector → List Selector
  | .ancestor, b => ancCands b
  | .parent, b => parCands t b
  | .sibling, b => sibCands b
  | .adjacent, .rel .adjacent ss _ => [ss]
  | .adjacent, _ => []

theorem isSuperC_rel_eq (t : Bool) (C : Compound → Compound → Bool) (k : Rel) (s : Selector)
    (c : Compound) (b : Selector) :
    Selector.isSuperC t C (.rel k s c) b
      = (C c b.compound && (cands t k b).any (Selector.isSuperC t C s)) := by
  cases k
  · simp only [Selector.isSuperC, walkAnc_eq, cands]
  · simp only [Selector.isSuperC, walkPar_eq, cands]
  · simp only [Selector.isSuperC, walkSib_eq, cands]
  · simp only [Selector.isSuperC]
    congr 1
    unfold cands
    split <;> simp

theorem isSuperC_rel {t : Bool} {C : Compound → Compound → Bool} {k : Rel} {s : Selector}
    {c : Compound} {b : Selector} :
    Selector.isSuperC t C (.rel k s c) b = true ↔
      C c b.compound = true ∧ ∃ y ∈ cands t k b, Selector.isSuperC t C s y = true := by
  rw [isSuperC_rel_eq, Bool.and_eq_true, List.any_eq_true]

theorem isSuperC_local {t : Bool} {C : Compound → Compound → Bool} {a b : Selector}
    (h : Selector.isSuperC t C a b = true) : C a.compound b.compound = true := by
  cases a with
  | leaf c => exact h
  | rel k s c => exact (isSuperC_rel.1 h).1

theorem mem_cands_adj {t : Bool} {y b : Selector} :
    y ∈ cands t .adjacent b ↔ ∃ cb, b = .rel .adjacent y cb := by
  cases b with
  | leaf _ => simp [cands]
  | rel kb sb cb => cases kb <;> simp [cands, eq_comm]

theorem cands_self (t : Bool) (k : Rel) (s : Selector) (c : Compound) : s ∈ cands t k (.rel k s c) := by
  cases k <;> simp [cands, ancCands, parCands, sibCands]

theorem cands_sub_tails (t : Bool) (k : Rel) (s : Selector) : ∀ y ∈ cands t k s, y ∈ s.tails := by
  cases k
  · exact ancCands_sub_tails s
  · exact fun y h => ancCands_sub_tails s y (parCands_sub_anc t s y h)
  · exact sibCands_sub_tails s
  · intro y hy
    obtain ⟨cb, rfl⟩ := mem_cands_adj.1 hy
    simp [Selector.tails]

theorem isSuperC_rel_same {t : Bool} {C : Compound → Compound → Bool} {k : Rel} {s s' : Selector}
    {c c' : Compound} (hc : C c c' = true) (hs : Selector.isSuperC t C s s' = true) :
    Selector.isSuperC t C (.rel k s c) (.rel k s' c') = true :=
  isSuperC_rel.2 ⟨hc, s', cands_self t k s' c', hs⟩

theorem anc_lift (t : Bool) (C : Compound → Compound → Bool) :
    ∀ (b c : Selector), Selector.isSuperC t C b c = true →
      ∀ x ∈ ancCands b, ∃ y ∈ ancCands c, Selector.isSuperC t C x y = true
  | .leaf _, _, _, x, hx => by simp [ancCands] at hx
  | .rel .ancestor s cb, c, h, x, hx => by
    obtain ⟨_, y, hy, hsy⟩ := isSuperC_rel.1 h
    simp only [ancCands, List.mem_append, List.mem_singleton] at hx
    rcases hx with hx | hx
    · subst hx; exact ⟨y, hy, hsy⟩
    · obtain ⟨z, hz, hxz⟩ := anc_lift t C s y hsy x hx
      exact ⟨z, ancCands_of_tail c y (cands_sub_tails t _ c y hy) z hz, hxz⟩
  | .rel .parent s cb, c, h, x, hx => by
    obtain ⟨_, y, hy, hsy⟩ := isSuperC_rel.1 h
    simp only [ancCands, List.mem_append, List.mem_singleton] at hx
    rcases hx with hx | hx
    · subst hx; exact ⟨y, parCands_sub_anc t c y hy, hsy⟩
    · obtain ⟨z, hz, hxz⟩ := anc_lift t C s y hsy x hx
      exact ⟨z, ancCands_of_tail c y (cands_sub_tails t _ c y hy) z hz, hxz⟩
  | .rel .sibling s cb, c, h, x, hx => by
    obtain ⟨_, y, hy, hsy⟩ := isSuperC_rel.1 h
    simp only [ancCands, List.nil_append] at hx
    obtain ⟨z, hz, hxz⟩ := anc_lift t C s y hsy x hx
    exact ⟨z, ancCands_of_tail c y (cands_sub_tails t _ c y hy) z hz, hxz⟩
  | .rel .adjacent s cb, c, h, x, hx => by
    obtain ⟨_, sc, hsc, hs⟩ := isSuperC_rel.1 h
    obtain ⟨cc, rfl⟩ := mem_cands_adj.1 hsc
    simp only [ancCands, List.nil_append] at hx ⊢
    exact anc_lift t C s sc hs x hx

theorem sib_lift (t : Bool) (C : Compound → Compound → Bool) :
    ∀ (b c : Selector), Selector.isSuperC t C b c = true →
      ∀ x ∈ sibCands b, ∃ y ∈ sibCands c, Selector.isSuperC t C x y = true
  | .leaf _, _, _, x, hx => by simp [sibCands] at hx
  | .rel .ancestor s cb, c, h, x, hx => by simp [sibCands] at hx
  | .rel .parent s cb, c, h, x, hx => by simp [sibCands] at hx
  | .rel .sibling s cb, c, h, x, hx => by
    obtain ⟨_, y, hy, hsy⟩ := isSuperC_rel.1 h
    simp only [sibCands, List.mem_cons] at hx
    rcases hx with hx | hx
    · subst hx; exact ⟨y, hy, hsy⟩
    · obtain ⟨z, hz, hxz⟩ := sib_lift t C s y hsy x hx
      exact ⟨z, sibCands_of_sib c y hy z hz, hxz⟩
  | .rel .adjacent s cb, c, h, x, hx => by
    obtain ⟨_, sc, hsc, hs⟩ := isSuperC_rel.1 h
    obtain ⟨cc, rfl⟩ := mem_cands_adj.1 hsc
    simp only [sibCands, List.mem_cons] at hx ⊢
    rcases hx with hx | hx
    · subst hx; exact ⟨sc, Or.inl rfl, hs⟩
    · obtain ⟨z, hz, hxz⟩ := sib_lift t C s sc hs x hx
      exact ⟨z, Or.inr hz, hxz⟩

theorem par_lift (t : Bool) (C : Compound → Compound → Bool) :
    ∀ (b c : Selector), Selector.isSuperC t C b c = true →
      ∀ x ∈ parCands t b, ∃ y ∈ parCands t c, Selector.isSuperC t C x y = true
  | .leaf _, _, _, x, hx => by simp [parCands] at hx
  | .rel .ancestor s cb, c, h, x, hx => by simp [parCands] at hx
  | .rel .parent s cb, c, h, x, hx => by
    obtain ⟨_, y, hy, hsy⟩ := isSuperC_rel.1 h
    simp only [parCands, List.mem_singleton] at hx
    subst hx; exact ⟨y, hy, hsy⟩
  | .rel .sibling s cb, c, h, x, hx => by
    cases t <;> simp only [parCands, if_true, List.not_mem_nil, Bool.false_eq_true, if_false] at hx
    obtain ⟨_, y, hy, hsy⟩ := isSuperC_rel.1 h
    obtain ⟨z, hz, hxz⟩ := par_lift true C s y hsy x hx
    exact ⟨z, parCands_of_sib c y hy z hz, hxz⟩
  | .rel .adjacent s cb, c, h, x, hx => by
    cases t <;> simp only [parCands, if_true, List.not_mem_nil, Bool.false_eq_true, if_false] at hx
    obtain ⟨_, sc, hsc, hs⟩ := isSuperC_rel.1 h
    obtain ⟨cc, rfl⟩ := mem_cands_adj.1 hsc
    obtain ⟨z, hz, hxz⟩ := par_lift true C s sc hs x hx
    exact ⟨z, by simpa [parCands] using hz, hxz⟩

/-- if `b ⊒ c`, every candidate a `k` arm can pick in `b` is above a candidate in `c` -/
theorem cands_lift (t : Bool) (C : Compound → Compound → Bool) (k : Rel) {b c : Selector}
    (h : Selector.isSuperC t C b c = true) :
    ∀ x ∈ cands t k b, ∃ y ∈ cands t k c, Selector.isSuperC t C x y = true := by
  cases k
  · exact anc_lift t C b c h
  · exact par_lift t C b c h
  · exact sib_lift t C b c h
  · intro x hx
    obtain ⟨cb, rfl⟩ := mem_cands_adj.1 hx
    obtain ⟨_, y, hy, hxy⟩ := isSuperC_rel.1 h
    exact ⟨y, hy, hxy⟩

theorem isSuperC_refl (t : Bool) (C : Compound → Compound → Bool) :
    ∀ (a : Selector), (∀ x ∈ a.compounds, C x x = true) → Selector.isSuperC t C a a = true
  | .leaf c, h => h c (by simp [Selector.compounds])
  | .rel k s c, h =>
    isSuperC_rel_same (h c (by simp [Selector.compounds]))
      (isSuperC_refl t C s fun x hx => h x (by simp [Selector.compounds, hx]))

theorem isSuperC_trans (t : Bool) (C : Compound → Compound → Bool) :
    ∀ (a b c : Selector),
      (∀ x ∈ a.compounds, ∀ y ∈ b.compounds, ∀ z ∈ c.compounds,
        C x y = true → C y z = true → C x z = true) →
      Selector.isSuperC t C a b = true → Selector.isSuperC t C b c = true →
      Selector.isSuperC t C a c = true
  | .leaf ca, b, c, hC, hab, hbc =>
    hC ca (by simp [Selector.compounds]) _ (compound_mem_compounds b) _
      (compound_mem_compounds c) hab (isSuperC_local hbc)
  | .rel k s ca, b, c, hC, hab, hbc => by
    have hloc : C ca c.compound = true :=
      hC ca (by simp [Selector.compounds]) _ (compound_mem_compounds b) _
        (compound_mem_compounds c) (isSuperC_local hab) (isSuperC_local hbc)
    obtain ⟨_, y, hy, hsy⟩ := isSuperC_rel.1 hab
    obtain ⟨z, hz, hyz⟩ := cands_lift t C k hbc y hy
    refine isSuperC_rel.2 ⟨hloc, z, hz, isSuperC_trans t C s y z ?_ hsy hyz⟩
    intro x hx y' hy' z' hz'
    exact hC x (by simp [Selector.compounds, hx])
      y' (compounds_of_tail b y (cands_sub_tails t k b y hy) y' hy')
      z' (compounds_of_tail c z (cands_sub_tails t k c z hz) z' hz')

theorem any_congr_mem {α : Type} {f g : α → Bool} {l : List α} (h : ∀ x ∈ l, f x = g x) :
    l.any f = l.any g := by
  induction l with
  | nil => rfl
  | cons a l ih =>
    simp only [List.any_cons]
    rw [h a (by simp), ih fun x hx => h x (by simp [hx])]

theorem isSuperC_congr (t : Bool) (C C' : Compound → Compound → Bool) :
    ∀ (a b : Selector), (∀ x ∈ a.compounds, ∀ y ∈ b.compounds, C x y = C' x y) →
      Selector.isSuperC t C a b = Selector.isSuperC t C' a b
  | .leaf ca, b, h => h ca (by simp [Selector.compounds]) _ (compound_mem_compounds b)
  | .rel k s ca, b, h => by
    rw [isSuperC_rel_eq, isSuperC_rel_eq, h ca (by simp [Selector.compounds]) _ (compound_mem_compounds b)]
    congr 1
    apply any_congr_mem
    intro y hy
    exact isSuperC_congr t C C' s y fun x hx z hz =>
      h x (by simp [Selector.compounds, hx]) z (compounds_of_tail b y (cands_sub_tails t k b y hy) z hz)

/-- `p <k> a`: the complex selector `p` put in front of `a` with relation `k`
(`p a` for `ancestor`, `p > a` for `parent`, …) -/
def Selector.prepend (k : Rel) (p : Selector) : Selector → Selector
  | .leaf c => .rel k p c
  | .rel k' s c => .rel k' (Selector.prepend k p s) c

theorem isSuperC_prepend (t : Bool) (C : Compound → Compound → Bool) (k : Rel) (p : Selector) :
    ∀ (a : Selector), (∀ x ∈ a.compounds, C x x = true) →
      Selector.isSuperC t C a (Selector.prepend k p a) = true
  | .leaf c, h => h c (by simp [Selector.compounds])
  | .rel k' s c, h =>
    isSuperC_rel_same (h c (by simp [Selector.compounds]))
      (isSuperC_prepend t C k p s fun x hx => h x (by simp [Selector.compounds, hx]))

end Sel
