/-
C23 lemmas that tie the knot (namespace `Sel`): nesting depth, `superN` is reflexive (deep
enough), transitive and stable once the fuel exceeds the depth, so that `SelSet.isSuper` is a
fixed point of the unrolling; compounds that gain simple selectors; selectors without backslash
escapes in attribute values (`plain`), on which `superAsis` agrees with `superStrict` (the
transitive attribute comparison, strict `>` arm kept).
-/
import RsassModel.Sel.SuperChain

namespace Sel

theorem Selector.depth_le_of_mem : ∀ (A : List Selector) (a : Selector), a ∈ A →
    a.depth ≤ Selector.depthList A
  | s :: ss, a, h => by
    rw [Selector.depthList]
    rcases List.mem_cons.1 h with rfl | h
    · exact Nat.le_max_left _ _
    · exact Nat.le_trans (Selector.depth_le_of_mem ss a h) (Nat.le_max_right _ _)

theorem Pseudo.depth_le_of_mem : ∀ (ps : List Pseudo) (p : Pseudo), p ∈ ps →
    p.depth ≤ Pseudo.depthList ps
  | s :: ss, a, h => by
    rw [Pseudo.depthList]
    rcases List.mem_cons.1 h with rfl | h
    · exact Nat.le_max_left _ _
    · exact Nat.le_trans (Pseudo.depth_le_of_mem ss a h) (Nat.le_max_right _ _)

theorem Compound.depth_le_of_mem : ∀ (a : Selector) (x : Compound), x ∈ a.compounds →
    x.depth ≤ a.depth
  | .leaf c, x, h => by
    obtain rfl := List.mem_singleton.1 h
    exact Nat.le_refl _
  | .rel k s c, x, h => by
    rw [Selector.depth]
    rcases List.mem_cons.1 h with rfl | h
    · exact Nat.le_max_right _ _
    · exact Nat.le_trans (Compound.depth_le_of_mem s x h) (Nat.le_max_left _ _)

theorem arg_depth_lt {x : Selector} {cx : Compound} {p : Pseudo} {X : SelSet}
    (hc : cx ∈ x.compounds) (hp : p ∈ cx.pseudos) (ha : p.arg = .sel X) :
    Selector.depthList X < x.depth := by
  refine Nat.lt_of_lt_of_le ?_ (Compound.depth_le_of_mem x cx hc)
  cases cx with
  | mk b e pl cl i a ps =>
    have h := Pseudo.depth_le_of_mem ps p hp
    cases p with
    | mk n ar el =>
      obtain rfl : ar = .sel X := ha
      exact h

/-! `setSuperW S A B` is `allAny` with the sides exchanged, so the `allAny` lemmas apply. -/

theorem setSuperW_iff {S : Selector → Selector → Bool} {A B : SelSet} :
    setSuperW S A B = true ↔ ∀ b ∈ B, ∃ a ∈ A, S a b = true :=
  allAny_iff (f := fun b a => S a b)

theorem setSuperW_congr {S S' : Selector → Selector → Bool} {A B : SelSet}
    (h : ∀ a ∈ A, ∀ b ∈ B, S a b = S' a b) : setSuperW S A B = setSuperW S' A B :=
  allAny_congr (f := fun b a => S a b) (g := fun b a => S' a b) fun b hb a ha => h a ha b hb

theorem isSuperW_congr_depth (q : SuperQuirks) {R R' : SelSet → SelSet → Bool} {d : Nat}
    (h : ∀ X Y, (Selector.depthList X < d ∨ Selector.depthList Y < d) → R X Y = R' X Y)
    (x y : Selector) (hd : x.depth ≤ d ∨ y.depth ≤ d) :
    Selector.isSuperW q R x y = Selector.isSuperW q R' x y := by
  unfold Selector.isSuperW
  apply isSuperC_congr
  intro cx hcx cy hcy
  unfold Compound.isSuperW
  apply Compound.isSuperG_congr (fun _ _ _ _ => rfl)
  intro p hp p' hp'
  apply Pseudo.isSuperW_congr
  intro X Y hX hY
  have hXY := hd.imp (Nat.lt_of_lt_of_le (arg_depth_lt hcx hp hX))
    (Nat.lt_of_lt_of_le (arg_depth_lt hcy hp' hY))
  exact ⟨h X Y hXY, h Y X hXY.symm⟩

/-- once the fuel exceeds the depth of either side, more fuel changes nothing -/
theorem superN_stable (q : SuperQuirks) : ∀ (N M : Nat) (X Y : SelSet), N ≤ M →
    (Selector.depthList X < N ∨ Selector.depthList Y < N) → superN q N X Y = superN q M X Y
  | 0, _, _, _, _, h => by simp at h
  | N + 1, 0, _, _, hle, _ => by omega
  | N + 1, M + 1, X, Y, hle, h => by
    simp only [superN]
    apply setSuperW_congr
    intro x hx y hy
    apply isSuperW_congr_depth q (d := N)
    · intro X' Y' h'
      exact superN_stable q N M X' Y' (by omega) h'
    · exact h.imp (fun h => Nat.le_trans (Selector.depth_le_of_mem X x hx) (Nat.le_of_lt_succ h))
        (fun h => Nat.le_trans (Selector.depth_le_of_mem Y y hy) (Nat.le_of_lt_succ h))

theorem isSuper_eq_superN (q : SuperQuirks) (X Y : SelSet) (n : Nat)
    (h : Selector.depthList X < n ∨ Selector.depthList Y < n) : SelSet.isSuper q X Y = superN q n X Y := by
  by_cases hle : Selector.depthList X + 1 ≤ n
  · exact superN_stable q _ n X Y hle (Or.inl (Nat.lt_succ_self _))
  · exact (superN_stable q n _ X Y (by omega) h).symm

/-! ### `SelSet.isSuper` is a fixed point of the unrolling

So the argument relation can be taken to be `SelSet.isSuper q` itself (as `Selector.isSuperF`,
`Compound.isSuper` and `Pseudo.isSuper` of Sel/Unify.lean do), and no fuel appears below. -/

theorem SelSet.isSuper_unfold (q : SuperQuirks) (A B : SelSet) :
    SelSet.isSuper q A B = setSuperW (Selector.isSuperW q (SelSet.isSuper q)) A B := by
  show superN q (Selector.depthList A + 1) A B = _
  -- below a member of `A` only argument lists shallower than `A` are compared
  exact setSuperW_congr fun a ha b _ =>
    isSuperW_congr_depth q (fun X Y h => (isSuper_eq_superN q X Y _ h).symm) a b
      (Or.inl (Selector.depth_le_of_mem A a ha))

theorem SelSet.isSuper_of_mem {q : SuperQuirks} {A : SelSet} {x y : Selector} (hx : x ∈ A)
    (h : Selector.isSuperW q (SelSet.isSuper q) x y = true) : SelSet.isSuper q A [y] = true := by
  rw [SelSet.isSuper_unfold, setSuperW_iff]
  intro b hb
  exact ⟨x, hx, List.mem_singleton.1 hb ▸ h⟩

theorem SelSet.isSuper_singleton (q : SuperQuirks) (a u : Selector) :
    SelSet.isSuper q [a] [u] = Selector.isSuperW q (SelSet.isSuper q) a u := by
  simp only [SelSet.isSuper_unfold, setSuperW, List.all_cons, List.all_nil, List.any_cons,
    List.any_nil, Bool.or_false, Bool.and_true]

/-- `c'` carries every simple selector of `c` (and possibly more), and no new pseudo-element:
what "adding simple selectors to a compound" produces. -/
structure Compound.Extends (c c' : Compound) : Prop where
  elem : c.elem = none ∨ c'.elem = c.elem
  placeholders : ∀ x ∈ c.placeholders, x ∈ c'.placeholders
  classes : ∀ x ∈ c.classes, x ∈ c'.classes
  id : c.id = none ∨ c'.id = c.id
  attrs : ∀ x ∈ c.attrs, x ∈ c'.attrs
  pseudos : ∀ x ∈ c.pseudos, x ∈ c'.pseudos
  pe : c'.pseudoElement = c.pseudoElement

theorem allAny_of_subset {α : Type} {f : α → α → Bool} {xs ys : List α}
    (hr : ∀ a ∈ xs, f a a = true) (h : ∀ a ∈ xs, a ∈ ys) : allAny f xs ys = true :=
  allAny_iff.2 fun a ha => ⟨a, h a ha, hr a ha⟩

theorem Compound.isSuperG_of_extends {A : Attr → Attr → Bool} {R : SelSet → SelSet → Bool}
    {c c' : Compound} (h : Compound.Extends c c') (hA : ∀ a ∈ c.attrs, A a a = true)
    (hP : ∀ p ∈ c.pseudos, Pseudo.isSuperW R p p = true) : Compound.isSuperG A R c c' = true := by
  simp only [Compound.isSuperG, Bool.and_eq_true]
  refine ⟨⟨⟨⟨⟨⟨?_, allAny_of_subset (fun _ _ => by simp) h.placeholders⟩,
    allAny_of_subset (fun _ _ => by simp) h.classes⟩, ?_⟩, allAny_of_subset hA h.attrs⟩,
    allAny_of_subset hP h.pseudos⟩, ?_⟩
  · rcases h.elem with he | he
    · simp [he, elemClause]
    · rw [he]; exact elemClause_refl _
  · rcases h.id with hi | hi
    · simp [hi]
    · rw [hi]; cases c.id <;> simp
  · rw [h.pe]
    apply peClause_refl
    intro p hp
    exact hP p (List.mem_of_find?_eq_some hp)

theorem Compound.Extends.refl (c : Compound) : Compound.Extends c c :=
  ⟨Or.inr rfl, fun _ h => h, fun _ h => h, Or.inr rfl, fun _ h => h, fun _ h => h, rfl⟩

theorem Compound.isSuperG_refl {A : Attr → Attr → Bool} {R : SelSet → SelSet → Bool} {c : Compound}
    (hA : ∀ a ∈ c.attrs, A a a = true) (hP : ∀ p ∈ c.pseudos, Pseudo.isSuperW R p p = true) :
    Compound.isSuperG A R c c = true :=
  Compound.isSuperG_of_extends (Compound.Extends.refl c) hA hP

theorem superN_refl (q : SuperQuirks) : ∀ (n : Nat) (A : SelSet), Selector.depthList A < n →
    superN q n A A = true
  | 0, _, h => by simp at h
  | n + 1, A, h => by
    simp only [superN]
    rw [setSuperW_iff]
    intro a ha
    refine ⟨a, ha, isSuperC_refl _ _ a fun x hx => ?_⟩
    refine Compound.isSuperG_refl (fun a _ => Attr.isSuper_refl q a) fun p hp => ?_
    refine Pseudo.isSuperW_refl fun X hX => superN_refl q n X ?_
    have := Selector.depth_le_of_mem A a ha
    have := arg_depth_lt hx hp hX
    omega

theorem SelSet.isSuper_refl (q : SuperQuirks) (A : SelSet) : SelSet.isSuper q A A = true :=
  superN_refl q _ A (Nat.lt_succ_self _)

theorem Pseudo.isSuperW_self_refl (q : SuperQuirks) (p : Pseudo) :
    Pseudo.isSuperW (SelSet.isSuper q) p p = true :=
  Pseudo.isSuperW_refl fun X _ => SelSet.isSuper_refl q X

theorem Compound.isSuperW_self_refl (q : SuperQuirks) (c : Compound) :
    Compound.isSuperW q (SelSet.isSuper q) c c = true :=
  Compound.isSuperG_refl (fun a _ => Attr.isSuper_refl q a) fun p _ => Pseudo.isSuperW_self_refl q p

theorem Selector.isSuperW_self_refl (q : SuperQuirks) (a : Selector) :
    Selector.isSuperW q (SelSet.isSuper q) a a = true :=
  isSuperC_refl _ _ a fun x _ => Compound.isSuperW_self_refl q x

theorem superN_trans (q : SuperQuirks)
    (hA : ∀ a b c, Attr.isSuper q a b = true → Attr.isSuper q b c = true → Attr.isSuper q a c = true) :
    ∀ n, RTrans (superN q n)
  | 0 => by intro X Y Z h; simp [superN] at h
  | n + 1 => by
    intro X Y Z h1 h2
    simp only [superN] at *
    rw [setSuperW_iff] at *
    intro z hz
    obtain ⟨y, hy, hyz⟩ := h2 z hz
    obtain ⟨x, hx, hxy⟩ := h1 y hy
    refine ⟨x, hx, ?_⟩
    unfold Selector.isSuperW at *
    exact isSuperC_trans _ _ x y z
      (fun _ _ _ _ _ _ => Compound.isSuperG_trans hA (superN_trans q hA n)) hxy hyz

theorem SelSet.isSuper_trans_of (q : SuperQuirks)
    (hA : ∀ a b c, Attr.isSuper q a b = true → Attr.isSuper q b c = true → Attr.isSuper q a c = true) :
    RTrans (SelSet.isSuper q) := by
  intro A B C h1 h2
  -- one unrolling deep enough for `A` and `B`, the two left sides
  have hA' : Selector.depthList A < max (Selector.depthList A) (Selector.depthList B) + 1 := by omega
  have hB' : Selector.depthList B < max (Selector.depthList A) (Selector.depthList B) + 1 := by omega
  rw [isSuper_eq_superN q A B _ (Or.inl hA')] at h1
  rw [isSuper_eq_superN q B C _ (Or.inl hB')] at h2
  rw [isSuper_eq_superN q A C _ (Or.inl hA')]
  exact superN_trans q hA _ A B C h1 h2

/-- `.x` appended -/
def Compound.addClass (x : List Char) : Compound → Compound
  | .mk b e p c i a ps => .mk b e p (c ++ [x]) i a ps

/-- `#x` on a compound without id -/
def Compound.addId (x : List Char) : Compound → Compound
  | .mk b e p c _ a ps => .mk b e p c (some x) a ps

/-- a type selector on a compound without one -/
def Compound.addElem (x : List Char) : Compound → Compound
  | .mk b _ p c i a ps => .mk b (some x) p c i a ps

/-- `[..]` appended -/
def Compound.addAttr (x : Attr) : Compound → Compound
  | .mk b e p c i a ps => .mk b e p c i (a ++ [x]) ps

/-- a pseudo-class appended -/
def Compound.addPseudo (x : Pseudo) : Compound → Compound
  | .mk b e p c i a ps => .mk b e p c i a (ps ++ [x])

theorem Compound.extends_addClass (x : List Char) (c : Compound) : Compound.Extends c (c.addClass x) := by
  cases c
  exact ⟨Or.inr rfl, fun _ h => h, fun _ h => List.mem_append_left _ h,
    Or.inr rfl, fun _ h => h, fun _ h => h, rfl⟩

theorem Compound.extends_addId (x : List Char) (c : Compound) (h : c.id = none) :
    Compound.Extends c (c.addId x) := by
  cases c
  exact ⟨Or.inr rfl, fun _ h => h, fun _ h => h, Or.inl h, fun _ h => h, fun _ h => h, rfl⟩

theorem Compound.extends_addElem (x : List Char) (c : Compound) (h : c.elem = none) :
    Compound.Extends c (c.addElem x) := by
  cases c
  exact ⟨Or.inl h, fun _ h => h, fun _ h => h, Or.inr rfl, fun _ h => h, fun _ h => h, rfl⟩

theorem Compound.extends_addAttr (x : Attr) (c : Compound) : Compound.Extends c (c.addAttr x) := by
  cases c
  exact ⟨Or.inr rfl, fun _ h => h, fun _ h => h, Or.inr rfl,
    fun _ h => List.mem_append_left _ h, fun _ h => h, rfl⟩

theorem Compound.extends_addPseudo (x : Pseudo) (c : Compound) (hx : x.isElement = false) :
    Compound.Extends c (c.addPseudo x) := by
  cases c with
  | mk b e p cl i a ps =>
    refine ⟨Or.inr rfl, fun _ h => h, fun _ h => h, Or.inr rfl, fun _ h => h,
      fun _ h => List.mem_append_left _ h, ?_⟩
    simp only [Compound.pseudoElement, Compound.addPseudo, Compound.pseudos, List.find?_append]
    cases ps.find? Pseudo.isElement <;> simp [hx]

/-! ### attribute values without escapes: `superAsis` = `superStrict` -/

def Attr.plain (a : Attr) : Bool := !a.val.contains '\\'

mutual
  def Selector.plain : Selector → Bool
    | .leaf c => Compound.plain c
    | .rel _ s c => Selector.plain s && Compound.plain c
  def Compound.plain : Compound → Bool
    | .mk _ _ _ _ _ a ps => a.all Attr.plain && Pseudo.plainList ps
  def Pseudo.plain : Pseudo → Bool
    | .mk _ a _ => PArg.plain a
  def PArg.plain : PArg → Bool
    | .sel s => Selector.plainList s
    | _ => true
  def Pseudo.plainList : List Pseudo → Bool
    | [] => true
    | p :: ps => Pseudo.plain p && Pseudo.plainList ps
  def Selector.plainList : List Selector → Bool
    | [] => true
    | s :: ss => Selector.plain s && Selector.plainList ss
end

theorem unquoteGo_plain : ∀ (v : List Char), v.contains '\\' = false → unquoteGo none v = v
  | [], _ => by simp [unquoteGo]
  | c :: rest, h => by
    simp only [List.contains_cons, Bool.or_eq_false_iff, beq_eq_false_iff_ne, ne_eq] at h
    have hc : c ≠ '\\' := fun e => h.1 e.symm
    simp only [unquoteGo, hc, if_false]
    rw [unquoteGo_plain rest h.2]

theorem unquoteCss_plain (v : List Char) (q : Quote) (h : v.contains '\\' = false) :
    unquoteCss v q = v := by
  unfold unquoteCss; split
  · rfl
  · exact unquoteGo_plain v h

/-- the transitive attribute comparison of the specification with the strict `>` arm of the code -/
def superStrict : SuperQuirks := { parentStrict := true }

theorem Attr.isSuper_plain {a b : Attr} (ha : a.plain = true) (hb : b.plain = true) :
    Attr.isSuper superAsis a b = Attr.isSuper superStrict a b := by
  simp only [Attr.plain, Bool.not_eq_true'] at ha hb
  simp only [Attr.isSuper, cssStrEq, superAsis, superStrict, unquoteCss_plain _ _ ha,
    unquoteCss_plain _ _ hb, Bool.true_and, Bool.false_and]
  split <;> simp_all

theorem Selector.plainList_eq_all : ∀ (A : List Selector), Selector.plainList A = A.all Selector.plain
  | [] => rfl
  | s :: ss => by rw [Selector.plainList, List.all_cons, Selector.plainList_eq_all ss]

theorem Pseudo.plainList_eq_all : ∀ (ps : List Pseudo), Pseudo.plainList ps = ps.all Pseudo.plain
  | [] => rfl
  | p :: ps => by rw [Pseudo.plainList, List.all_cons, Pseudo.plainList_eq_all ps]

theorem Selector.plain_eq_all : ∀ (a : Selector), a.plain = a.compounds.all Compound.plain
  | .leaf c => by rw [Selector.plain, Selector.compounds, List.all_cons, List.all_nil, Bool.and_true]
  | .rel _ s c => by
    rw [Selector.plain, Selector.compounds, List.all_cons, Selector.plain_eq_all s, Bool.and_comm]

theorem plain_compound {A : SelSet} {x : Selector} {cx : Compound}
    (hA : Selector.plainList A = true) (hx : x ∈ A) (hc : cx ∈ x.compounds) :
    (∀ a ∈ cx.attrs, a.plain = true)
      ∧ ∀ p ∈ cx.pseudos, ∀ X, p.arg = .sel X → Selector.plainList X = true := by
  rw [Selector.plainList_eq_all, List.all_eq_true] at hA
  have h := hA x hx
  rw [Selector.plain_eq_all, List.all_eq_true] at h
  have h := h cx hc
  cases cx with
  | mk b e pl cl i ats ps =>
    simp only [Compound.plain, Bool.and_eq_true, List.all_eq_true, Pseudo.plainList_eq_all] at h
    refine ⟨h.1, fun p hp X hX => ?_⟩
    have hp := h.2 p hp
    cases p with
    | mk n ar el =>
      obtain rfl : ar = .sel X := hX
      exact hp

/-- at every fuel; the right-hand side is `superStrict`, not `superSpec` -/
theorem superN_asis_eq_spec : ∀ (n : Nat) (A B : SelSet), Selector.plainList A = true →
    Selector.plainList B = true → superN superAsis n A B = superN superStrict n A B
  | 0, _, _, _, _ => rfl
  | n + 1, A, B, hA, hB => by
    simp only [superN]
    apply setSuperW_congr
    intro x hx y hy
    unfold Selector.isSuperW
    apply isSuperC_congr
    intro cx hcx cy hcy
    obtain ⟨hax, hpx⟩ := plain_compound hA hx hcx
    obtain ⟨hay, hpy⟩ := plain_compound hB hy hcy
    unfold Compound.isSuperW
    apply Compound.isSuperG_congr
    · intro a ha b hb
      exact Attr.isSuper_plain (hax a ha) (hay b hb)
    · intro p hp p' hp'
      apply Pseudo.isSuperW_congr
      intro X Y hX hY
      have h1 := hpx p hp X hX
      have h2 := hpy p' hp' Y hY
      exact ⟨superN_asis_eq_spec n X Y h1 h2, superN_asis_eq_spec n Y X h2 h1⟩

/-- `b` is `a` with simple selectors added to some of its compounds (same combinators), and
possibly further ancestors inserted at descendant combinators (`s c` → `s x c`, `s > x c`) -/
inductive Selector.AddsSimple : Selector → Selector → Prop
  | leaf {c c' : Compound} : Compound.Extends c c' → Selector.AddsSimple (.leaf c) (.leaf c')
  | rel {k : Rel} {s s' : Selector} {c c' : Compound} :
      Compound.Extends c c' → Selector.AddsSimple s s' → Selector.AddsSimple (.rel k s c) (.rel k s' c')
  | insAnc {k' : Rel} {s s' : Selector} {c c' x : Compound} : (k' = .ancestor ∨ k' = .parent) →
      Compound.Extends c c' → Selector.AddsSimple s s' →
      Selector.AddsSimple (.rel .ancestor s c) (.rel .ancestor (.rel k' s' x) c')

theorem Selector.AddsSimple.refl : ∀ (t : Selector), Selector.AddsSimple t t
  | .leaf c => .leaf (Compound.Extends.refl c)
  | .rel _ s c => .rel (Compound.Extends.refl c) (Selector.AddsSimple.refl s)

theorem Compound.isSuperW_of_extends (q : SuperQuirks) {c c' : Compound} (h : Compound.Extends c c') :
    Compound.isSuperW q (SelSet.isSuper q) c c' = true :=
  Compound.isSuperG_of_extends h (fun a _ => Attr.isSuper_refl q a) fun p _ =>
    Pseudo.isSuperW_self_refl q p

theorem Selector.isSuperW_of_addsSimple (q : SuperQuirks) {a b : Selector} (h : Selector.AddsSimple a b) :
    Selector.isSuperW q (SelSet.isSuper q) a b = true := by
  induction h with
  | leaf hc => exact Compound.isSuperW_of_extends q hc
  | rel hc _ ih => exact isSuperC_rel_same (Compound.isSuperW_of_extends q hc) ih
  | @insAnc k' s s' c c' x hk hc _ ih =>
    refine isSuperC_rel.2 ⟨Compound.isSuperW_of_extends q hc, s', ?_, ih⟩
    rcases hk with rfl | rfl <;> simp [cands, ancCands]

end Sel
