/-
Helper lemmas for Theorems/C22.lean: what `collect_pos` / `collect_neg` return, and the three
facts about `no_placeholder` (never `Any` on a selector; the identity on placeholder-free
selectors; no placeholder in what it lets through).
-/
import RsassModel.Sel.Placeholder
import RsassModel.Sel.Induction

namespace Sel

def Opt.toOption {α : Type} : Opt α → Option α
  | .some a => Option.some a
  | _ => Option.none

def Opt.isAny {α : Type} : Opt α → Bool
  | .any => true
  | _ => false

def Opt.isNone {α : Type} : Opt α → Bool
  | .none => true
  | _ => false

/-- the result of `collect_pos` on a list without `Any`: the `Some` values, in order -/
def posResult {α : Type} (r : List α) : Opt (List α) := if r.isEmpty then .none else .some r

/-- the result of `collect_neg` on a list without `None`: the `Some` values, in order -/
def negResult {α : Type} (r : List α) : Opt (List α) := if r.isEmpty then .any else .some r

theorem mem_filterMap_toOption {α : Type} {l : List (Opt α)} {x : α} :
    x ∈ l.filterMap Opt.toOption ↔ Opt.some x ∈ l := by
  induction l with
  | nil => simp
  | cons a l ih => cases a <;> simp [List.filterMap_cons, Opt.toOption, ih]

theorem collectPosAux_eq {α : Type} : ∀ (l : List (Opt α)) (acc : List α),
    collectPosAux l acc
      = if l.any Opt.isAny then .any else posResult (acc.reverse ++ l.filterMap Opt.toOption)
  | [], acc => by simp [collectPosAux, posResult]
  | .some a :: rest, acc => by
    rw [collectPosAux, collectPosAux_eq rest]
    simp only [List.any_cons, Opt.isAny, Bool.false_or, List.filterMap_cons, Opt.toOption,
      List.reverse_cons, List.append_assoc, List.singleton_append]
  | .any :: rest, acc => by simp only [collectPosAux, List.any_cons, Opt.isAny, Bool.true_or, if_true]
  | .none :: rest, acc => by
    rw [collectPosAux, collectPosAux_eq rest]
    simp only [List.any_cons, Opt.isAny, Bool.false_or, List.filterMap_cons, Opt.toOption]

theorem collectNegAux_eq {α : Type} : ∀ (l : List (Opt α)) (acc : List α),
    collectNegAux l acc
      = if l.any Opt.isNone then .none else negResult (acc.reverse ++ l.filterMap Opt.toOption)
  | [], acc => by simp [collectNegAux, negResult]
  | .some a :: rest, acc => by
    rw [collectNegAux, collectNegAux_eq rest]
    simp only [List.any_cons, Opt.isNone, Bool.false_or, List.filterMap_cons, Opt.toOption,
      List.reverse_cons, List.append_assoc, List.singleton_append]
  | .any :: rest, acc => by
    rw [collectNegAux, collectNegAux_eq rest]
    simp only [List.any_cons, Opt.isNone, Bool.false_or, List.filterMap_cons, Opt.toOption]
  | .none :: rest, acc => by simp only [collectNegAux, List.any_cons, Opt.isNone, Bool.true_or, if_true]

theorem collectPosAux_noAny {α : Type} (l : List (Opt α)) (acc : List α)
    (h : ∀ x ∈ l, x.isAny = false) :
    collectPosAux l acc = posResult (acc.reverse ++ l.filterMap Opt.toOption) := by
  rw [collectPosAux_eq, if_neg]
  simpa using h

theorem collectNegAux_none {α : Type} (pre post : List (Opt α)) (acc : List α) :
    collectNegAux (pre ++ .none :: post) acc = .none := by
  rw [collectNegAux_eq, if_pos]
  simp [Opt.isNone]

theorem collectPosAux_somes {α : Type} (l acc : List α) :
    collectPosAux (l.map Opt.some) acc = posResult (acc.reverse ++ l) := by
  rw [collectPosAux_eq, if_neg (by simp [Opt.isAny]), List.filterMap_map]
  exact congrArg (fun r => posResult (acc.reverse ++ r)) (List.filterMap_some ..)

theorem collectNegAux_somes {α : Type} (l acc : List α) :
    collectNegAux (l.map Opt.some) acc = negResult (acc.reverse ++ l) := by
  rw [collectNegAux_eq, if_neg (by simp [Opt.isNone]), List.filterMap_map]
  exact congrArg (fun r => negResult (acc.reverse ++ r)) (List.filterMap_some ..)

theorem collectPosAux_mem {α : Type} {l : List (Opt α)} {r : List α}
    (h : collectPosAux l [] = .some r) {x : α} (hx : x ∈ r) : Opt.some x ∈ l := by
  rw [collectPosAux_eq] at h
  split at h
  · cases h
  · unfold posResult at h
    split at h
    · cases h
    · cases h
      exact mem_filterMap_toOption.mp (by simpa using hx)

theorem collectNegAux_mem {α : Type} {l : List (Opt α)} {r : List α}
    (h : collectNegAux l [] = .some r) {x : α} (hx : x ∈ r) : Opt.some x ∈ l := by
  rw [collectNegAux_eq] at h
  split at h
  · cases h
  · unfold negResult at h
    split at h
    · cases h
    · cases h
      exact mem_filterMap_toOption.mp (by simpa using hx)

theorem Selector.noPlaceholderList_eq_map (q : PhQuirks) :
    ∀ l : List Selector, Selector.noPlaceholderList q l = l.map (Selector.noPlaceholder q)
  | [] => rfl
  | s :: ss => by rw [Selector.noPlaceholderList, Selector.noPlaceholderList_eq_map q ss, List.map_cons]

theorem Pseudo.noPlaceholderList_eq_map (q : PhQuirks) :
    ∀ l : List Pseudo, Pseudo.noPlaceholderList q l = l.map (Pseudo.noPlaceholder q)
  | [] => rfl
  | s :: ss => by rw [Pseudo.noPlaceholderList, Pseudo.noPlaceholderList_eq_map q ss, List.map_cons]

theorem Pseudo.hasPhList_false_iff : ∀ l : List Pseudo,
    Pseudo.hasPhList l = false ↔ ∀ x ∈ l, x.hasPh = false
  | [] => by simp [Pseudo.hasPhList]
  | p :: ps => by simp [Pseudo.hasPhList, Pseudo.hasPhList_false_iff ps]

theorem Selector.hasPhList_false_iff : ∀ l : List Selector,
    Selector.hasPhList l = false ↔ ∀ x ∈ l, x.hasPh = false
  | [] => by simp [Selector.hasPhList]
  | s :: ss => by simp [Selector.hasPhList, Selector.hasPhList_false_iff ss]

theorem Pseudo.phFreeList_iff : ∀ l : List Pseudo,
    Pseudo.phFreeList l = true ↔ ∀ x ∈ l, x.phFree = true
  | [] => by simp [Pseudo.phFreeList]
  | p :: ps => by simp [Pseudo.phFreeList, Pseudo.phFreeList_iff ps]

theorem Selector.phFreeList_iff : ∀ l : List Selector,
    Selector.phFreeList l = true ↔ ∀ s ∈ l, s.phFree = true ∧ s.hasLeadingCombinator = false
  | [] => by simp [Selector.phFreeList]
  | s :: ss => by simp [Selector.phFreeList, Selector.phFreeList_iff ss]

theorem Selector.noPlaceholder_ne_any (q : PhQuirks) (s : Selector) :
    (Selector.noPlaceholder q s).isAny = false := by
  fun_cases Selector.noPlaceholder q s <;> rfl

theorem Selector.noPlaceholderList_noAny (q : PhQuirks) (l : List Selector) :
    ∀ x ∈ Selector.noPlaceholderList q l, x.isAny = false := by
  rw [Selector.noPlaceholderList_eq_map]
  intro x hx
  obtain ⟨s, _, rfl⟩ := List.mem_map.mp hx
  exact Selector.noPlaceholder_ne_any q s

/-- some compound of the chain satisfies `f` -/
def Selector.anyCompound (f : Compound → Bool) : Selector → Bool
  | .leaf c => f c
  | .rel _ r c => f c || Selector.anyCompound f r

theorem Selector.anyCompound_mono (f g : Compound → Bool) (h : ∀ c, f c = true → g c = true) :
    ∀ s : Selector, s.anyCompound f = true → s.anyCompound g = true
  | .leaf c, hs => h c hs
  | .rel k r c, hs => by
    simp only [Selector.anyCompound, Bool.or_eq_true] at hs ⊢
    exact hs.imp (h c) (Selector.anyCompound_mono f g h r)

theorem Selector.noPlaceholder_none_of_compound (q : PhQuirks) :
    ∀ s : Selector, s.anyCompound (fun c => (Compound.noPlaceholder q c).isNone) = true →
      Selector.noPlaceholder q s = .none
  | .leaf c, h => by
    simp only [Selector.anyCompound] at h
    rw [Selector.noPlaceholder]
    cases hc : Compound.noPlaceholder q c <;> simp_all [Opt.isNone]
  | .rel k r c, h => by
    simp only [Selector.anyCompound, Bool.or_eq_true] at h
    rw [Selector.noPlaceholder]
    cases hc : Compound.noPlaceholder q c with
    | none => rfl
    | _ =>
      -- the compound passes, so the removed one is further left
      have hr := Selector.noPlaceholder_none_of_compound q r (h.resolve_left (by simp [hc, Opt.isNone]))
      simp only [hr]
      split <;> rfl

theorem Compound.noPlaceholder_of_placeholders (q : PhQuirks) (c : Compound) (h : c.placeholders ≠ []) :
    Compound.noPlaceholder q c = .none := by
  cases c with
  | mk b e p cl i a ps =>
    have : p.isEmpty = false := by simpa [Compound.placeholders] using h
    simp [Compound.noPlaceholder, this]

/-- the compound a selector keeps for `c` when `c` is not removed: the filtered one, or the empty
compound when `c` matches everything -/
def Compound.kept (q : PhQuirks) (c : Compound) : Compound :=
  match Compound.noPlaceholder q c with
  | .some c' => c'
  | _ => Compound.empty

theorem Selector.noPlaceholder_leaf_some {q : PhQuirks} {c : Compound} {t : Selector}
    (h : Selector.noPlaceholder q (.leaf c) = .some t) : t = .leaf (c.kept q) := by
  rw [Selector.noPlaceholder] at h
  unfold Compound.kept
  split at h
  all_goals cases h
  all_goals simp [*]

theorem Selector.noPlaceholder_rel_some {q : PhQuirks} {k : Rel} {r : Selector} {c : Compound}
    {t : Selector} (h : Selector.noPlaceholder q (.rel k r c) = .some t) :
    t = .leaf (c.kept q) ∨ ∃ r', Selector.noPlaceholder q r = .some r' ∧ t = .rel k r' (c.kept q) := by
  rw [Selector.noPlaceholder] at h
  unfold Compound.kept
  -- every branch of the definition; the ones that return `some` are read off
  repeat' split at h
  all_goals cases h
  all_goals simp [*]

theorem Compound.noPlaceholder_some {q : PhQuirks} {c c' : Compound}
    (h : Compound.noPlaceholder q c = .some c') :
    c'.placeholders = [] ∧ ∀ x ∈ c'.pseudos, ∃ p ∈ c.pseudos, Pseudo.noPlaceholder q p = .some x := by
  revert h
  fun_cases Compound.noPlaceholder q c <;> rintro ⟨⟩
  · next b e p cl i a ps hp ps' hn =>
    refine ⟨by simpa [Compound.placeholders] using hp, fun x hx => ?_⟩
    have := collectNegAux_mem hn hx
    rw [Pseudo.noPlaceholderList_eq_map] at this
    exact List.mem_map.mp this
  · next b e p cl i a ps hp hn =>
    -- every pseudo matches everything: none is kept
    have hp' : p = [] := by simpa using hp
    unfold Compound.orUniversal
    split
    · exact ⟨hp', nofun⟩
    · split
      · exact ⟨hp', nofun⟩
      · exact ⟨hp', nofun⟩
theorem SelSet.noPlaceholder_mem {q : PhQuirks} {s t : SelSet} (h : SelSet.noPlaceholder q s = .some t)
    {x : Selector} (hx : x ∈ t) : ∃ y ∈ s, Selector.noPlaceholder q y = .some x := by
  have := collectPosAux_mem h hx
  rw [Selector.noPlaceholderList_eq_map] at this
  exact List.mem_map.mp this

theorem mem_of_mem_noLeadingCombinator {t t' : List Selector}
    (h : collectPosAux (t.map Selector.noLeadingCombinator) [] = .some t') {x : Selector} (hx : x ∈ t') :
    x ∈ t := by
  obtain ⟨y, hy, hxy⟩ := List.mem_map.mp (collectPosAux_mem h hx)
  unfold Selector.noLeadingCombinator at hxy
  split at hxy
  · cases hxy
  · cases hxy; exact hy

theorem Pseudo.noPlaceholder_sel_some {q : PhQuirks} {n : List Char} {ss : List Selector} {e : Bool}
    {p' : Pseudo} (h : Pseudo.noPlaceholder q (.mk n (.sel ss) e) = .some p') :
    ∃ t, p' = .mk n (.sel t) e ∧ ∀ x ∈ t, ∃ y ∈ ss, Selector.noPlaceholder q y = .some x := by
  generalize hp : Pseudo.mk n (.sel ss) e = p at h
  revert h
  fun_cases Pseudo.noPlaceholder q p
  all_goals rintro ⟨⟩
  all_goals cases hp
  · -- `:is(..)`: selectors with a leading combinator are dropped as well
    next t t' hl _ hs =>
    exact ⟨t', rfl, fun x hx => SelSet.noPlaceholder_mem hs (mem_of_mem_noLeadingCombinator hl hx)⟩
  · next t _ hs => exact ⟨t, rfl, fun x hx => SelSet.noPlaceholder_mem hs hx⟩

theorem noPlaceholder_phFree (q : PhQuirks) :
    (∀ s : Selector, s.phFree = true → Selector.noPlaceholder q s = .some s)
    ∧ (∀ c : Compound, c.phFree = true → Compound.noPlaceholder q c = .some c)
    ∧ (∀ p : Pseudo, p.phFree = true → Pseudo.noPlaceholder q p = .some p) := by
  refine selector_induction ?_ ?_ ?_ ?_ ?_ ?_
  · intro c ihc h
    simp [Selector.noPlaceholder, ihc h]
  · intro k r c ihr ihc h
    simp only [Selector.phFree, Bool.and_eq_true, Bool.not_eq_true'] at h
    simp [Selector.noPlaceholder, ihc h.1.1, h.1.2, ihr h.2]
  · intro b e p cl i a ps ih h
    simp only [Compound.phFree, Bool.and_eq_true, Pseudo.phFreeList_iff] at h
    have hl : Pseudo.noPlaceholderList q ps = ps.map Opt.some := by
      rw [Pseudo.noPlaceholderList_eq_map]
      exact List.map_congr_left fun x hx => ih x hx (h.2 x hx)
    simp only [Compound.noPlaceholder, h.1, Bool.not_true, Bool.false_eq_true, if_false, hl,
      collectNegAux_somes, negResult]
    cases ps <;> rfl
  · intro n ss e ih h
    simp only [Pseudo.phFree, PArg.phFree, Bool.and_eq_true, Bool.not_eq_true',
      Selector.phFreeList_iff] at h
    obtain ⟨hne, hs⟩ := h
    have hl : Selector.noPlaceholderList q ss = ss.map Opt.some := by
      rw [Selector.noPlaceholderList_eq_map]
      exact List.map_congr_left fun x hx => ih x hx (hs x hx).1
    have hc : ss.map Selector.noLeadingCombinator = ss.map Opt.some :=
      List.map_congr_left fun x hx => by simp [Selector.noLeadingCombinator, (hs x hx).2]
    simp only [Pseudo.noPlaceholder, hl, collectPosAux_somes, posResult, List.reverse_nil,
      List.nil_append, hne, Bool.false_eq_true, if_false]
    split
    · simp only [hc, collectPosAux_somes, posResult, List.reverse_nil, List.nil_append, hne,
        Bool.false_eq_true, if_false]
    · rfl
  · exact fun _ _ _ _ => rfl
  · exact fun _ _ _ => rfl

theorem Selector.noPlaceholder_phFree (q : PhQuirks) :
    ∀ s : Selector, s.phFree = true → Selector.noPlaceholder q s = .some s :=
  (Sel.noPlaceholder_phFree q).1

theorem Compound.noPlaceholder_phFree (q : PhQuirks) :
    ∀ c : Compound, c.phFree = true → Compound.noPlaceholder q c = .some c :=
  (Sel.noPlaceholder_phFree q).2.1

theorem Pseudo.noPlaceholder_phFree (q : PhQuirks) :
    ∀ p : Pseudo, p.phFree = true → Pseudo.noPlaceholder q p = .some p :=
  (Sel.noPlaceholder_phFree q).2.2

theorem Pseudo.noPlaceholderList_phFree (q : PhQuirks) :
    ∀ ps : List Pseudo, Pseudo.phFreeList ps = true → Pseudo.noPlaceholderList q ps = ps.map Opt.some := by
  intro ps h
  rw [Pseudo.noPlaceholderList_eq_map]
  exact List.map_congr_left fun x hx =>
    Pseudo.noPlaceholder_phFree q x ((Pseudo.phFreeList_iff ps).mp h x hx)

theorem Selector.noPlaceholderList_phFree (q : PhQuirks) :
    ∀ ss : List Selector, Selector.phFreeList ss = true →
      Selector.noPlaceholderList q ss = ss.map Opt.some ∧ ∀ s ∈ ss, s.hasLeadingCombinator = false := by
  intro ss h
  rw [Selector.phFreeList_iff] at h
  rw [Selector.noPlaceholderList_eq_map]
  exact ⟨List.map_congr_left fun x hx => Selector.noPlaceholder_phFree q x (h x hx).1,
    fun s hs => (h s hs).2⟩

theorem noPlaceholder_hasPh (q : PhQuirks) :
    (∀ (s t : Selector), Selector.noPlaceholder q s = .some t → t.hasPh = false)
    ∧ (∀ (c c' : Compound), Compound.noPlaceholder q c = .some c' → c'.hasPh = false)
    ∧ (∀ (p p' : Pseudo), Pseudo.noPlaceholder q p = .some p' → p'.hasPh = false) := by
  have hkept : ∀ c : Compound, (∀ c', Compound.noPlaceholder q c = .some c' → c'.hasPh = false) →
      (c.kept q).hasPh = false := by
    intro c ihc
    unfold Compound.kept
    split
    · next c' hc => exact ihc c' hc
    · rfl
  refine selector_induction ?_ ?_ ?_ ?_ ?_ ?_
  · intro c ihc t h
    rw [Selector.noPlaceholder_leaf_some h]
    exact hkept c ihc
  · intro k r c ihr ihc t h
    rcases Selector.noPlaceholder_rel_some h with rfl | ⟨r', hr, rfl⟩
    · exact hkept c ihc
    · simp [Selector.hasPh, hkept c ihc, ihr r' hr]
  · intro b e p cl i a ps ih c' h
    obtain ⟨hp, hps⟩ := Compound.noPlaceholder_some h
    cases c' with
    | mk b' e' p' cl' i' a' ps' =>
      simp only [Compound.placeholders] at hp
      simp only [Compound.hasPh, hp, List.isEmpty_nil, Bool.not_true, Bool.false_or,
        Pseudo.hasPhList_false_iff]
      intro x hx
      obtain ⟨y, hy, hyx⟩ := hps x hx
      exact ih y hy x hyx
  · intro n ss e ih p' h
    obtain ⟨t, rfl, ht⟩ := Pseudo.noPlaceholder_sel_some h
    simp only [Pseudo.hasPh, PArg.hasPh, Selector.hasPhList_false_iff]
    intro x hx
    obtain ⟨y, hy, hyx⟩ := ht x hx
    exact ih y hy x hyx
  · intro n s e p' h
    cases h
    rfl
  · intro n e p' h
    cases h
    rfl

theorem Selector.noPlaceholder_hasPh (q : PhQuirks) :
    ∀ (s t : Selector), Selector.noPlaceholder q s = .some t → t.hasPh = false :=
  (Sel.noPlaceholder_hasPh q).1

theorem Compound.noPlaceholder_hasPh (q : PhQuirks) :
    ∀ (c c' : Compound), Compound.noPlaceholder q c = .some c' → c'.hasPh = false :=
  (Sel.noPlaceholder_hasPh q).2.1

theorem Pseudo.noPlaceholder_hasPh (q : PhQuirks) :
    ∀ (p p' : Pseudo), Pseudo.noPlaceholder q p = .some p' → p'.hasPh = false :=
  (Sel.noPlaceholder_hasPh q).2.2

end Sel
