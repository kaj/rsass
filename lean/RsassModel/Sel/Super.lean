/-
C23 model (namespace `Sel`): `is_superselector` of /repo/rsass/src/css/selectors/*.rs.

  Rust                                                    Lean
  ------------------------------------------------------  -----------------------------------
  css/string.rs   CssString::unquote                      Sel.unquoteCss
  css/string.rs   impl PartialEq for CssString            Sel.cssStrEq
  attribute.rs    Attribute::is_superselector             Sel.Attr.isSuper
  elemtype.rs     match_name / ElemType::is_superselector Sel.matchName / Sel.elemIsSuper
  compound.rs     all_any                                 Sel.allAny
  pseudo.rs       Arg::is_superselector                   Sel.PArg.isSuperW
  pseudo.rs       Pseudo::is_superselector                Sel.Pseudo.isSuperW
  compound.rs     CompoundSelector::is_superselector      Sel.Compound.isSuperW
  selector.rs     Selector::is_superselector              Sel.Selector.isSuperW
                  (the two `while let` relation walks)    Sel.walkAnc / Sel.walkSib
  selectorset.rs  SelectorSet::is_superselector           Sel.setSuperW / Sel.superN / Sel.SelSet.isSuper

The Rust functions are mutually recursive through pseudo-class arguments
(`Selector → Compound → Pseudo → Arg → SelectorSet → Selector`), and `:not(..)` swaps the
two sides.  The model cuts the knot: everything below the selector-list level is written
*parametric in the relation `R` used on pseudo-class arguments*; `superN n` then ties the
knot `n` levels deep (`superN 0` = nothing is a superselector; the Rust recursion descends
into an argument on *both* sides at once, so `depth + 1` levels always suffice —
`Sel.superN_stable` in SuperFuel.lean, `C23.super_fuel_independent`).  Import-free apart from the AST.
-/
import RsassModel.Sel.Syntax

namespace Sel

/-- Deviations of the code from property C23 (`spec` = all off). -/
structure SuperQuirks where
  /-- css/string.rs `impl PartialEq for CssString`: raw text is compared when both strings
  have the same quote kind, *unquoted* text when the kinds differ.  That relation is not
  transitive (`"\-"` = `'-'` = `"-"` but `"\-"` ≠ `"-"`), and attribute selectors inherit
  it.  Off = the unquoted texts are compared in every case. -/
  attrQuoteMix : Bool := false
  /-- selector.rs `is_superselector`, `RelKind::Parent` arm: only a `sub` whose *nearest*
  relation is `>` is accepted, so `p > x` is not a superselector of `p > y ~ x` / `p > y + x`
  (the ancestor arm does look through sibling combinators: "the siblings parent is our
  parent").  Preorder and monotonicity (C23) hold either way; `selector.unify` produces such
  selectors, which breaks its soundness law (C24).  Off = sibling / adjacent links are walked
  through before the `>` link is required. -/
  parentStrict : Bool := false
  deriving DecidableEq, Repr

def superSpec : SuperQuirks := {}
def superAsis : SuperQuirks := { attrQuoteMix := true, parentStrict := true }

/-! ### css/string.rs -/

/-- `char::to_digit(16)` -/
def hexDigitVal (c : Char) : Option Nat :=
  if '0' ≤ c ∧ c ≤ '9' then some (c.toNat - 48)
  else if 'a' ≤ c ∧ c ≤ 'f' then some (c.toNat - 87)
  else if 'A' ≤ c ∧ c ≤ 'F' then some (c.toNat - 55)
  else none

/-- `char::try_from(val).unwrap_or(char::REPLACEMENT_CHARACTER)` -/
def charOfVal (v : Nat) : Char :=
  if h : v.isValidChar then Char.ofNatAux v h else Char.ofNat 0xFFFD

/-- what is pushed for the character after a non-numeric escape -/
def escNext (c : Char) : List Char := if c = '\n' then ['\\', 'a'] else [c]

/-- css/string.rs `CssString::unquote` for a quoted string, as a one-pass state machine:
`esc = none` outside an escape, `some (val, gotNum)` while reading one (Rust's inner
`loop`); `val.saturating_mul(16).saturating_add(digit)` on a `u32`. -/
def unquoteGo : Option (Nat × Bool) → List Char → List Char
  | none, [] => []
  | none, c :: rest => if c = '\\' then unquoteGo (some (0, false)) rest else c :: unquoteGo none rest
  | some (v, got), [] => if got then [charOfVal v] else []
  | some (v, got), c :: rest =>
    if c = ' ' ∧ got then charOfVal v :: unquoteGo none rest
    else match hexDigitVal c with
      | some d => unquoteGo (some (min (v * 16 + d) 4294967295, true)) rest
      | none =>
        if !got then escNext c ++ unquoteGo none rest
        else
          -- `break None`: the character is not consumed and is read again in normal state
          charOfVal v :: (if c = '\\' then unquoteGo (some (0, false)) rest else c :: unquoteGo none rest)

/-- css/string.rs `CssString::unquote` -/
def unquoteCss (val : List Char) (q : Quote) : List Char :=
  if q = Quote.none then val else unquoteGo none val

/-- css/string.rs `impl PartialEq for CssString` (`attrQuoteMix` on) / comparison of the
unquoted texts (off). -/
def cssStrEq (q : SuperQuirks) (a : List Char) (qa : Quote) (b : List Char) (qb : Quote) : Bool :=
  if q.attrQuoteMix && decide (qa = qb) then decide (a = b)
  else decide (unquoteCss a qa = unquoteCss b qb)

/-- attribute.rs `Attribute::is_superselector` -/
def Attr.isSuper (q : SuperQuirks) (a b : Attr) : Bool :=
  decide (a.name = b.name) && decide (a.op = b.op) && cssStrEq q a.val a.quotes b.val b.quotes
    && decide (a.modifier = b.modifier)

/-! ### elemtype.rs -/

/-- elemtype.rs `fn match_name` -/
def matchName (a b : List Char) : Bool := decide (a = ['*']) || decide (a = b)

/-- elemtype.rs `ElemType::is_superselector` -/
def elemIsSuper (e sub : List Char) : Bool :=
  matchName ((elemSplitNs e).1.getD ['*']) ((elemSplitNs sub).1.getD ['*'])
    && matchName (elemSplitNs e).2 (elemSplitNs sub).2

/-! ### compound.rs / pseudo.rs, parametric in the argument relation -/

/-- compound.rs `fn all_any` -/
def allAny {α : Type} (cond : α → α → Bool) (one other : List α) : Bool :=
  one.all fun a => other.any fun b => cond a b

/-- pseudo.rs `Arg::is_superselector`; `R` stands for `SelectorSet::is_superselector`. -/
def PArg.isSuperW (R : SelSet → SelSet → Bool) : PArg → PArg → Bool
  | .sel a, .sel b => R a b
  | .other a, .other b => decide (a = b)
  | .none, .none => true
  | _, _ => false

/-- pseudo.rs `Pseudo::is_superselector` (`:not` reversed, `:current` by `==`). -/
def Pseudo.isSuperW (R : SelSet → SelSet → Bool) (a b : Pseudo) : Bool :=
  if a.isElement != b.isElement || decide (a.name ≠ b.name) then false
  else if a.nameIn ["not"] then b.arg.isSuperW R a.arg
  else if a.nameIn ["current"] then PArg.beq a.arg b.arg
  else a.arg.isSuperW R b.arg

/-- the element-type clause of `CompoundSelector::is_superselector` -/
def elemClause (a b : Option (List Char)) : Bool :=
  match a with
  | none => true
  | some e => elemIsAny e || (match b with | some s => elemIsSuper e s | none => false)

/-- the pseudo-element clause of `CompoundSelector::is_superselector` -/
def peClause (R : SelSet → SelSet → Bool) (a b : Option Pseudo) : Bool :=
  match a with
  | none => b.isNone
  | some aa => match b with
    | some ba => aa.isSuperW R ba
    | none => false

/-- compound.rs `CompoundSelector::is_superselector`, over the relation `A` used on
attributes and `R` used on pseudo-class arguments -/
def Compound.isSuperG (A : Attr → Attr → Bool) (R : SelSet → SelSet → Bool) (a b : Compound) : Bool :=
  elemClause a.elem b.elem
    && allAny (fun x y => decide (x = y)) a.placeholders b.placeholders
    && allAny (fun x y => decide (x = y)) a.classes b.classes
    && (match a.id with | none => true | some i => decide (b.id = some i))
    && allAny A a.attrs b.attrs
    && allAny (Pseudo.isSuperW R) a.pseudos b.pseudos
    && peClause R a.pseudoElement b.pseudoElement

/-- compound.rs `CompoundSelector::is_superselector` -/
def Compound.isSuperW (q : SuperQuirks) (R : SelSet → SelSet → Bool) : Compound → Compound → Bool :=
  Compound.isSuperG (Attr.isSuper q) R

/-! ### selector.rs -/

/-- selector.rs `is_superselector`, `RelKind::Ancestor` arm: walk up `sub`'s relations;
an ancestor or parent link is a candidate, sibling links are walked through. -/
def walkAnc (f : Selector → Bool) : Selector → Bool
  | .leaf _ => false
  | .rel k ss _ =>
    (match k with
     | .ancestor | .parent => f ss
     | _ => false) || walkAnc f ss

/-- selector.rs `is_superselector`, `RelKind::Sibling` arm: only sibling / adjacent links
may be walked. -/
def walkSib (f : Selector → Bool) : Selector → Bool
  | .leaf _ => false
  | .rel k ss _ =>
    match k with
    | .sibling | .adjacent => f ss || walkSib f ss
    | _ => false

/-- selector.rs `is_superselector`, `RelKind::Parent` arm: `sub`'s relation must be `>`;
with `through` sibling / adjacent links are walked through first. -/
def walkPar (through : Bool) (f : Selector → Bool) : Selector → Bool
  | .leaf _ => false
  | .rel .parent ss _ => f ss
  | .rel .sibling ss _ => through && walkPar through f ss
  | .rel .adjacent ss _ => through && walkPar through f ss
  | .rel .ancestor _ _ => false

/-- selector.rs `Selector::is_superselector`, over the relation `C` used on compounds
(`is_local_superselector`); `through` = the parent arm looks through sibling combinators -/
def Selector.isSuperC (through : Bool) (C : Compound → Compound → Bool) : Selector → Selector → Bool
  | .leaf c, sub => C c sub.compound
  | .rel k s c, sub =>
    C c sub.compound &&
    match k with
    | .ancestor => walkAnc (Selector.isSuperC through C s) sub
    | .parent => walkPar through (Selector.isSuperC through C s) sub
    | .sibling => walkSib (Selector.isSuperC through C s) sub
    | .adjacent => (match sub with
        | .rel .adjacent ss _ => Selector.isSuperC through C s ss
        | _ => false)

/-- selector.rs `Selector::is_superselector` -/
def Selector.isSuperW (q : SuperQuirks) (R : SelSet → SelSet → Bool) : Selector → Selector → Bool :=
  Selector.isSuperC (!q.parentStrict) (Compound.isSuperW q R)

/-- selectorset.rs `SelectorSet::is_superselector` over a given selector-level relation -/
def setSuperW (S : Selector → Selector → Bool) (A B : SelSet) : Bool :=
  B.all fun sub => A.any fun sup => S sup sub

/-- `SelectorSet::is_superselector` unrolled `n` levels of pseudo-class arguments deep. -/
def superN (q : SuperQuirks) : Nat → SelSet → SelSet → Bool
  | 0 => fun _ _ => false
  | n + 1 => setSuperW (Selector.isSuperW q (superN q n))

/-! ### nesting depth of selector arguments (fuel) -/

mutual
  def Selector.depth : Selector → Nat
    | .leaf c => Compound.depth c
    | .rel _ s c => max (Selector.depth s) (Compound.depth c)
  def Compound.depth : Compound → Nat
    | .mk _ _ _ _ _ _ ps => Pseudo.depthList ps
  def Pseudo.depth : Pseudo → Nat
    | .mk _ a _ => PArg.depth a
  def PArg.depth : PArg → Nat
    | .sel s => Selector.depthList s + 1
    | _ => 0
  def Pseudo.depthList : List Pseudo → Nat
    | [] => 0
    | p :: ps => max (Pseudo.depth p) (Pseudo.depthList ps)
  def Selector.depthList : List Selector → Nat
    | [] => 0
    | s :: ss => max (Selector.depth s) (Selector.depthList ss)
end

/-- `Selector::is_superselector` for two complex selectors -/
def Selector.isSuper (q : SuperQuirks) (a b : Selector) : Bool :=
  Selector.isSuperW q (superN q a.depth) a b

/-- `CssSelectorSet::is_superselector` = `selector.is-superselector($super, $sub)` -/
def SelSet.isSuper (q : SuperQuirks) (A B : SelSet) : Bool :=
  superN q (Selector.depthList A + 1) A B

end Sel
