/-
Selector nesting (C19), namespace `Sel`.  Mirrors

  css/selectors/cssselectorset.rs  CssSelectorSet::nest (round-robin merge of the rows)
  css/selectors/selectorset.rs     SelectorSet::resolve_ref (same round-robin)
  css/selectors/selector.rs        Selector::nest, resolve_ref, resolve_ref_in_pseudo
  css/selectors/compound.rs        CompoundSelector::append (print + re-parse, modelled
                                   structurally), resolve_ref_in_pseudo, and the special case
                                   `CompoundSelector::default().unify(x)` reached from resolve_ref
  css/selectors/pseudo.rs          Pseudo::resolve_ref
  css/selectors/context.rs         SelectorCtx::{nest, at_root, get_backref}
  output/transform.rs              Item::Rule / Item::Property handling (rule tree → blocks)
  css/rule.rs                      Rule::write (through Sel/Placeholder.lean `ruleHeader`)
-/
import RsassModel.Sel.Syntax
import RsassModel.Sel.Print
import RsassModel.Sel.Placeholder

namespace Sel

/-! ### Round-robin merge -/

/-- the `next()` of every row iterator that still has an element -/
def heads {α : Type} : List (List α) → List α
  | [] => []
  | [] :: rows => heads rows
  | (x :: _) :: rows => x :: heads rows

def tails {α : Type} : List (List α) → List (List α)
  | [] => []
  | row :: rows => row.tail :: tails rows

def allEmpty {α : Type} : List (List α) → Bool
  | [] => true
  | row :: rows => row.isEmpty && allEmpty rows

/-- one pass of the `while !empty { for i in &mut parts { if let Some(next) = i.next() … } }`
loop per unit of fuel -/
def roundRobinAux {α : Type} : Nat → List (List α) → List α
  | 0, _ => []
  | fuel + 1, rows => if allEmpty rows then [] else heads rows ++ roundRobinAux fuel (tails rows)

def maxLen {α : Type} : List (List α) → Nat
  | [] => 0
  | row :: rows => max row.length (maxLen rows)

/-- cssselectorset.rs `CssSelectorSet::nest` / selectorset.rs `SelectorSet::resolve_ref`:
take one element of every row in turn until all rows are exhausted. -/
def roundRobin {α : Type} (rows : List (List α)) : List α := roundRobinAux (maxLen rows) rows

/-! ### Deviation flags -/

/-- Deviation flags of nesting; `nestSpec` = all off.  `ampViaUnify` and `suffixUnwrapPanics`
were repaired in /repo (d714329, 1acf5fd); `appendIdLastWins` is open.  `nestAsis` is the code
today, `nestOld` the code before those commits (kept for the refutations). -/
structure NestQuirks where
  /-- (before d714329) selector.rs `resolve_ref`: the substituted compound is passed through
  `Selector::unify` with an empty compound, which de-duplicates classes and placeholders,
  moves the pseudo-element last (dropping further ones), drops `:host` combinations, and
  drops the selector when the outer selector ends in a combinator. -/
  ampViaUnify : Bool := false
  /-- (before 1acf5fd) selector.rs `resolve_ref`: `s.compound.append(..).unwrap()` — a parent
  that cannot take the suffix is a panic instead of the error
  `Parent ".." is incompatible with this selector.` -/
  suffixUnwrapPanics : Bool := false
  /-- compound.rs `CompoundSelector::append` prints parent and suffix and parses the text again;
  the parser's `result.id = Some(id)` keeps only the last `#id`, so `#a { &#b }` gives `#b`
  instead of `#a#b`.  NOTE the default is `true` (= the code): record literals written before
  this flag existed (`{ ampViaUnify := … }` in other families) keep denoting the code. -/
  appendIdLastWins : Bool := true
  deriving Repr, DecidableEq

def nestSpec : NestQuirks := { appendIdLastWins := false }
/-- the code as it is today -/
def nestAsis : NestQuirks := {}
/-- the code before d714329 / 1acf5fd -/
def nestOld : NestQuirks := { ampViaUnify := true, suffixUnwrapPanics := true }

/-! ### `Selector::nest` (no `&` in the inner selector) -/

/-- `!self.is_local_empty() || self.rel_of.is_some()` is false: nesting in the root -/
def Selector.isRootLike (s : Selector) : Bool := s.isLocalEmpty && !s.isComplex

/-- selector.rs `Selector::nest`: `self` is the outer selector. -/
def Selector.nest (self : Selector) : Selector → Selector
  | .leaf c => if self.isRootLike then .leaf c else .rel .ancestor self c
  | .rel kind r c =>
    if self.isRootLike then .rel kind r c
    else
      let rel' := Selector.nest self r
      if rel'.isLocalEmpty then
        match rel' with
        | .rel .ancestor rr _ => .rel kind rr c
        | .rel rk rr _ => .rel kind (.rel rk rr Compound.empty) c
        | .leaf _ => .leaf c
      else .rel kind rel' c

/-! ### `CompoundSelector::append`: print both, parse the concatenation -/

def isNameChar (c : Char) : Bool := c.isAlphanum || c = '-' || c = '_' || c.toNat ≥ 0x80

def appendToLast (l : List (List Char)) (sfx : List Char) : List (List Char) :=
  match l.reverse with
  | [] => []
  | x :: rest => (rest.reverse) ++ [x ++ sfx]

/-- What re-parsing `print a ++ sfx` gives when `sfx` is a name fragment (`&-x`): the
fragment extends the *last printed* simple selector of `a`.  `none` = the text does not
parse as one compound selector (`.unwrap()` panics in `resolve_ref`; C01). -/
def Compound.appendSuffix (a : Compound) (sfx : List Char) : Option Compound :=
  match a with
  | .mk b e p c i ats ps =>
    match ps.reverse with
    | .mk n .none el :: rest => some (.mk b e p c i ats (rest.reverse ++ [.mk (n ++ sfx) .none el]))
    | _ :: _ => none
    | [] =>
      if !ats.isEmpty then none
      else if !c.isEmpty then some (.mk b e p (appendToLast c sfx) i ats ps)
      else match i with
        | some i => some (.mk b e p c (some (i ++ sfx)) ats ps)
        | none =>
          if !p.isEmpty then some (.mk b e (appendToLast p sfx) c i ats ps)
          else match e with
            | some e => if e.getLast? = some '*' then none else some (.mk b (some (e ++ sfx)) p c i ats ps)
            | none => some (.mk b (some sfx) p c i ats ps)

/-- compound.rs `CompoundSelector::append(self, other)` where `other` carries no `&`:
`self`'s simple selectors followed by `other`'s; an element type on `other` can only be a
name fragment glued to `self`'s last simple selector; a later `#id` overwrites.
An element type `*` hidden by the printer (`*.a` prints `.a`) is lost by the round trip. -/
def mergeId (keepIds : Bool) : Option (List Char) → Option (List Char) → Option (List Char)
  | some x, some y => if keepIds then some (y ++ '#' :: x) else some x
  | some x, none => some x
  | none, i => i

/-- `other`'s simple selectors behind the (suffix-extended) `self` -/
def Compound.mergeInto (keepIds : Bool) : Option Compound → Compound → Option Compound
  | none, _ => none
  | some (.mk _ e p c i ats ps), .mk _ _ p' c' i' ats' ps' =>
    some (.mk false e (p ++ p') (c ++ c') (mergeId keepIds i' i) (ats ++ ats') (ps ++ ps'))

def Compound.appendWith (keepIds : Bool) (a b : Compound) : Option Compound :=
  let a1 : Compound := match a with
    | .mk bk e p c i ats ps =>
      .mk bk (match e with | some e => if elemShown e p c i ps.length then some e else none | none => none) p c i ats ps
  let a2 : Option Compound := match b.elem with
    | none => some a1
    | some sfx => a1.appendSuffix sfx
  Compound.mergeInto keepIds a2 b

/-- `keepIds` matters only when the appended compound has an id of its own -/
theorem Compound.mergeInto_id_none (k k' : Bool) (a2 : Option Compound) (b : Compound) (h : b.id = none) :
    Compound.mergeInto k a2 b = Compound.mergeInto k' a2 b := by
  cases b with
  | mk b2 e2 p2 c2 i2 a2' ps2 =>
    simp only [Compound.id] at h
    subst h
    cases a2 with
    | none => rfl
    | some r => cases r; rfl

/-- the code: the re-parse keeps the last `#id` only (`keepIds = false`).  `keepIds = true` is
the specification: both ids stay, written `#a#b` (held as the id text `a#b`). -/
def Compound.append (a b : Compound) : Option Compound := Compound.appendWith false a b

@[simp] theorem Compound.appendWith_false (a b : Compound) :
    Compound.appendWith false a b = Compound.append a b := rfl

/-! ### `CompoundSelector::default().unify(x)` as reached from `resolve_ref` -/

def dedupKeepFirst : List (List Char) → List (List Char) → List (List Char)
  | [], acc => acc.reverse
  | x :: xs, acc => if acc.contains x then dedupKeepFirst xs acc else dedupKeepFirst xs (x :: acc)

/-- compound.rs `CompoundSelector::unify` with `self = default()`: `none` = no unification. -/
def Compound.unifyEmpty (o : Compound) : Option Compound :=
  match o with
  | .mk _ e p c i ats ps =>
    let pe := ps.find? Pseudo.isElement
    let ps1 := ps.filter (fun x => !x.isElement)
    let ps2 := match pe with | some x => ps1 ++ [x] | none => ps1
    let c' := dedupKeepFirst c []
    if ps2.any Pseudo.isHost && (ps2.any Pseudo.isHover || e.isSome || !c'.isEmpty) then none
    else some (.mk false e (dedupKeepFirst p []) c' i ats ps2)

/-- selector.rs `resolve_ref`, closure body for one outer selector `s`:
`Selector{rel_of: s.rel_of, compound: default}.unify(Selector{rel_of: None, compound:
s.compound.append(c)})`.  `spec`: `s` with its last compound replaced by the appended one. -/
def resolveOne (q : NestQuirks) (s : Selector) (c : Compound) : List Selector :=
  match Compound.appendWith (!q.appendIdLastWins) s.compound c with
  | none => []
  | some ap =>
    if q.ampViaUnify then
      match ap.unifyEmpty with
      | none => []
      | some u =>
        match s with
        | .leaf _ => [.leaf u]
        | .rel k r _ => if u.isEmpty then [] else [.rel k r u]
    else [s.setCompound ap]

def resolveOneList (q : NestQuirks) (c : Compound) : List Selector → List Selector
  | [] => []
  | s :: ss => resolveOne q s c ++ resolveOneList q c ss

/-- the `if self.compound.backref.is_some() { … } else { vec![self] }` part of `resolve_ref`
(with `rel_of` already taken) -/
def resolveCompound (q : NestQuirks) (ctx : SelSet) (c : Compound) : List Selector :=
  if c.backref then resolveOneList q (c.setBackref false) ctx else [.leaf c]

/-- selector.rs `resolve_ref`, the `loop { … t.insert((rel_of.0, rel)) }`: hang `(k, rel)` on
the leftmost compound of `r` -/
def Selector.attachDeepest (k : Rel) (rel : Selector) : Selector → Selector
  | .leaf c => .rel k rel c
  | .rel k' s c => .rel k' (Selector.attachDeepest k rel s) c

def attachAll (k : Rel) (rels result : List Selector) : List Selector :=
  match rels with
  | [] => []
  | rel :: more => result.map (Selector.attachDeepest k rel) ++ attachAll k more result

mutual
  /-- selector.rs `Selector::resolve_ref` (with `resolve_ref_in_pseudo` done compound by
  compound; equal to the Rust double pass because `ctx` has no `&`). -/
  def Selector.resolveRef (q : NestQuirks) (ctx : SelSet) : Selector → List Selector
    | .leaf c => resolveCompound q ctx (Compound.resolveInPseudo q ctx c)
    | .rel k s c =>
      attachAll k (Selector.resolveRef q ctx s) (resolveCompound q ctx (Compound.resolveInPseudo q ctx c))
  /-- compound.rs `CompoundSelector::resolve_ref_in_pseudo` -/
  def Compound.resolveInPseudo (q : NestQuirks) (ctx : SelSet) : Compound → Compound
    | .mk b e p c i a ps => .mk b e p c i a (Pseudo.resolveRefList q ctx ps)
  /-- pseudo.rs `Pseudo::resolve_ref` -/
  def Pseudo.resolveRef (q : NestQuirks) (ctx : SelSet) : Pseudo → Pseudo
    | .mk n a e => .mk n (PArg.resolveRef q ctx a) e
  def PArg.resolveRef (q : NestQuirks) (ctx : SelSet) : PArg → PArg
    | .sel s => .sel (roundRobin (Selector.resolveRefRows q ctx s))
    | .other s => .other s
    | .none => .none
  def Pseudo.resolveRefList (q : NestQuirks) (ctx : SelSet) : List Pseudo → List Pseudo
    | [] => []
    | p :: ps => Pseudo.resolveRef q ctx p :: Pseudo.resolveRefList q ctx ps
  /-- the rows `self.s.into_iter().map(|s| s.resolve_ref(ctx))` of `SelectorSet::resolve_ref` -/
  def Selector.resolveRefRows (q : NestQuirks) (ctx : SelSet) : List Selector → List (List Selector)
    | [] => []
    | s :: ss => Selector.resolveRef q ctx s :: Selector.resolveRefRows q ctx ss
end

/-- selectorset.rs `SelectorSet::resolve_ref` -/
def SelSet.resolveRef (q : NestQuirks) (ctx : SelSet) (s : SelSet) : SelSet :=
  roundRobin (Selector.resolveRefRows q ctx s)

/-! ### Failure of `CompoundSelector::append` in `resolve_ref` (an error; a panic before 1acf5fd) -/

mutual
  /-- some `&`-compound of the selector cannot be appended to some outer compound -/
  def Selector.resolvePanics (ctx : SelSet) : Selector → Bool
    | .leaf c => Compound.resolvePanics ctx c
    | .rel _ s c => Compound.resolvePanics ctx c || Selector.resolvePanics ctx s
  def Compound.resolvePanics (ctx : SelSet) : Compound → Bool
    | .mk b e p c i a ps =>
      (b && ctx.any (fun s => (s.compound.append (.mk false e p c i a [])).isNone))
        || Pseudo.resolvePanicsList ctx ps
  def Pseudo.resolvePanics (ctx : SelSet) : Pseudo → Bool
    | .mk _ a _ => PArg.resolvePanics ctx a
  def PArg.resolvePanics (ctx : SelSet) : PArg → Bool
    | .sel s => Selector.resolvePanicsList ctx s
    | _ => false
  def Pseudo.resolvePanicsList (ctx : SelSet) : List Pseudo → Bool
    | [] => false
    | p :: ps => Pseudo.resolvePanics ctx p || Pseudo.resolvePanicsList ctx ps
  def Selector.resolvePanicsList (ctx : SelSet) : List Selector → Bool
    | [] => false
    | s :: ss => Selector.resolvePanics ctx s || Selector.resolvePanicsList ctx ss
end

/-! ### `CssSelectorSet::nest`, `SelectorCtx` -/

/-- one row of `CssSelectorSet::nest`: all results for the inner selector `o` -/
def nestRow (q : NestQuirks) (self backref : SelSet) (o : Selector) : List Selector :=
  if o.hasBackref then o.resolveRef q backref else self.map (fun s => s.nest o)

/-- cssselectorset.rs `CssSelectorSet::nest(&self, other, backref)` -/
def SelSet.nest (q : NestQuirks) (self other backref : SelSet) : SelSet :=
  roundRobin (other.map (nestRow q self backref))

/-- selectorset.rs `SelectorSet::is_root` -/
def SelSet.isRoot (s : SelSet) : Bool :=
  match s with
  | [x] => x == Selector.root
  | _ => false

/-- context.rs `struct SelectorCtx { s, backref }` -/
structure Ctx where
  s : SelSet
  backref : SelSet

def Ctx.root : Ctx := ⟨SelSet.root, SelSet.root⟩
/-- context.rs `SelectorCtx::get_backref` -/
def Ctx.getBackref (c : Ctx) : SelSet := if SelSet.isRoot c.s then c.backref else c.s
/-- context.rs `SelectorCtx::nest` -/
def Ctx.nest (q : NestQuirks) (c : Ctx) (sels : SelSet) : SelSet := SelSet.nest q c.s sels c.getBackref
/-- `impl From<CssSelectorSet> for SelectorCtx` -/
def Ctx.ofSet (s : SelSet) : Ctx := ⟨s, SelSet.root⟩
/-- context.rs `SelectorCtx::at_root` -/
def Ctx.atRoot (q : NestQuirks) (c : Ctx) (sels : SelSet) : Ctx :=
  ⟨SelSet.resolveRef q c.getBackref sels, c.getBackref⟩

def Ctx.nestPanics (c : Ctx) (sels : SelSet) : Bool :=
  sels.any (fun o => o.hasBackref && Selector.resolvePanics c.getBackref o)

/-! ### Rule trees (output/transform.rs `Item::Rule`, `Item::Property`; css/rule.rs) -/

/-- a style rule body: declarations (by name) and nested rules, in source order -/
inductive Item where
  | decl (name : List Char)
  | rule (sels : SelSet) (body : List Item)
  | atRoot (sels : SelSet) (body : List Item)

/-- one emitted rule: resolved selector list and its declaration names.  Consecutive
declarations of one rule share a block; a nested rule that emits something closes it
(cssdest.rs `RuleDest::push_item` → `commit_rule`; an empty child only sends
`Item::Separator`, which does not commit). -/
abbrev Block := SelSet × List (List Char)

def pushDecl (sel : SelSet) (d : List Char) (openBlock : Bool) (out : List Block) : List Block :=
  -- `out` is kept reversed (latest block first)
  match openBlock, out with
  | true, (s, ds) :: rest => (s, ds ++ [d]) :: rest
  | _, _ => (sel, [d]) :: out

mutual
  /-- transform.rs `handle_item`, `Item::Rule` / `Item::AtRoot` arm: nest the selectors,
  then the body -/
  def Item.eval (q : NestQuirks) (ctx : Ctx) (out : List Block) : Item → List Block
    | .decl _ => out
    | .rule sels body =>
      let s := ctx.nest q sels
      Item.evalBody q (Ctx.ofSet s) s false out body
    | .atRoot sels body =>
      let c := ctx.atRoot q sels
      Item.evalBody q c c.s false out body
  /-- transform.rs `handle_body` inside a rule whose resolved selector is `sel` -/
  def Item.evalBody (q : NestQuirks) (ctx : Ctx) (sel : SelSet) (openBlock : Bool) (out : List Block)
      : List Item → List Block
    | [] => out
    | .decl d :: rest => Item.evalBody q ctx sel true (pushDecl sel d openBlock out) rest
    | .rule sels body :: rest =>
      let out' := Item.eval q ctx out (.rule sels body)
      Item.evalBody q ctx sel (openBlock && out'.length == out.length) out' rest
    | .atRoot sels body :: rest =>
      let out' := Item.eval q ctx out (.atRoot sels body)
      Item.evalBody q ctx sel (openBlock && out'.length == out.length) out' rest
end

/-- the whole stylesheet: top-level rules evaluated in the root context -/
def evalSheet (q : NestQuirks) : List Item → List Block → List Block
  | [], out => out
  | it :: rest, out => evalSheet q rest (Item.eval q Ctx.root out it)

def sheetBlocks (q : NestQuirks) (items : List Item) : List Block := (evalSheet q items []).reverse

mutual
  def Item.panics (ctx : Ctx) (q : NestQuirks) : Item → Bool
    | .decl _ => false
    | .rule sels body => ctx.nestPanics sels || Item.panicsList (Ctx.ofSet (ctx.nest q sels)) q body
    | .atRoot sels body => ctx.nestPanics sels || Item.panicsList (ctx.atRoot q sels) q body
  def Item.panicsList (ctx : Ctx) (q : NestQuirks) : List Item → Bool
    | [] => false
    | it :: rest => Item.panics ctx q it || Item.panicsList ctx q rest
end

/-- text of the emitted rule headers with their declarations:
`header{d1;d2}` per block, blocks whose selectors are all placeholders are skipped
(css/rule.rs `Rule::write`). -/
def renderBlocksQ (pq : PhQuirks) (compressed : Bool) : List Block → List Char
  | [] => []
  | (s, ds) :: rest =>
    (match ruleHeaderQ pq compressed (!ds.isEmpty) s with
     | none => []
     | some h => h ++ ['{'] ++ (ds.foldr (fun d acc => d ++ [';'] ++ acc) []) ++ ['}', '\n'])
      ++ renderBlocksQ pq compressed rest

def renderBlocks (compressed : Bool) (b : List Block) : List Char := renderBlocksQ phAsis compressed b

end Sel

namespace Sel

/-- what compiling a sheet of rules gives -/
inductive Outcome where
  | ok (blocks : List Block)
  | err
  | panic

/-- transform.rs: the first `&` that cannot be resolved aborts the compilation
(`Invalid::AtError`, before 1acf5fd a panic); otherwise the emitted blocks -/
def sheetOutcome (q : NestQuirks) (items : List Item) : Outcome :=
  if Item.panicsList Ctx.root q items then (if q.suffixUnwrapPanics then .panic else .err)
  else .ok (sheetBlocks q items)

def Outcome.isPanic : Outcome → Bool
  | .panic => true
  | _ => false

/-- shape of an inner selector accepted by the `nest` printing theorems: only the leftmost
compound may be empty (a leading combinator `> b`), and then not with the descendant relation -/
def Selector.innerOk : Selector → Bool
  | .leaf _ => true
  | .rel k r c => !c.isEmpty && Selector.innerOk r && (!r.isLocalEmpty || k != .ancestor)

end Sel
