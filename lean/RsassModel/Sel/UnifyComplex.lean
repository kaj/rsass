/-
C24 lemmas (namespace `Sel`): soundness of complex-selector unification
(`inner_unify` / `unify` / `with_rel_of` / `unify_relbox`) for the specification
configuration `unifySpec`, by induction on the fuel of the mutual recursion.
-/
import RsassModel.Sel.UnifyLemmas

namespace Sel

/-- `CS a b`: compound `a` is a superselector of compound `b` in the specification -/
abbrev CS : Compound → Compound → Bool := Compound.isSuper superSpec

/-- `sup a b`: the complex selector `a` is a superselector of `b` in the specification
(`Selector::is_superselector` with the `>` arm looking through sibling combinators); not to be
confused with the field `UnifyQuirks.sup` -/
def sup (a b : Selector) : Prop := Selector.isSuperC true CS a b = true

theorem isSuperF_spec (a b : Selector) :
    Selector.isSuperF superSpec a b = Selector.isSuperC true CS a b := rfl

/-- a compound the unify law speaks about: no pseudo-element, element type with ≤ 1 `|` -/
def CompOk (c : Compound) : Prop := c.pseudoElement = none ∧ ∀ e, c.elem = some e → elemWf e = true

def Inv (s : Selector) : Prop := ∀ c ∈ s.compounds, CompOk c

/-- compound unification is sound on such compounds (no pseudo-element: `onePe` is vacuous) -/
theorem CompOk.unify_sound {a b c : Compound} (ha : CompOk a) (hb : CompOk b)
    (h : Compound.unify unifySpec a b = some c) : CS a c = true ∧ CS b c = true := by
  have one : ∀ x : Compound, x.pseudoElement = none → x.onePe := by
    intro x hx p hp hpe
    have := List.find?_eq_none.1 hx p hp
    simp [hpe] at this
  exact Compound.unify_sound (by rw [ha.1, hb.1]) (one a ha.1) (one b hb.1) ha.2 hb.2 h

theorem compOk_empty : CompOk Compound.empty :=
  ⟨by decide, fun e h => nomatch h⟩

theorem Inv.left {k : Rel} {s : Selector} {c : Compound} (h : Inv (.rel k s c)) : Inv s :=
  fun x hx => h x (by simp [Selector.compounds, hx])

theorem Inv.last {k : Rel} {s : Selector} {c : Compound} (h : Inv (.rel k s c)) : CompOk c :=
  h c (by simp [Selector.compounds])

theorem Inv.leaf {c : Compound} (h : Inv (.leaf c)) : CompOk c := h c (by simp [Selector.compounds])

theorem Inv.compound {s : Selector} (h : Inv s) : CompOk s.compound := h _ (compound_mem_compounds s)

theorem Inv.withEmpty {k : Rel} {o : Selector} (h : Inv o) : Inv (.rel k o Compound.empty) := by
  intro x hx
  simp only [Selector.compounds, List.mem_cons] at hx
  rcases hx with hx | hx
  · subst hx; exact compOk_empty
  · exact h x hx

theorem sup_refl (s : Selector) : sup s s := Selector.isSuperW_self_refl superSpec s

/-- a selector hanging on `(k, s)` is above one hanging on `(k', s')` whenever the rightmost
compounds are -/
def LinkOK (k : Rel) (s : Selector) (k' : Rel) (s' : Selector) : Prop :=
  ∀ c c', CS c c' = true → sup (.rel k s c) (.rel k' s' c')

theorem link_of_cand {k k' : Rel} {s u y : Selector}
    (hy : ∀ c', y ∈ cands true k (.rel k' u c')) (h : sup s y) : LinkOK k s k' u :=
  fun _ c' hc => isSuperC_rel.2 ⟨hc, y, hy c', h⟩

theorem link_same (k : Rel) {s s' : Selector} (h : sup s s') : LinkOK k s k s' :=
  link_of_cand (cands_self true k s') h

theorem link_anc_top {s u : Selector} {k' : Rel} (hk : k' = .ancestor ∨ k' = .parent) (h : sup s u) :
    LinkOK .ancestor s k' u := by
  refine link_of_cand (fun c' => ?_) h
  rcases hk with rfl | rfl <;> simp [cands, ancCands]

theorem link_anc_deep {s u y : Selector} (k' : Rel) (hy : y ∈ ancCands u) (h : sup s y) :
    LinkOK .ancestor s k' u :=
  link_of_cand (fun c' => by simp [cands, ancCands, hy]) h

theorem link_par_deep {s u y : Selector} {k' : Rel} (hk : k' = .sibling ∨ k' = .adjacent)
    (hy : y ∈ parCands true u) (h : sup s y) : LinkOK .parent s k' u := by
  refine link_of_cand (fun c' => ?_) h
  rcases hk with rfl | rfl <;> simpa [cands, parCands] using hy

theorem link_sib_top {s u : Selector} {k' : Rel} (hk : k' = .sibling ∨ k' = .adjacent) (h : sup s u) :
    LinkOK .sibling s k' u := by
  refine link_of_cand (fun c' => ?_) h
  rcases hk with rfl | rfl <;> simp [cands, sibCands]

theorem link_sib_deep {s u y : Selector} {k' : Rel} (hk : k' = .sibling ∨ k' = .adjacent)
    (hy : y ∈ sibCands u) (h : sup s y) : LinkOK .sibling s k' u := by
  refine link_of_cand (fun c' => ?_) h
  rcases hk with rfl | rfl <;> simp [cands, sibCands, hy]

theorem mem_asRelVec {k : Rel} {L : List Selector} {p : Rel × Selector} :
    p ∈ asRelVec k L ↔ ∃ u ∈ L, p = (k, u) := by
  simp [asRelVec, eq_comm]

/-! Soundness at fuel `n` of the four functions: `SoundI` for `inner_unify`, `SoundU` for `unify`,
`SoundW` for `with_rel_of` (whose second input comes back hung on an empty compound), `SoundR`
for `unify_relbox` (whose results are links, hence `LinkOK`). -/

def SoundI (n : Nat) : Prop := ∀ a b L, Inv a → Inv b → innerUnifyN unifySpec n a b = some L →
  ∀ u ∈ L, sup a u ∧ sup b u

def SoundU (n : Nat) : Prop := ∀ a b, Inv a → Inv b → ∀ u ∈ unifyN unifySpec n a b, sup a u ∧ sup b u

def SoundW (n : Nat) : Prop := ∀ self k other, Inv self → Inv other →
  ∀ u ∈ withRelOfN unifySpec n self k other, sup self u ∧ sup (.rel k other Compound.empty) u

def SoundR (n : Nat) : Prop := ∀ ka a kb b v, Inv a → Inv b →
  unifyRelboxN unifySpec n (ka, a) (kb, b) = some v →
  ∀ p ∈ v, LinkOK ka a p.1 p.2 ∧ LinkOK kb b p.1 p.2

/-- One level of `inner_unify`.  Only the parts to the LEFT of the rightmost compounds need
`Inv`, and only when both inputs have such a part (otherwise `unify_relbox` is not called);
for the rightmost compounds soundness of their own unification suffices (so at the top level
they may carry pseudo-elements, as far as `Compound.unify_sound` allows). -/
theorem innerUnify_sound_top {n : Nat} (hR : SoundR n) (a b : Selector) (L : List Selector)
    (hl : ∀ ka sa ca kb sb cb, a = .rel ka sa ca → b = .rel kb sb cb → Inv sa ∧ Inv sb)
    (hcu : ∀ c, Compound.unify unifySpec a.compound b.compound = some c →
      CS a.compound c = true ∧ CS b.compound c = true)
    (h : innerUnifyN unifySpec (n + 1) a b = some L) : ∀ u ∈ L, sup a u ∧ sup b u := by
  simp only [innerUnifyN] at h
  split at h
  · exact nomatch h
  · next rel hrel =>
    split at h
    · exact nomatch h
    · next c hc =>
      obtain rfl := Option.some.inj h
      obtain ⟨hca, hcb⟩ := hcu c hc
      -- `c` alone (when there is no link) and `c` hung on any link of `rel` are below both inputs
      have key : (rel.isEmpty = true → sup a (.leaf c) ∧ sup b (.leaf c))
          ∧ ∀ r ∈ rel, sup a (.rel r.1 r.2 c) ∧ sup b (.rel r.1 r.2 c) := by
        cases a with
        | leaf ca =>
          cases b with
          | leaf cb =>
            obtain rfl := Option.some.inj hrel
            exact ⟨fun _ => ⟨hca, hcb⟩, nofun⟩
          | rel kb sb cb =>
            obtain rfl := Option.some.inj hrel
            refine ⟨nofun, fun r hr => ?_⟩
            obtain rfl := List.mem_singleton.1 hr
            exact ⟨hca, link_same kb (sup_refl sb) _ _ hcb⟩
        | rel ka sa ca =>
          cases b with
          | leaf cb =>
            obtain rfl := Option.some.inj hrel
            refine ⟨nofun, fun r hr => ?_⟩
            obtain rfl := List.mem_singleton.1 hr
            exact ⟨link_same ka (sup_refl sa) _ _ hca, hcb⟩
          | rel kb sb cb =>
            simp only [Selector.relOf] at hrel
            split at hrel
            · exact nomatch hrel
            · next v hv =>
              split at hrel
              · exact nomatch hrel
              · next hne =>
                obtain rfl := Option.some.inj hrel
                refine ⟨fun he => absurd he hne, fun r hr => ?_⟩
                obtain ⟨hsa, hsb⟩ := hl _ _ _ _ _ _ rfl rfl
                have hlk := hR ka sa kb sb v hsa hsb hv r hr
                exact ⟨hlk.1 _ _ hca, hlk.2 _ _ hcb⟩
      intro u hu
      split at hu
      · next he =>
        obtain rfl := List.mem_singleton.1 hu
        exact key.1 he
      · split at hu
        · exact absurd hu (List.not_mem_nil)
        · obtain ⟨r, hr, rfl⟩ := List.mem_map.1 hu
          exact key.2 r hr

theorem soundI_step {n : Nat} (hR : SoundR n) : SoundI (n + 1) :=
  fun a b L ha hb h =>
    innerUnify_sound_top hR a b L (fun _ _ _ _ _ _ ea eb => ⟨(ea ▸ ha).left, (eb ▸ hb).left⟩)
      (fun _ hc => ha.compound.unify_sound hb.compound hc) h

theorem soundU_step {n : Nat} (hI : SoundI n) : SoundU (n + 1) := by
  intro a b ha hb u hu
  simp only [unifyN] at hu
  cases h : innerUnifyN unifySpec n a b with
  | none => simp [h] at hu
  | some L => rw [h] at hu; exact hI a b L ha hb h u (by simpa using hu)

theorem soundW_step {n : Nat} (hU : SoundU n) : SoundW (n + 1) := by
  intro self k other hs ho u hu
  cases self with
  | rel k' s' c' =>
    simp only [withRelOfN] at hu
    exact hU _ _ hs ho.withEmpty u hu
  | leaf c =>
    simp only [withRelOfN] at hu
    split at hu
    · simp at hu
    · simp only [List.mem_singleton] at hu
      subst hu
      constructor
      · show Selector.isSuperC true CS (.leaf c) _ = true
        simp only [Selector.isSuperC, Selector.compound]
        exact Compound.isSuperW_self_refl superSpec c
      · -- `∅ ⊒ c`: `c` adds simple selectors to the empty compound and has no pseudo-element
        have h0 : CS Compound.empty c = true :=
          Compound.isSuperW_of_extends superSpec
            ⟨Or.inl rfl, (fun _ h => nomatch h), (fun _ h => nomatch h), Or.inl rfl,
              (fun _ h => nomatch h), (fun _ h => nomatch h), hs.leaf.1⟩
        exact link_same k (sup_refl other) _ _ h0

/-! The results of `unify_relbox` are built from four kinds of pieces; each keeps both inputs
linked. -/

theorem links_asRelVec {ka kb k : Rel} {a b : Selector} {L : List Selector}
    (h : ∀ u ∈ L, LinkOK ka a k u ∧ LinkOK kb b k u) :
    ∀ p ∈ asRelVec k L, LinkOK ka a p.1 p.2 ∧ LinkOK kb b p.1 p.2 := by
  intro p hp
  obtain ⟨u, hu, rfl⟩ := mem_asRelVec.1 hp
  exact h u hu

theorem links_single {ka kb k : Rel} {a b u : Selector} (h : LinkOK ka a k u ∧ LinkOK kb b k u) :
    ∀ p ∈ [(k, u)], LinkOK ka a p.1 p.2 ∧ LinkOK kb b p.1 p.2 :=
  fun _ hp => List.mem_singleton.1 hp ▸ h

theorem links_inner {n : Nat} (hI : SoundI n) {k : Rel} {x y : Selector} {v : List (Rel × Selector)}
    (hx : Inv x) (hy : Inv y) (h : (innerUnifyN unifySpec n x y).map (asRelVec k) = some v) :
    ∀ p ∈ v, LinkOK k x p.1 p.2 ∧ LinkOK k y p.1 p.2 := by
  obtain ⟨L, hL, rfl⟩ := Option.map_eq_some_iff.1 h
  exact links_asRelVec fun u hu =>
    ⟨link_same k (hI x y L hx hy hL u hu).1, link_same k (hI x y L hx hy hL u hu).2⟩

theorem links_unify {n : Nat} (hU : SoundU n) {ka kb k : Rel} {a b : Selector} (ha : Inv a) (hb : Inv b)
    (f : ∀ u, sup a u → LinkOK ka a k u) (g : ∀ u, sup b u → LinkOK kb b k u) :
    ∀ u ∈ unifyN unifySpec n a b, LinkOK ka a k u ∧ LinkOK kb b k u :=
  fun u hu => ⟨f u (hU a b ha hb u hu).1, g u (hU a b ha hb u hu).2⟩

/-- `with_rel_of self r other`: `self` keeps its link; `other`, now behind `r`, is found again
by the `r` arm further up — which is where the `>` arm has to look through sibling links -/
theorem links_with {n : Nat} (hW : SoundW n) {r k : Rel} {self other : Selector}
    (hs : Inv self) (ho : Inv other)
    (hrk : r = .ancestor ∨ ((k = .sibling ∨ k = .adjacent) ∧ (r = .parent ∨ r = .sibling))) :
    ∀ u ∈ withRelOfN unifySpec n self r other, LinkOK k self k u ∧ LinkOK r other k u := by
  intro u hu
  obtain ⟨h1, h2⟩ := hW self r other hs ho u hu
  refine ⟨link_same k h1, ?_⟩
  obtain ⟨y, hy, hy'⟩ := (isSuperC_rel.1 h2).2
  rcases hrk with rfl | ⟨hk, rfl | rfl⟩
  · exact link_anc_deep k hy hy'
  · exact link_par_deep hk hy hy'
  · exact link_sib_deep hk hy hy'

theorem links_with_symm {n : Nat} (hW : SoundW n) {r k : Rel} {self other : Selector}
    (hs : Inv self) (ho : Inv other)
    (hrk : r = .ancestor ∨ ((k = .sibling ∨ k = .adjacent) ∧ (r = .parent ∨ r = .sibling))) :
    ∀ u ∈ withRelOfN unifySpec n self r other, LinkOK r other k u ∧ LinkOK k self k u :=
  fun u hu => (links_with hW hs ho hrk u hu).symm

theorem soundR_step {n : Nat} (hI : SoundI n) (hU : SoundU n) (hW : SoundW n) :
    SoundR (n + 1) := by
  intro ka a kb b v ha hb h
  simp only [unifyRelboxN] at h
  by_cases hcond : (decide (ka = kb) && a.compound.isRootish && b.compound.isRootish) = true
  · rw [if_pos hcond] at h
    simp only [Bool.and_eq_true, decide_eq_true_eq] at hcond
    obtain ⟨⟨rfl, _⟩, _⟩ := hcond
    obtain rfl := Option.some.inj h
    exact links_asRelVec (links_unify hU ha hb (fun _ => link_same _) (fun _ => link_same _))
  · -- (`split` on the whole body is slow to check: the shortcut test is taken off by hand)
    rw [if_neg hcond] at h
    clear hcond
    cases ka with
    | ancestor =>
      cases kb with
      | ancestor =>
        simp only [] at h
        split at h
        · exact links_inner hI ha hb h
        · split at h
          · exact fun p hp => (links_inner hI hb ha h p hp).symm
          · obtain rfl := Option.some.inj h
            exact links_asRelVec (List.forall_mem_append.2
              ⟨links_with_symm hW hb ha (Or.inl rfl), links_with hW ha hb (Or.inl rfl)⟩)
      | parent =>
        simp only [] at h
        split at h
        · next hs =>
          obtain rfl := Option.some.inj h
          exact links_single ⟨link_anc_top (Or.inr rfl) hs, link_same _ (sup_refl b)⟩
        · obtain rfl := Option.some.inj h
          exact links_asRelVec (links_with_symm hW hb ha (Or.inl rfl))
      | sibling =>
        obtain rfl := Option.some.inj h
        exact links_asRelVec (links_with_symm hW hb ha (Or.inl rfl))
      | adjacent =>
        obtain rfl := Option.some.inj h
        exact links_asRelVec (links_with_symm hW hb ha (Or.inl rfl))
    | parent =>
      cases kb with
      | ancestor =>
        simp only [] at h
        split at h
        · next hs =>
          obtain rfl := Option.some.inj h
          exact links_single ⟨link_same _ (sup_refl a), link_anc_top (Or.inr rfl) hs⟩
        · obtain rfl := Option.some.inj h
          exact links_asRelVec (links_with hW ha hb (Or.inl rfl))
      | parent => exact links_inner hI ha hb h
      | sibling =>
        obtain rfl := Option.some.inj h
        exact links_asRelVec (links_with_symm hW hb ha (Or.inr ⟨Or.inl rfl, Or.inl rfl⟩))
      | adjacent =>
        obtain rfl := Option.some.inj h
        exact links_asRelVec (links_with_symm hW hb ha (Or.inr ⟨Or.inr rfl, Or.inl rfl⟩))
    | sibling =>
      cases kb with
      | ancestor =>
        obtain rfl := Option.some.inj h
        exact links_asRelVec (links_with hW ha hb (Or.inl rfl))
      | parent =>
        obtain rfl := Option.some.inj h
        exact links_asRelVec (links_with hW ha hb (Or.inr ⟨Or.inl rfl, Or.inl rfl⟩))
      | sibling =>
        simp only [] at h
        split at h
        · next hs =>
          obtain rfl := Option.some.inj h
          exact links_single ⟨link_sib_top (Or.inl rfl) hs, link_same _ (sup_refl b)⟩
        · split at h
          · next hs =>
            obtain rfl := Option.some.inj h
            exact links_single ⟨link_same _ (sup_refl a), link_sib_top (Or.inl rfl) hs⟩
          · split at h
            · obtain rfl := Option.some.inj h
              exact links_asRelVec (List.forall_mem_append.2 ⟨List.forall_mem_append.2
                ⟨links_with_symm hW hb ha (Or.inr ⟨Or.inl rfl, Or.inr rfl⟩),
                  links_with hW ha hb (Or.inr ⟨Or.inl rfl, Or.inr rfl⟩)⟩,
                links_unify hU ha hb (fun _ => link_same _) (fun _ => link_same _)⟩)
            · obtain rfl := Option.some.inj h
              exact links_asRelVec (links_unify hU ha hb (fun _ => link_same _) (fun _ => link_same _))
      | adjacent =>
        simp only [] at h
        split at h
        · next hs =>
          obtain rfl := Option.some.inj h
          exact links_single ⟨link_sib_top (Or.inr rfl) hs, link_same _ (sup_refl b)⟩
        · split at h
          · obtain rfl := Option.some.inj h
            exact links_asRelVec (links_with_symm hW hb ha (Or.inr ⟨Or.inr rfl, Or.inr rfl⟩))
          · obtain rfl := Option.some.inj h
            exact links_asRelVec (List.forall_mem_append.2
              ⟨links_with_symm hW hb ha (Or.inr ⟨Or.inr rfl, Or.inr rfl⟩),
                links_unify hU ha hb (fun _ => link_sib_top (Or.inr rfl)) (fun _ => link_same _)⟩)
    | adjacent =>
      cases kb with
      | ancestor =>
        obtain rfl := Option.some.inj h
        exact links_asRelVec (links_with hW ha hb (Or.inl rfl))
      | parent =>
        obtain rfl := Option.some.inj h
        exact links_asRelVec (links_with hW ha hb (Or.inr ⟨Or.inr rfl, Or.inl rfl⟩))
      | sibling =>
        simp only [] at h
        split at h
        · next hs =>
          obtain rfl := Option.some.inj h
          exact links_single ⟨link_same _ (sup_refl a), link_sib_top (Or.inr rfl) hs⟩
        · split at h
          · obtain rfl := Option.some.inj h
            exact links_asRelVec (links_with hW ha hb (Or.inr ⟨Or.inr rfl, Or.inr rfl⟩))
          · obtain rfl := Option.some.inj h
            exact links_asRelVec (List.forall_mem_append.2
              ⟨links_with hW ha hb (Or.inr ⟨Or.inr rfl, Or.inr rfl⟩),
                fun u hu => (links_unify hU hb ha (fun _ => link_sib_top (Or.inr rfl))
                  (fun _ => link_same _) u hu).symm⟩)
      | adjacent => exact links_inner hI ha hb h

theorem sound_all : ∀ n, SoundI n ∧ SoundU n ∧ SoundW n ∧ SoundR n
  | 0 => ⟨fun _ _ _ _ _ h => by simp [innerUnifyN] at h,
          fun _ _ _ _ u hu => by simp [unifyN] at hu,
          fun _ _ _ _ _ u hu => by simp [withRelOfN] at hu,
          fun _ _ _ _ _ _ _ h => by simp [unifyRelboxN] at h⟩
  | n + 1 =>
    have ih := sound_all n
    ⟨soundI_step ih.2.2.2, soundU_step ih.1, soundW_step ih.2.1,
      soundR_step ih.1 ih.2.1 ih.2.2.1⟩

theorem unify_sound_top (a b : Selector)
    (hl : ∀ ka sa ca kb sb cb, a = .rel ka sa ca → b = .rel kb sb cb → Inv sa ∧ Inv sb)
    (hcu : ∀ c, Compound.unify unifySpec a.compound b.compound = some c →
      CS a.compound c = true ∧ CS b.compound c = true)
    (u : Selector) (hu : u ∈ Selector.unify unifySpec a b) : sup a u ∧ sup b u := by
  unfold Selector.unify at hu
  -- two levels of the fuel are spent on `unify` and the outermost `inner_unify`
  have hf : 8 * (a.length + b.length) + 8 = (8 * (a.length + b.length) + 6) + 1 + 1 := by omega
  rw [hf] at hu
  simp only [unifyN] at hu
  cases h : innerUnifyN unifySpec (8 * (a.length + b.length) + 6 + 1) a b with
  | none => simp [h] at hu
  | some L =>
    rw [h] at hu
    exact innerUnify_sound_top (sound_all _).2.2.2 a b L hl hcu h u (by simpa using hu)

end Sel
