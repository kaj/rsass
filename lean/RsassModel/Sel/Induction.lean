/-
Induction over the selector AST (`Selector`, `Compound`, `Pseudo`, nested through `List`), with
the two list positions read as `∀ x ∈ l`.  The proofs of NestLemmas and PlaceholderLemmas about
the mutually recursive functions of the model (`noPlaceholder`, `resolveRef`) use it in place of a
mutual recursion of their own with separate statements about `List Pseudo` and `List Selector`.
-/
import RsassModel.Sel.Syntax

namespace Sel

/-- One motive each for selectors, compounds and pseudos; a compound may assume the motive of
its pseudos, a pseudo that of the selectors of its argument.  (The three recursors of the mutual
family take the same minor premises; the motive of `PArg` is that of the pseudo around it.) -/
theorem selector_induction {P : Selector → Prop} {Q : Compound → Prop} {R : Pseudo → Prop}
    (leaf : ∀ c, Q c → P (.leaf c))
    (rel : ∀ k r c, P r → Q c → P (.rel k r c))
    (mk : ∀ b e p c i a ps, (∀ x ∈ ps, R x) → Q (.mk b e p c i a ps))
    (sel : ∀ n ss e, (∀ s ∈ ss, P s) → R (.mk n (.sel ss) e))
    (other : ∀ n s e, R (.mk n (.other s) e))
    (none : ∀ n e, R (.mk n .none e)) :
    (∀ s, P s) ∧ (∀ c, Q c) ∧ (∀ p, R p) :=
  have consR : ∀ p ps, R p → (∀ x ∈ ps, R x) → ∀ x ∈ p :: ps, R x :=
    fun _ _ h hs => List.forall_mem_cons.mpr ⟨h, hs⟩
  have consP : ∀ s ss, P s → (∀ x ∈ ss, P x) → ∀ x ∈ s :: ss, P x :=
    fun _ _ h hs => List.forall_mem_cons.mpr ⟨h, hs⟩
  let A : PArg → Prop := fun a => ∀ n e, R (.mk n a e)
  let Rs : List Pseudo → Prop := fun ps => ∀ x ∈ ps, R x
  let Ps : List Selector → Prop := fun ss => ∀ s ∈ ss, P s
  ⟨Selector.rec (motive_4 := A) (motive_5 := Rs) (motive_6 := Ps) leaf rel mk (fun n _ e h => h n e)
      (fun ss h n e => sel n ss e h) (fun s n e => other n s e) none
      (fun _ h => nomatch h) consR (fun _ h => nomatch h) consP,
    Compound.rec (motive_4 := A) (motive_5 := Rs) (motive_6 := Ps) leaf rel mk (fun n _ e h => h n e)
      (fun ss h n e => sel n ss e h) (fun s n e => other n s e) none
      (fun _ h => nomatch h) consR (fun _ h => nomatch h) consP,
    Pseudo.rec (motive_4 := A) (motive_5 := Rs) (motive_6 := Ps) leaf rel mk (fun n _ e h => h n e)
      (fun ss h n e => sel n ss e h) (fun s n e => other n s e) none
      (fun _ h => nomatch h) consR (fun _ h => nomatch h) consP⟩

end Sel
