/-
C24 model, part 1 (namespace `Sel`): selector unification.

  Rust                                                     Lean
  -------------------------------------------------------  -----------------------------------
  elemtype.rs   ElemType::unify                            Sel.elemUnify
  compound.rs   combine_vital                              Sel.combineVital
  compound.rs   CompoundSelector::must_not_inherit         Sel.Compound.mustNotInherit
  compound.rs   CompoundSelector::unify                    Sel.Compound.unifyG / Sel.Compound.unify
  selector.rs   Selector::inner_unify / unify / unify_extend   Sel.innerUnifyN / Sel.unifyN / Sel.Selector.unify
  selector.rs   fn unify_relbox                            Sel.unifyRelboxN
  selector.rs   Selector::with_rel_of                      Sel.withRelOfN
  cssselectorset.rs CssSelectorSet::unify                  Sel.SelSet.unifyW / Sel.SelSet.unify

`inner_unify`, `unify_relbox` and `with_rel_of` call each other on rebuilt selectors; the
model threads a fuel (`…N`), `Selector.unify` supplies `8·(|a|+|b|)+8`, chosen so that the
mutual recursion does not exhaust it (each round of calls drops a compound; not proved: the
soundness theorems quantify over the results, whatever the fuel).
-/
import RsassModel.Sel.Super

namespace Sel

/-- Deviations of the code from property C24 (`spec` = all off). -/
structure UnifyQuirks where
  /-- compound.rs `combine_vital(v, other, q)` removes an element `a` when the *other* list
  holds a `b` with `q(b, a)`, i.e. a superselector of it: the more specific of two comparable
  pseudo selectors is dropped and the more general one kept (`:is(.a)` ∪ `:is(.a, .b)` gives
  `:is(.a, .b)`), so an input is no longer a superselector of the result.  Off = the more
  general one is dropped. -/
  vitalKeepsGeneral : Bool := false
  sup : SuperQuirks := {}
  deriving DecidableEq, Repr

def unifySpec : UnifyQuirks := {}
def unifyAsis : UnifyQuirks := { vitalKeepsGeneral := true, sup := superAsis }

/-- `Pseudo::is_superselector` with the real relation on arguments -/
def Pseudo.isSuper (q : SuperQuirks) (a b : Pseudo) : Bool := Pseudo.isSuperW (SelSet.isSuper q) a b

/-- `CompoundSelector::is_superselector` (`Selector::is_local_superselector`) -/
def Compound.isSuper (q : SuperQuirks) (a b : Compound) : Bool := Compound.isSuperW q (SelSet.isSuper q) a b

/-- `Selector::is_superselector` with the self-fuelling argument relation -/
def Selector.isSuperF (q : SuperQuirks) (a b : Selector) : Bool := Selector.isSuperW q (SelSet.isSuper q) a b

/-! ### elemtype.rs -/

def joinNs (ns : Option (List Char)) (name : List Char) : List Char :=
  match ns with
  | some ns => ns ++ '|' :: name
  | none => name

/-- elemtype.rs `ElemType::unify` -/
def elemUnify (e o : List Char) : Option (List Char) :=
  let ens := (elemSplitNs e).1
  let en := (elemSplitNs e).2
  let ons := (elemSplitNs o).1
  let on := (elemSplitNs o).2
  let ns : Option (Option (List Char)) :=
    match ens, ons with
    | none, none => some none
    | some a, b => if a = ['*'] then some b
                   else match b with
                     | some b' => if b' = ['*'] then some (some a) else if a = b' then some (some a) else none
                     | none => none
    | none, some b => if b = ['*'] then some none else none
  let name : Option (List Char) :=
    if en = ['*'] then some on else if on = ['*'] then some en else if en = on then some en else none
  match ns, name with
  | some ns, some name => some (joinNs ns name)
  | _, _ => none

/-! ### compound.rs -/

/-- compound.rs `fn combine_vital`.  `keepGeneral` = the code as it is (`q(b, a)`); off = the
argument order that drops the more general element. -/
def combineVital {α : Type} (keepGeneral : Bool) (f : α → α → Bool) (v other : List α) : List α :=
  let g : α → α → Bool := fun b a => if keepGeneral then f b a else f a b
  let v' := v.filter fun a => !other.any fun b => g b a
  let other' := other.filter fun a => !v'.any fun b => g b a
  v' ++ other'

/-- compound.rs `CompoundSelector::must_not_inherit` -/
def Compound.mustNotInherit (a b : Compound) : Bool :=
  (a.id.isSome && decide (a.id = b.id))
    || (match a.pseudoElement with
        | some p => (match b.pseudoElement with | some p' => p == p' | none => false)
        | none => false)

/-- the `for c in other.classes { if !self.classes.iter().any(..) { push } }` loops -/
def pushNew : List (List Char) → List (List Char) → List (List Char)
  | acc, [] => acc
  | acc, c :: cs => if acc.contains c then pushNew acc cs else pushNew (acc ++ [c]) cs

/-- `CompoundSelector::unify`: choice of the pseudo-element (`none` = `return None`) -/
def unifyPe (P : Pseudo → Pseudo → Bool) : Option Pseudo → Option Pseudo → Option (Option Pseudo)
  | none, none => some none
  | some p, none => some (some p)
  | none, some p => some (some p)
  | some x, some y => if P y x then some (some x) else if P x y then some (some y) else none

/-- `CompoundSelector::unify`: the element type -/
def unifyElem (EU : List Char → List Char → Option (List Char)) :
    Option (List Char) → Option (List Char) → Option (Option (List Char))
  | none, none => some none
  | none, some e => some (some e)
  | some e, none => some (some e)
  | some x, some y => (EU x y).map some

/-- `CompoundSelector::unify`: the id -/
def unifyId : Option (List Char) → Option (List Char) → Option (Option (List Char))
  | none, none => some none
  | none, some i => some (some i)
  | some i, none => some (some i)
  | some x, some y => if x = y then some (some x) else none

/-- compound.rs `CompoundSelector::unify`, over the relations used on attributes (`A`) and
pseudo selectors (`P`) and the element-type unifier (`EU`) -/
def Compound.unifyG (keepGeneral : Bool) (A : Attr → Attr → Bool) (P : Pseudo → Pseudo → Bool)
    (EU : List Char → List Char → Option (List Char)) (a b : Compound) : Option Compound :=
  match unifyPe P a.pseudoElement b.pseudoElement, unifyElem EU a.elem b.elem, unifyId a.id b.id with
  | some pe, some elem, some id =>
    let aps := a.pseudos.filter fun p => !p.isElement
    let bps := b.pseudos.filter fun p => !p.isElement
    let classes := pushNew a.classes b.classes
    let ps := combineVital keepGeneral P aps bps ++ (match pe with | some p => [p] | none => [])
    if ps.any Pseudo.isHost && (ps.any Pseudo.isHover || elem.isSome || !classes.isEmpty) then none
    else some (.mk a.backref elem (pushNew a.placeholders b.placeholders) classes id
                (combineVital keepGeneral A a.attrs b.attrs) ps)
  | _, _, _ => none

/-- compound.rs `CompoundSelector::unify` -/
def Compound.unify (q : UnifyQuirks) (a b : Compound) : Option Compound :=
  Compound.unifyG q.vitalKeepsGeneral (Attr.isSuper q.sup) (Pseudo.isSuper q.sup) elemUnify a b

/-! ### selector.rs -/

def asRelVec (k : Rel) (l : List Selector) : List (Rel × Selector) := l.map fun s => (k, s)

mutual
  /-- selector.rs `Selector::inner_unify` -/
  def innerUnifyN (q : UnifyQuirks) : Nat → Selector → Selector → Option (List Selector)
    | 0, _, _ => none
    | n + 1, a, b =>
      let rel : Option (List (Rel × Selector)) :=
        match a.relOf, b.relOf with
        | none, none => some []
        | none, some r | some r, none => some [r]
        | some ra, some rb =>
          match unifyRelboxN q n ra rb with
          | none => none
          | some v => if v.isEmpty then none else some v
      match rel with
      | none => none
      | some rel =>
        match Compound.unify q a.compound b.compound with
        | none => none
        | some c =>
          some (if rel.isEmpty then [.leaf c]
                else if c.isEmpty then []
                else rel.map fun r => .rel r.1 r.2 c)
  /-- selector.rs `Selector::unify` / `unify_extend`: `inner_unify(..).unwrap_or_default()` -/
  def unifyN (q : UnifyQuirks) : Nat → Selector → Selector → List Selector
    | 0, _, _ => []
    | n + 1, a, b => (innerUnifyN q n a b).getD []
  /-- selector.rs `Selector::with_rel_of` -/
  def withRelOfN (q : UnifyQuirks) : Nat → Selector → Rel → Selector → List Selector
    | 0, _, _, _ => []
    | n + 1, self, rel, other =>
      match self with
      | .rel _ _ _ => unifyN q n self (.rel rel other Compound.empty)
      | .leaf c => if c.isRootish then [] else [.rel rel other c]
  /-- selector.rs `fn unify_relbox` -/
  def unifyRelboxN (q : UnifyQuirks) : Nat → Rel × Selector → Rel × Selector → Option (List (Rel × Selector))
    | 0, _, _ => none
    | n + 1, (ka, a), (kb, b) =>
      if decide (ka = kb) && a.compound.isRootish && b.compound.isRootish then
        some (asRelVec ka (unifyN q n a b))
      else
        match ka, kb with
        | .adjacent, .adjacent => (innerUnifyN q n a b).map (asRelVec .adjacent)
        | .parent, .parent => (innerUnifyN q n a b).map (asRelVec .parent)
        | .ancestor, .ancestor =>
          if Compound.isSuper q.sup b.compound a.compound then
            (innerUnifyN q n a b).map (asRelVec .ancestor)
          else if Compound.isSuper q.sup a.compound b.compound || a.compound.mustNotInherit b.compound then
            (innerUnifyN q n b a).map (asRelVec .ancestor)
          else
            some (asRelVec .ancestor (withRelOfN q n b .ancestor a ++ withRelOfN q n a .ancestor b))
        | .sibling, .sibling =>
          if Selector.isSuperF q.sup a b then some [(.sibling, b)]
          else if Selector.isSuperF q.sup b a then some [(.sibling, a)]
          else if !a.compound.mustNotInherit b.compound then
            some (asRelVec .sibling
              (withRelOfN q n b .sibling a ++ withRelOfN q n a .sibling b ++ unifyN q n a b))
          else some (asRelVec .sibling (unifyN q n a b))
        | .adjacent, .sibling =>
          -- `(AdjacentSibling, a_s), (Sibling, b_s)`
          if Selector.isSuperF q.sup b a then some [(.adjacent, a)]
          else if a.compound.hasId || b.compound.hasId then
            some (asRelVec .adjacent (withRelOfN q n a .sibling b))
          else some (asRelVec .adjacent (withRelOfN q n a .sibling b ++ unifyN q n b a))
        | .sibling, .adjacent =>
          if Selector.isSuperF q.sup a b then some [(.adjacent, b)]
          else if b.compound.hasId || a.compound.hasId then
            some (asRelVec .adjacent (withRelOfN q n b .sibling a))
          else some (asRelVec .adjacent (withRelOfN q n b .sibling a ++ unifyN q n a b))
        | .adjacent, kb' => some (asRelVec .adjacent (withRelOfN q n a kb' b))
        | .sibling, kb' => some (asRelVec .sibling (withRelOfN q n a kb' b))
        | ka', .adjacent => some (asRelVec .adjacent (withRelOfN q n b ka' a))
        | ka', .sibling => some (asRelVec .sibling (withRelOfN q n b ka' a))
        | .parent, .ancestor =>
          -- `(Parent, p), (Ancestor, a)`
          if Selector.isSuperF q.sup b a then some [(.parent, a)]
          else some (asRelVec .parent (withRelOfN q n a .ancestor b))
        | .ancestor, .parent =>
          if Selector.isSuperF q.sup a b then some [(.parent, b)]
          else some (asRelVec .parent (withRelOfN q n b .ancestor a))
end

/-- selector.rs `Selector::unify(self, other)` -/
def Selector.unify (q : UnifyQuirks) (a b : Selector) : List Selector :=
  unifyN q (8 * (a.length + b.length) + 8) a b

/-- cssselectorset.rs `CssSelectorSet::unify`, over the unifier of two complex selectors -/
def SelSet.unifyW (U : Selector → Selector → List Selector) (A B : SelSet) : SelSet :=
  A.flatMap fun s => B.flatMap fun o => U s o

/-- cssselectorset.rs `CssSelectorSet::unify` = `selector.unify($selector1, $selector2)` -/
def SelSet.unify (q : UnifyQuirks) (A B : SelSet) : SelSet := SelSet.unifyW (Selector.unify q) A B

end Sel
