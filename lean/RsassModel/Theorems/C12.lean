/-
C12 — Equality is symmetric and consistent with ordering.

  "For all SassScript values a and b, `a == b` equals `b == a`, and `a != b` is its negation.
   Every value except NaN equals itself.  For two numbers that can be compared, exactly one of
   `a < b`, `a == b` and `a > b` holds."

Model: `Num/Cmp.lean` (`Number::eq`, `Number::partial_cmp`, `cmp_chan`), `Value/Eq.lean`
(`CssString`/`Numeric`/`Rgba`/`css::Value` equality, `Operator::eval` for the six comparison
operators).  `Val.spec` = all deviation flags off, `Val.asis` = the code today.
The theorems are parametric in the number carrier `ν`; the only facts about it they use are
`Num.NumCmpLaws` (IEEE facts: `|a-b| = |b-a|`, `==` symmetric and reflexive off NaN, `<`
irreflexive/asymmetric/total off NaN), proved for the exact carrier `Num.XRat`.
Refutations are computed on `XRat` (0/0 = NaN, x/0 = ±∞ exactly as in f64).
-/
import RsassModel.Value.Lemmas
import RsassModel.Num.XRatLaws
import RsassModel.Value.StructKeys
namespace C12
open Val Num Num.NumCmpOps

variable {ν : Type} [NumCmpOps ν]

/-! ## Numbers -/

/-- The laws assumed of the carrier are satisfiable: they hold for exact extended rationals. -/
theorem laws_satisfiable : NumCmpLaws XRat := XRat.laws

/-- The relative test `a == b ∨ |a-b| ≤ ε·max(|a|,|b|)` (the code since commit f2e4863) is symmetric. -/
theorem numEq_symm (L : NumCmpLaws ν) (a b : ν) : numEq cmpSpec a b = numEq cmpSpec b a :=
  numEq_spec_symm L a b

/-- `Number::partial_cmp(a,b) == Some(Equal)` is symmetric with the repaired test. -/
theorem numCmp_eq_symm (L : NumCmpLaws ν) (a b : ν) :
    (numCmp cmpSpec a b == some .eq) = (numCmp cmpSpec b a == some .eq) :=
  numCmp_spec_eq_symm L a b

def one : XRat := ⟨1, 1⟩
/-- 1 − 2⁻⁵² = 0.9999999999999998 -/
def below : XRat := ⟨2 ^ 52 - 1, 2 ^ 52⟩
def zero : XRat := ⟨0, 1⟩

/-- REFUTATION (flag `numEqAsymmetric`, the code before commit f2e4863): `|a-b| / |a| ≤ ε` holds for
`1 == 0.9999999999999998` and fails for `0.9999999999999998 == 1`. -/
theorem numEq_asis_not_symm :
    numEq cmpAsis one below = true ∧ numEq cmpAsis below one = false := by decide

/-- Before commit f2e4863 `Number::eq(0, 0)` was false — `0/0` is NaN and `NaN <= ε` is false —
and `0 == 0` was only rescued by the fallback to `f64::partial_cmp` in `Number::partial_cmp`. -/
theorem numEq_asis_zero_rescued :
    numEq cmpAsis zero zero = false ∧ numCmp cmpAsis zero zero = some .eq
      ∧ numEq cmpSpec zero zero = true := by decide

/-- PARTIAL (as-is test): symmetric whenever the two magnitudes coincide. -/
theorem numEq_symm_partial (L : NumCmpLaws ν) (a b : ν) (h : abs a = abs b) :
    numEq cmpAsis a b = numEq cmpAsis b a := by
  simp only [numEq, cmpAsis, if_true]
  rw [L.abs_sub_comm a b, h]

/-- the hypothesis of `numEq_symm_partial` is met by a non-trivial pair (1 and −1) -/
example : NumCmpOps.abs (one : XRat) = NumCmpOps.abs (⟨-1, 1⟩ : XRat) := by decide

/-! ## Values: symmetry -/

/-- `valueEq_symm`, general form: for ANY setting of the deviation flags, `==` on values is
symmetric as soon as `==` on numbers-with-units is (mutual induction over values, lists and map
entries, along the definition of `V.eq`). -/
theorem valueEq_symm_given_numbers (L : NumCmpLaws ν) (q : ValQuirks) (env : Env ν)
    (hnum : ∀ x ux y uy, numericEq q env x ux y uy = numericEq q env y uy x ux)
    (hmap : q.mapEqOneSided = false)
    (a b : V ν) : V.eq q env a b = V.eq q env b a :=
  symAt q env L hnum hmap a b

/-- `Numeric == Numeric` of the specification is symmetric (for every conversion table). -/
theorem numericEq_symm (L : NumCmpLaws ν) (env : Env ν) (x : ν) (ux : Nat) (y : ν) (uy : Nat) :
    numericEq Val.spec env x ux y uy = numericEq Val.spec env y uy x ux :=
  Val.numericEq_symm L rfl rfl env x ux y uy

/-- FULL: `a == b` equals `b == a` for all values (specification model). -/
theorem valueEq_symm (L : NumCmpLaws ν) (env : Env ν) (a b : V ν) :
    V.eq Val.spec env a b = V.eq Val.spec env b a :=
  symAt Val.spec env L (numericEq_symm L env) rfl a b

/-- PARTIAL (as-is models): only the two numeric deviations and the one-sided map comparison
break symmetry; with them off `==` is symmetric whatever the other flags (ordered map
equality, arglists never equal) are. -/
theorem valueEq_symm_partial (L : NumCmpLaws ν) (q : ValQuirks)
    (h1 : q.numEqAsymmetric = false) (h2 : q.convCmpOneWay = false) (h3 : q.mapEqOneSided = false)
    (env : Env ν) (a b : V ν) :
    V.eq q env a b = V.eq q env b a :=
  symAt q env L (Val.numericEq_symm L h1 h2 env) h3 a b

/-- the hypotheses of `valueEq_symm_partial` are met by a flag set other than `spec` -/
example : ({ mapEqOrdered := true, argListNeverEqual := true } : ValQuirks).numEqAsymmetric = false
    ∧ ({ mapEqOrdered := true, argListNeverEqual := true } : ValQuirks).convCmpOneWay = false
    ∧ ({ mapEqOrdered := true, argListNeverEqual := true } : ValQuirks).mapEqOneSided = false := ⟨rfl, rfl, rfl⟩

def env0 : Env XRat := { conv := fun _ _ => none }

/-- REFUTATION (flag `numEqAsymmetric`, the code before commit f2e4863): `1 == 0.9999999999999998`
is true, the reverse false. -/
theorem valueEq_asis_not_symm :
    V.eq asisOld env0 (.num one 0) (.num below 0) = true ∧ V.eq asisOld env0 (.num below 0) (.num one 0) = false := by
  decide +kernel

/-- … and the asymmetry propagates through containers: `(1 x) == (0.99…98 x)`. -/
theorem valueEq_asis_not_symm_list :
    V.eq asisOld env0 (.list [.num one 0, .str [120] .none] .space false)
        (.list [.num below 0, .str [120] .none] .space false) = true
    ∧ V.eq asisOld env0 (.list [.num below 0, .str [120] .none] .space false)
        (.list [.num one 0, .str [120] .none] .space false) = false := by
  decide +kernel

/-- a conversion table whose two factors are not exact reciprocals (as rounded f64 factors are
not): unit 2 → unit 1 is `1/1000`, unit 1 → unit 2 is `1001` -/
def envSkew : Env XRat :=
  { conv := fun f t => if f = 2 ∧ t = 1 then some ⟨1, 1000⟩ else if f = 1 ∧ t = 2 then some ⟨1001, 1⟩ else none }

/-- REFUTATION (flag `convCmpOneWay` alone, epsilon test already repaired): converting only the
right operand makes `==` depend on the order as soon as the factors are not exact reciprocals;
the specification (both directions) is symmetric on the same input. -/
theorem valueEq_convOneWay_not_symm :
    V.eq { convCmpOneWay := true } envSkew (.num one 1) (.num ⟨1000, 1⟩ 2) = true
    ∧ V.eq { convCmpOneWay := true } envSkew (.num ⟨1000, 1⟩ 2) (.num one 1) = false
    ∧ V.eq Val.spec envSkew (.num ⟨1000, 1⟩ 2) (.num one 1) = true := by
  decide +kernel

/-- 1 − 2⁻⁵³ and 1 + 2⁻⁵²: each is `==` to 1, they are not `==` to each other -/
def justBelow : XRat := ⟨2 ^ 53 - 1, 2 ^ 53⟩
def justAbove : XRat := ⟨2 ^ 52 + 1, 2 ^ 52⟩

/-- REFUTATION (flag `mapEqOneSided`, the code between commits 001310e and 3dd7990): "same length and every
entry of the left map has an `==` entry in the right one" is not symmetric, because `==` on
numbers is not transitive: `(0.9999999999999999: x, 1.0000000000000002: x) == (1: x, 5: x)`
is true and the reverse is false.  The specification (inclusion both ways) says false twice. -/
theorem mapEq_oneSided_not_symm :
    V.eq { mapEqOneSided := true } env0 (.map [(.num justBelow 0, .tt), (.num justAbove 0, .tt)])
        (.map [(.num one 0, .tt), (.num ⟨5, 1⟩ 0, .tt)]) = true
    ∧ V.eq { mapEqOneSided := true } env0 (.map [(.num one 0, .tt), (.num ⟨5, 1⟩ 0, .tt)])
        (.map [(.num justBelow 0, .tt), (.num justAbove 0, .tt)]) = false
    ∧ V.eq Val.spec env0 (.map [(.num justBelow 0, .tt), (.num justAbove 0, .tt)])
        (.map [(.num one 0, .tt), (.num ⟨5, 1⟩ 0, .tt)]) = false
    ∧ V.eq Val.spec env0 (.num justBelow 0) (.num justAbove 0) = false := by
  decide +kernel

/-- REFUTATION (flag `strEqSameQuotesRaw`, css/string.rs before commit 5b7f338): two strings in the
same quote style were compared by raw text only: `"a" == "\\61 "` was false although both are `==`
to the unquoted `a`; the code today (= specification) compares the unquoted text as well. -/
theorem strEq_sameQuotes_raw_old :
    V.eq asisOld env0 (.str [97] .dbl) (.str [92, 54, 49, 32] .dbl) = false
    ∧ V.eq asisOld env0 (.str [97] .dbl) (.str [97] .none) = true
    ∧ V.eq asisOld env0 (.str [97] .none) (.str [92, 54, 49, 32] .dbl) = true
    ∧ V.eq Val.spec env0 (.str [97] .dbl) (.str [92, 54, 49, 32] .dbl) = true := by
  decide +kernel

/-! ## `!=` -/

/-- `a != b` is the negation of `a == b` (`Operator::NotEqual` is `PartialEq::ne`, the default
method), for every flag setting. -/
theorem ne_is_not_eq (q : ValQuirks) (env : Env ν) (a b : V ν) :
    V.rel q env .ne a b = .bool (!V.eq q env a b) ∧ V.rel q env .eq a b = .bool (V.eq q env a b) := by
  simp [V.rel]

/-! ## Reflexivity -/

/-- FULL: every value that contains no NaN equals itself (specification model). -/
theorem eq_refl_nonNaN (L : NumCmpLaws ν) (env : Env ν) (a : V ν) (h : a.noNaN = true) :
    V.eq Val.spec env a a = true :=
  reflAt Val.spec env L a h (Or.inl rfl)

/-- PARTIAL (any flags, in particular as-is): values without NaN and without argument lists
equal themselves. -/
theorem eq_refl_partial (L : NumCmpLaws ν) (q : ValQuirks) (env : Env ν) (a : V ν)
    (h : a.noNaN = true) (h2 : a.noArgList = true) : V.eq q env a a = true :=
  reflAt q env L a h (Or.inr h2)

/-- the hypotheses are met by a structured value: `(a: (1 "x"), #010203: null)` -/
example : (V.map [(.str [97] .none, .list [.num one 0, .str [120] .dbl] .space false),
      (.color one ⟨2, 1⟩ ⟨3, 1⟩ one, .null)] : V XRat).noNaN = true
    ∧ (V.map [(.str [97] .none, .list [.num one 0, .str [120] .dbl] .space false),
      (.color one ⟨2, 1⟩ ⟨3, 1⟩ one, .null)] : V XRat).noArgList = true := by decide +kernel

/-- REFUTATION (flag `argListNeverEqual`, the code before commit 2fec817): an argument list was not
`==` to itself. -/
theorem arglist_asis_not_refl :
    V.eq { argListNeverEqual := true } env0 (.arglist [.num one 0]) (.arglist [.num one 0]) = false
    ∧ V.eq Val.spec env0 (.arglist [.num one 0]) (.arglist [.num one 0]) = true := by decide +kernel

/-- The NaN exemption is needed: NaN is not equal to itself in the specification either. -/
theorem nan_not_refl : V.eq Val.spec env0 (.num ⟨0, 0⟩ 0) (.num ⟨0, 0⟩ 0) = false := by decide +kernel

/-! ## Trichotomy -/

/-- exactly one of three booleans -/
def exactlyOne (a b c : Bool) : Bool := (a && !b && !c) || (!a && b && !c) || (!a && !b && c)

/-- the boolean a comparison operator evaluates to (false if it does not evaluate to one) -/
def holds : RelRes → Bool
  | .bool b => b
  | _ => false

/-- WEAKEST hypothesis: for two numbers the operators are defined on (`comparable`), exactly one
of `a < b`, `a == b`, `a > b` holds IF AND ONLY IF `Numeric::partial_cmp` is defined and, when it
says `Equal`, the units are the same or both present.  So neither condition of `trichotomy` can be
weakened: without the first (NaN) none holds, without the second (`1` against `1px`) none holds
(`nan_no_trichotomy`, `unitless_vs_unit_no_trichotomy`); and for incomparable units `<` is an
error (`incomparable_is_error`). -/
theorem trichotomy_iff (q : ValQuirks) (hq : q.ordCalcFlag = false) (env : Env ν) (a b : V ν)
    (x : ν) (ux : Nat) (ca : Bool) (y : ν) (uy : Nat) (cb : Bool)
    (ha : a.asNumber = some (x, ux, ca)) (hb : b.asNumber = some (y, uy, cb))
    (hcomp : comparable env ux uy = true) :
    exactlyOne (holds (V.rel q env .lt a b)) (holds (V.rel q env .eq a b)) (holds (V.rel q env .gt a b)) = true
      ↔ ∃ o, numericCmp q env x ux y uy = some o ∧ (o = .eq → (ux = uy ∨ (ux ≠ 0 ∧ uy ≠ 0))) := by
  simp only [rel_of_asNumber q env (Or.inl hq) ha hb hcomp, holds, ordHolds, numericEq]
  cases hc : numericCmp q env x ux y uy with
  | none => simp [exactlyOne]
  | some o =>
    cases o
    · simp [exactlyOne]
    · -- `Equal`: `==` holds unless exactly one of the two numbers has a unit
      by_cases hn : ux ≠ uy ∧ (ux = 0 ∨ uy = 0)
      · simp only [exactlyOne, if_pos hn]
        simp
        omega
      · simp only [exactlyOne, if_neg hn]
        simp
        omega
    · simp [exactlyOne]

/-- For two numbers that can be compared — same unit (or both unitless) or two convertible units,
`Numeric::partial_cmp` defined (no NaN) — exactly one of `a < b`, `a == b`, `a > b` holds
(specification: the order operators look at the numbers only).  `a`, `b` range over both kinds
of number values (`calculated` flag set or not).  A unitless number against a number with a unit
is excluded, as in Sass itself: `1 < 1px`, `1 == 1px`, `1 > 1px` are all false. -/
theorem trichotomy (q : ValQuirks) (hq : q.ordCalcFlag = false) (env : Env ν) (a b : V ν)
    (x : ν) (ux : Nat) (ca : Bool) (y : ν) (uy : Nat) (cb : Bool)
    (ha : a.asNumber = some (x, ux, ca)) (hb : b.asNumber = some (y, uy, cb))
    (hk : ux = uy ∨ (ux ≠ 0 ∧ uy ≠ 0)) (hcomp : comparable env ux uy = true) (o : Ordering)
    (h : numericCmp q env x ux y uy = some o) :
    exactlyOne (holds (V.rel q env .lt a b)) (holds (V.rel q env .eq a b)) (holds (V.rel q env .gt a b)) = true :=
  (trichotomy_iff q hq env a b x ux ca y uy cb ha hb hcomp).mpr ⟨o, h, fun _ => hk⟩

/-- PARTIAL (flag `ordCalcFlag`, the code before commit 1bf3c5b): trichotomy holds when both numbers carry the same
`calculated` flag (two literals/variables/arithmetic results, or two `calc()` results). -/
theorem trichotomy_partial (q : ValQuirks) (env : Env ν) (a b : V ν)
    (x : ν) (ux : Nat) (c : Bool) (y : ν) (uy : Nat)
    (ha : a.asNumber = some (x, ux, c)) (hb : b.asNumber = some (y, uy, c))
    (hk : ux = uy ∨ (ux ≠ 0 ∧ uy ≠ 0)) (hcomp : comparable env ux uy = true) (o : Ordering)
    (h : numericCmp q env x ux y uy = some o) :
    exactlyOne (holds (V.rel q env .lt a b)) (holds (V.rel q env .eq a b)) (holds (V.rel q env .gt a b)) = true := by
  have hn : ¬ (ux ≠ uy ∧ (ux = 0 ∨ uy = 0)) := by omega
  simp only [rel_of_asNumber q env (Or.inr rfl) ha hb hcomp, holds, ordHolds, numericEq, if_neg hn, h]
  cases o <;> decide

/-- without a defined comparison (NaN) none of `<`, `==`, `>` holds -/
theorem nan_no_trichotomy :
    V.rel Val.spec env0 .lt (.num ⟨0, 0⟩ 0) (.num one 0) = .bool false
    ∧ V.rel Val.spec env0 .eq (.num ⟨0, 0⟩ 0) (.num one 0) = .bool false
    ∧ V.rel Val.spec env0 .gt (.num ⟨0, 0⟩ 0) (.num one 0) = .bool false := by
  decide +kernel

/-- the unit hypotheses are met: same unit is comparable for every table -/
example (env : Env XRat) : comparable env 1 1 = true ∧ ((1 : Nat) = 1 ∨ ((1 : Nat) ≠ 0 ∧ (1 : Nat) ≠ 0)) := by
  simp [comparable]

/-- unitless against a unit: the comparison is defined, yet none of `<`, `==`, `>` holds when
the values are equal (Sass semantics, and why the hypothesis `hk` is there) -/
theorem unitless_vs_unit_no_trichotomy :
    V.rel Val.spec env0 .lt (.num one 0) (.num one 1) = .bool false
    ∧ V.rel Val.spec env0 .eq (.num one 0) (.num one 1) = .bool false
    ∧ V.rel Val.spec env0 .gt (.num one 0) (.num one 1) = .bool false
    ∧ V.rel Val.spec env0 .le (.num one 0) (.num one 1) = .bool true := by
  decide +kernel

/-- order operators on numbers with incompatible units are an error (specification = code today) -/
theorem incomparable_is_error :
    V.rel Val.spec env0 .lt (.num one 1) (.num one 12) = .error
    ∧ V.rel Val.spec env0 .eq (.num one 1) (.num one 12) = .bool false := by
  decide +kernel

/-- the hypothesis of `trichotomy_partial` is met by two ordinary numbers -/
example : (V.num one 0).asNumber = some (one, 0, true) ∧ (V.num (⟨2, 1⟩ : XRat) 0).asNumber = some (⟨2, 1⟩, 0, true) :=
  ⟨rfl, rfl⟩

/-- REFUTATION (flag `ordCalcFlag`, the code before commit 1bf3c5b): `calc(1px) < 1px` and `calc(1px) == 1px` are
both true (and `1px > calc(1px)`): the derived ordering of `Value::Numeric(n, calculated)` falls
back to the flag when the numbers are equal.  The specification gives `==` only. -/
theorem calc_flag_breaks_trichotomy :
    V.rel { ordCalcFlag := true } env0 .lt (.numAtomic one 1) (.num one 1) = .bool true
    ∧ V.rel { ordCalcFlag := true } env0 .eq (.numAtomic one 1) (.num one 1) = .bool true
    ∧ V.rel { ordCalcFlag := true } env0 .gt (.num one 1) (.numAtomic one 1) = .bool true
    ∧ V.rel Val.spec env0 .lt (.numAtomic one 1) (.num one 1) = .bool false
    ∧ V.rel Val.spec env0 .eq (.numAtomic one 1) (.num one 1) = .bool true := by
  decide +kernel

/-- … and conversely: when the comparison is undefined none of the three holds. -/
theorem no_order_when_undefined (q : ValQuirks) (env : Env ν) (x : ν) (ux : Nat) (y : ν) (uy : Nat)
    (h : numericCmp q env x ux y uy = none) :
    holds (V.rel q env .lt (.num x ux) (.num y uy)) = false
    ∧ holds (V.rel q env .eq (.num x ux) (.num y uy)) = false
    ∧ holds (V.rel q env .gt (.num x ux) (.num y uy)) = false := by
  have hpc : (if q.ordCalcFlag then flagThen (numericCmp q env x ux y uy) true true
      else numericCmp q env x ux y uy) = none := by
    rw [h]
    split <;> rfl
  refine ⟨?_, ?_, ?_⟩
  · simp only [V.rel, V.asNumber, hpc]
    split <;> rfl
  · simp only [V.rel, V.eq_num_num, numericEq, h]
    split <;> rfl
  · simp only [V.rel, V.asNumber, hpc]
    split <;> rfl

/-- Two non-NaN numbers with the same unit (or both unitless) can be compared — any flags. -/
theorem comparable_same_unit (L : NumCmpLaws ν) (q : ValQuirks) (env : Env ν) (x y : ν) (u : Nat)
    (hx : isNaN x = false) (hy : isNaN y = false) : numericCmp q env x u y u ≠ none := by
  simp only [numericCmp, if_true, numCmp]
  split
  · simp
  · exact ieeeCmp_some L x y hx hy

/-- Two numbers with different convertible units can be compared once the conversion is
two-way (specification model), provided the left value and the converted right value are not NaN. -/
theorem comparable_convertible (L : NumCmpLaws ν) (q : ValQuirks) (hq : q.convCmpOneWay = false)
    (env : Env ν) (x y f g : ν) (ux uy : Nat)
    (hu : ux ≠ uy) (hx0 : ux ≠ 0) (hy0 : uy ≠ 0)
    (hf : env.conv uy ux = some f) (hg : env.conv ux uy = some g)
    (hx : isNaN x = false) (hy : isNaN (mul y f) = false) :
    numericCmp q env x ux y uy ≠ none := by
  have h0 : ¬ (ux = 0 ∨ uy = 0) := fun e => e.elim hx0 hy0
  simp only [numericCmp, hu, h0, if_false, hq, Bool.false_eq_true, hf, hg, twoWayCmp]
  split
  · simp
  · exact ieeeCmp_some L x (mul y f) hx hy

/-- the hypotheses of `trichotomy` / `comparable_same_unit` are met: `1 < 2` -/
example : numericCmp asis env0 one 0 ⟨2, 1⟩ 0 = some .lt := by decide +kernel

/-! ## the structured-key fragment: no hypothesis on numbers at all -/

/-- On values built from null, booleans, functions, all strings and lists of these (any depth),
`==` is symmetric for EVERY flag setting with the unquote-based string comparison — in particular
for the old asymmetric number test — and with no assumption on the number carrier. -/
theorem valueEq_symm_structured (q : ValQuirks) (hq : q.strEqSameQuotesRaw = false) (env : Env ν)
    (a b : V ν) (ha : a.goodKey = true) (hb : b.goodKey = true) :
    V.eq q env a b = V.eq q env b a :=
  (kequiv_good q hq env).symm ⟨a, ha⟩ ⟨b, hb⟩

/-- On the same values `==` is reflexive, under the same flag settings. -/
theorem valueEq_refl_structured (q : ValQuirks) (hq : q.strEqSameQuotesRaw = false) (env : Env ν)
    (a : V ν) (ha : a.goodKey = true) : V.eq q env a a = true :=
  (kequiv_good q hq env).refl ⟨a, ha⟩

/-- On the same values `==` is transitive, which it is not on numbers and colours. -/
theorem valueEq_trans_structured (q : ValQuirks) (hq : q.strEqSameQuotesRaw = false) (env : Env ν)
    (a b c : V ν) (ha : a.goodKey = true) (hb : b.goodKey = true) (hc : c.goodKey = true)
    (h1 : V.eq q env a b = true) (h2 : V.eq q env b c = true) : V.eq q env a c = true :=
  (kequiv_good q hq env).trans ⟨a, ha⟩ ⟨b, hb⟩ ⟨c, hc⟩ h1 h2

end C12
