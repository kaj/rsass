/-
C03 — Each module is executed once per compilation.

Model: `Load.loadModule` (`CssData::load_module`), `Load.runUse` / `Load.runForward`
(`Item::Use` / `Item::Forward` of output/transform.rs), `Load.bindModule` (`Scope::do_use`),
inside the generic load-graph semantics of RsassModel/Load/Graph.lean.

"Executed exactly once" is proved as three facts that hold for every finder (every file system
and spelling scheme): (1) a cached name is never executed again — the cache answers, the body
runner is not called; (2) what is cached stays cached under the same module id for the rest of
the compilation (this needs `importFreshCache` off: as is, `@import` swaps in an empty cache);
(3) while a module's body is running its name is locked, so re-entering it is a loop error
(C02.cycle_is_loop_error) — there is no second execution before the first one is cached either.
With file identity as the name (`loadKeyTextual`/`normalizeKeepsEmpty` off) "per name" is
"per file".  The single global statement — "`execLog` has no duplicates" over a whole run — is
`execLog_nodup` below (invariant `LogInv` carried through the whole interpreter).
-/
import RsassModel.Load.LemmasGraph
namespace C03
open Load

/-- (1) a cached module is not executed again: whatever the body runner is, `load_module`
answers from the cache and leaves the state untouched -/
theorem cache_hit_no_execution (F : Finder) (enter : Str → St → Res) (name : Str) (s : St) (id : Nat)
    (h : s.modules.lookup name = some id) :
    loadModule F enter name s = (.ok s, id) := by
  simp [loadModule, h]

/-- a cache miss runs the body exactly once (one entry in the execution log) and caches the
new module under the name -/
theorem cache_miss_executes_and_caches (F : Finder) (enter : Str → St → Res) (name : Str) (s s' : St)
    (h : s.modules.lookup name = none)
    (hrun : enter name { s with execLog := name :: s.execLog, fwdSeen := false } = .ok s') :
    ∃ s'', loadModule F enter name s = (.ok s'', s'.modTags.length) ∧
      s''.modules.lookup name = some s'.modTags.length ∧ s''.execLog = s'.execLog := by
  simp [loadModule, h, hrun, List.lookup]

/-- (2) **the cache only grows**: whatever a body does, a module that is cached stays cached
under the same id -/
theorem cache_persists (q : LoadQuirks) (hq : q.importFreshCache = false) (F : Finder) (fuel : Nat)
    (name : Str) (s s' : St) (h : execBody q F fuel name s = .ok s') (k : Str) (id : Nat)
    (hk : s.modules.lookup k = some id) : s'.modules.lookup k = some id :=
  execBody_cacheMono q hq F fuel name s s' h k id hk

/-- **module executed once**: once `k` is cached, no later point of the compilation executes
it again — after any further body, `load_module k` still answers from the cache with the same
module and does not call the body runner -/
theorem module_executed_once (q : LoadQuirks) (hq : q.importFreshCache = false) (F : Finder)
    (fuel : Nat) (name : Str) (s s' : St) (h : execBody q F fuel name s = .ok s') (k : Str) (id : Nat)
    (hk : s.modules.lookup k = some id) (enter : Str → St → Res) :
    loadModule F enter k s' = (.ok s', id) :=
  cache_hit_no_execution F enter k s' id (cache_persists q hq F fuel name s s' h k id hk)

/-- **users share the module**: a `load_module` that completes leaves the module cached under the
id it returned, so (by `cache_persists` and `cache_hit_no_execution`) every later user of the
name receives the same module id — hence, with `bindModule` the identity (flag
`forwardingModuleCopied` off), reads and writes the same counter.  (`hmono` is not used.) -/
theorem users_share_module (F : Finder) (enter : Str → St → Res) (hmono : CacheMono enter)
    (name : Str) (s s' : St) (id : Nat) (h : loadModule F enter name s = (.ok s', id)) :
    s'.modules.lookup name = some id :=
  (loadModule_cacheLe hmono h).2

/-- in the specification the namespace is bound to the module itself, never to a copy -/
theorem bind_is_identity (q : LoadQuirks) (hq : q.forwardingModuleCopied = false) (id : Nat) (s : St) :
    bindModule q id s = (s, id) := by
  simp [bindModule, hq]

/-- (3) a fact about `lock` alone: the state it returns has the name in `loading`.  That state is
what `Item::Use`/`Item::Forward` hand to `load_module`, so a nested load of the name is
`C02.cycle_is_loop_error`, not a second execution. -/
theorem module_locked_while_running (name : Str) (s s1 : St) (h : lock name s = some s1) :
    name ∈ s1.loading := by
  rw [(lock_eq_some.mp h).2]
  exact List.mem_cons_self ..

/-- **module executed at most once per compilation** (the global statement): with the module
cache kept across `@import` (`importFreshCache` off — the specification), in every compilation
that completes, for every finder, the list of names whose body was run as a module has no
duplicates.  (Invariant `LogInv`: every run name is cached or still locked; proved through the
whole interpreter in `Load/LemmasGraph.lean`, `execBody_logOK`.)  With file identity as the name
this is once per file. -/
theorem execLog_nodup (q : LoadQuirks) (hq : q.importFreshCache = false) (F : Finder) (fuel : Nat)
    (root : Str) (s : St) (h : compile q F fuel root = .ok s) : s.execLog.Nodup := by
  obtain ⟨s', hs, rfl⟩ := compile_ok.mp h
  exact (execBody_logOK q hq F fuel root _ s' hs ⟨List.nodup_nil, fun _ hn => nomatch hn⟩).1

/-- every name in the execution log of a completed compilation is in the module cache at the
end: each module that was started was also finished -/
theorem execLog_all_cached (q : LoadQuirks) (hq : q.importFreshCache = false) (F : Finder) (fuel : Nat)
    (root : Str) (s : St) (h : compile q F fuel root = .ok s) :
    ∀ n ∈ s.execLog, ∃ id, s.modules.lookup n = some id := by
  obtain ⟨s', hs, rfl⟩ := compile_ok.mp h
  intro n hn
  exact ((execBody_logOK q hq F fuel root _ s' hs ⟨List.nodup_nil, fun _ hn => nomatch hn⟩).2 n hn).resolve_left
    List.not_mem_nil

theorem run_execLog_nodup (q : LoadQuirks) (hq : q.importFreshCache = false) (W : World) (fuel : Nat)
    (root : Str) (s : St) (h : run q W fuel root = .ok s) : s.execLog.Nodup :=
  execLog_nodup q hq (fsFinder q W) fuel root s h

def root : Str := [105, 110, 46, 115, 99, 115, 115]  -- "in.scss"

/-- `in.scss`: `@forward "b"; @import "a"`; `a.scss`: `@forward "b"`; `b.scss`: marker -/
def wImport : World :=
  ⟨[(root, ⟨0, [.mark, .load .forward [98] false, .load .import [97] false]⟩),
    ([97, 46, 115, 99, 115, 115], ⟨1, [.mark, .load .forward [98] false]⟩),
    ([98, 46, 115, 99, 115, 115], ⟨2, [.mark]⟩)], [[]], fun _ => none⟩

/-- refutation (`importFreshCache`, open): module `b` forwarded by the root and again inside an
imported file: once in the specification, twice in the code -/
theorem importFreshCache_refuted :
    (run LoadQuirks.spec wImport wImport.fuel root).markers = [.file 0, .file 2, .file 1] ∧
    (run LoadQuirks.now wImport wImport.fuel root).markers = [.file 0, .file 2, .file 1, .file 2] := by
  decide +kernel

/-- `_partial` for `importFreshCache`: a statement that is not an `@import` behaves the same with
and without the deviation -/
theorem importFreshCache_partial (q : LoadQuirks) (F : Finder) (enter : Str → St → Res) (self : Str)
    (j : Nat) (b : Binds) (s : St) (it : Item) (h : ∀ url uq, it ≠ .load .import url uq)
    (h2 : ∀ url, it ≠ .loadWith .import url) :
    execItem { q with importFreshCache := true } F enter self j b s it
      = execItem { q with importFreshCache := false } F enter self j b s it := by
  cases it with
  | mark => rfl
  | bump k t => rfl
  | load k url uq =>
    cases k with
    | «import» => exact absurd rfl (h url uq)
    | use => rfl
    | forward => rfl
    | loadCss => rfl
  | loadWith k url =>
    cases k with
    | «import» => exact absurd rfl (h2 url)
    | use => rfl
    | forward => rfl
    | loadCss => rfl

example : (∀ url uq, Item.load .use [97] false ≠ .load .import url uq) ∧
    (∀ url, Item.load .use [97] false ≠ .loadWith .import url) :=
  ⟨(by intro _ _ h; cases h), (by intro _ h; cases h)⟩

/-- `in.scss`: `@use "a" as m1; read+bump; @use "a" as m3; read+bump`; `a.scss`: `@forward "b"` -/
def wFwd : World :=
  ⟨[(root, ⟨0, [.mark, .load .use [97] false, .bump 1 1, .load .use [97] false, .bump 3 1]⟩),
    ([97, 46, 115, 99, 115, 115], ⟨1, [.mark, .load .forward [98] false]⟩),
    ([98, 46, 115, 99, 115, 115], ⟨2, [.mark]⟩)], [[]], fun _ => none⟩

/-- refutation (`forwardingModuleCopied`, open): two users of a module that contains `@forward`
read its counter as 0 and 0 in the code, 0 and 1 in the specification -/
theorem forwardingModuleCopied_refuted :
    (run LoadQuirks.spec wFwd wFwd.fuel root).markers
      = [.file 0, .file 1, .file 2, .read 0 2 0, .read 0 4 1] ∧
    (run LoadQuirks.now wFwd wFwd.fuel root).markers
      = [.file 0, .file 1, .file 2, .read 0 2 0, .read 0 4 0] := by
  decide +kernel

/-- `_partial` for `forwardingModuleCopied`: a module that forwards nothing is bound itself -/
theorem forwardingModuleCopied_partial (q : LoadQuirks) (id : Nat) (s : St)
    (h : s.modFwd.getD id false = false) : bindModule q id s = (s, id) := by
  unfold bindModule
  rw [h]; simp

/-- `in.scss`: `@use "m/lib"; @use "m//lib"`; `m/lib.scss`: marker -/
def wEmpty : World :=
  ⟨[(root, ⟨0, [.mark, .load .use [109, 47, 108, 105, 98] false, .load .use [109, 47, 47, 108, 105, 98] false]⟩),
    ([109, 47, 108, 105, 98, 46, 115, 99, 115, 115], ⟨1, [.mark]⟩)], [[]], fun _ => none⟩

/-- refutation (`normalizeKeepsEmpty`; 51f269b incomplete, completed by 3fe5f5c): `m/lib` and `m//lib` -/
theorem normalizeKeepsEmpty_refuted :
    (run LoadQuirks.spec wEmpty wEmpty.fuel root).markers = [.file 0, .file 1] ∧
    (run LoadQuirks.mid wEmpty wEmpty.fuel root).markers = [.file 0, .file 1, .file 1] ∧
    (run LoadQuirks.now wEmpty wEmpty.fuel root).markers = [.file 0, .file 1] := by
  decide +kernel

/-- `in.scss`: `@use "m/lib"; @use "./m/lib"`; `m/lib.scss`: marker -/
def wDot : World :=
  ⟨[(root, ⟨0, [.mark, .load .use [109, 47, 108, 105, 98] false, .load .use [46, 47, 109, 47, 108, 105, 98] false]⟩),
    ([109, 47, 108, 105, 98, 46, 115, 99, 115, 115], ⟨1, [.mark]⟩)], [[]], fun _ => none⟩

/-- refutation (`loadKeyTextual`, pinned code; repaired by 51f269b): `m/lib` and `./m/lib` -/
theorem loadKeyTextual_refuted :
    (run LoadQuirks.spec wDot wDot.fuel root).markers = [.file 0, .file 1] ∧
    (run LoadQuirks.now wDot wDot.fuel root).markers = [.file 0, .file 1] ∧
    (run LoadQuirks.asis wDot wDot.fuel root).markers = [.file 0, .file 1, .file 1] := by
  decide +kernel

/-- `in.scss`: `@use "sub"; @use "sub/a"`; `sub/_index.scss`: marker; `sub/a.scss`: `@use "."` -/
def wDir : World :=
  ⟨[(root, ⟨0, [.mark, .load .use [115, 117, 98] false, .load .use [115, 117, 98, 47, 97] false]⟩),
    ([115, 117, 98, 47, 95, 105, 110, 100, 101, 120, 46, 115, 99, 115, 115], ⟨1, [.mark]⟩),
    ([115, 117, 98, 47, 97, 46, 115, 99, 115, 115], ⟨2, [.mark, .load .use [46] false]⟩)], [[]], fun _ => none⟩

/-- refutation (`dirUrlKeepsSlash`, open): the index module of a directory reached as `sub` and,
from a file inside it, as `.`: once in the specification; the code names the second one
`sub//_index.scss` and runs it again -/
theorem dirUrlKeepsSlash_refuted :
    (run LoadQuirks.spec wDir wDir.fuel root).markers = [.file 0, .file 1, .file 2] ∧
    (run LoadQuirks.now wDir wDir.fuel root).markers = [.file 0, .file 1, .file 2, .file 1] := by
  decide +kernel

/-- `_partial` for `dirUrlKeepsSlash`: a joined url that does not end in `/` is left alone -/
theorem dirUrlKeepsSlash_partial (q : LoadQuirks) (self url : Str)
    (h : (normalize (!q.normalizeKeepsEmpty) (dirOf self ++ url)).getLast? ≠ some slash) :
    relUrl { q with dirUrlKeepsSlash := true } self url = relUrl { q with dirUrlKeepsSlash := false } self url := by
  simp [relUrl, h]

example : (normalize true (dirOf [115, 117, 98, 47, 97, 46, 115, 99, 115, 115] ++ [46, 46, 47, 109])).getLast?
    ≠ some slash := by decide

/-- configured loads (commit 23c2f01): `@use … with (…)` of a module that is already cached is an
error — never a second execution — and of a module that is not cached runs it once like a plain
`@use` -/
theorem configured_use_of_loaded_is_error (q : LoadQuirks) (hq : q.reconfigureIgnored = false) (F : Finder)
    (enter : Str → St → Res) (self : Str) (j : Nat) (b : Binds) (s s1 : St) (url name : Str)
    (calls : List Call) (id : Nat) (hf : F.find self .use url s.calls = .found name calls)
    (hl : lock name { s with calls := calls } = some s1) (hc : s1.modules.lookup name = some id) :
    (execItem q F enter self j b s (.loadWith .use url)).1 = .err .config s1 := by
  simp [execItem, hf, hl, hq, hc]

theorem configured_use_of_new_is_plain_use (q : LoadQuirks) (F : Finder)
    (enter : Str → St → Res) (self : Str) (j : Nat) (b : Binds) (s s1 : St) (url name : Str)
    (calls : List Call) (hf : F.find self .use url s.calls = .found name calls)
    (hl : lock name { s with calls := calls } = some s1) (hc : s1.modules.lookup name = none) :
    execItem q F enter self j b s (.loadWith .use url) = execItem q F enter self j b s (.load .use url false) := by
  simp [execItem, hf, hl, hc]

end C03
