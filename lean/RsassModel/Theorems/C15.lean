/-
C15 — Operators follow Sass precedence and associativity.

Model: `Expr/Prec.lean` (token lists, the minimal-parenthesis printer `printMin`, the Sass grammar
`parseSass` by precedence climbing, the layered nom-style parser `parseRsass q` of
`parser/value.rs`, the evaluator `eval q`); lemmas in `Expr/Lemmas.lean`.  `Expr.spec` = all five
deviation flags off; `Expr.asis` = all five on, the code as it was when the property was first
checked.  Since then 5057098 has repaired the two parser flags, 316b848 `remZeroSign` and 364945a
`undefDeferred`; `undefKept` is open (notes/C15.md).
-/
import RsassModel.Expr.Lemmas
namespace C15
open Expr

/-- every minimal print is a well-formed token list -/
theorem wf_printMin : ∀ e : Ex, WF e (printMin e) (prec e)
  | .num n => WF.num n
  | .bool true => WF.tt
  | .bool false => WF.ff
  | .neg e => by
    have ih := wf_printMin e
    have h6 := prec_le e
    show WF (.neg e) (Tok.neg :: wrap (decide (prec e < 6)) (printMin e)) 6
    by_cases h : prec e < 6
    · exact WF.neg (by simpa [h, wrap] using WF.paren ih)
    · have h' : prec e = 6 := by omega
      rw [h'] at ih
      exact WF.neg (by simpa [h, wrap] using ih)
  | .not e => by
    have ih := wf_printMin e
    have h6 := prec_le e
    show WF (.not e) (Tok.knot :: wrap (decide (prec e < 6)) (printMin e)) 6
    by_cases h : prec e < 6
    · exact WF.not (by simpa [h, wrap] using WF.paren ih)
    · have h' : prec e = 6 := by omega
      rw [h'] at ih
      exact WF.not (by simpa [h, wrap] using ih)
  | .bin o a b => by
    have iha := wf_printMin a
    have ihb := wf_printMin b
    have ho := lvl_le5 o
    simp only [printMin, prec, List.append_assoc, List.singleton_append]
    have hA : ∃ pa, lvl o ≤ pa ∧ WF a (wrap (decide (prec a < lvl o)) (printMin a)) pa := by
      by_cases h : prec a < lvl o
      · exact ⟨6, by omega, by simpa [h, wrap] using WF.paren iha⟩
      · exact ⟨prec a, by omega, by simpa [h, wrap] using iha⟩
    have hB : ∃ pb, lvl o + 1 ≤ pb ∧ WF b (wrap (decide (prec b < lvl o + 1)) (printMin b)) pb := by
      by_cases h : prec b < lvl o + 1
      · exact ⟨6, by omega, by simpa [h, wrap] using WF.paren ihb⟩
      · exact ⟨prec b, by omega, by simpa [h, wrap] using ihb⟩
    obtain ⟨pa, hpa, wa⟩ := hA
    obtain ⟨pb, hpb, wb⟩ := hB
    exact WF.bin wa wb hpa hpb

/-- FULL STATEMENT (Sass grammar): every expression tree, printed with minimal
parentheses, is read back as exactly that tree by the six-level precedence-climbing
parser — `* %` bind tighter than `+ -`, then relational, equality, `and`, `or`, every
level left-associative.  For all trees: a minimal print is a well-formed token list (invariants
`Expr.ST`). -/
theorem parseSass_printMin (e : Ex) : parseSass (printMin e) = some e :=
  parseSass_of_st (st_of_wf (wf_printMin e))

/-- consequently the value of the printed text under the Sass grammar is the value of the tree -/
theorem evalSass_printMin (q : Quirks) (e : Ex) : evalParse q (parseSass (printMin e)) = eval q e := by
  simp [parseSass_printMin, evalParse]

/-- GENERAL FORM for the layered (rsass-style) parser under any quirk setting: a tree all of
whose operators sit on their Sass level under that setting (`Expr.Clean`) is read back. -/
theorem parseRsass_printMin_of_clean (q : Quirks) (e : Ex) (h : Clean q e) :
    parseRsass q (printMin e) = some e :=
  parseRsass_of_lt (lt_of_wf q (wf_printMin e) h) (prec_le e)

/-- FULL STATEMENT for the repaired layering (both parser flags off): ALL trees. -/
theorem parseRsass_spec_printMin (e : Ex) : parseRsass spec (printMin e) = some e :=
  parseRsass_printMin_of_clean spec e (clean_spec e)

/-- with the quirks off the layered nom-style parser and the Sass precedence-climbing parser
agree on the minimal print of every tree.
NOT PROVED (kept visible): `∀ ts, parseRsass spec ts = parseSass ts` for arbitrary token
lists (ill-formed ones and redundant parentheses included); what is missing is the
loop-interleaving lemma `sClimb p a r = foldLoop 5 … ∘ … ∘ foldLoop p` for arbitrary rests. -/
theorem parseRsass_eq_parseSass (e : Ex) :
    parseRsass spec (printMin e) = parseSass (printMin e) := by
  rw [parseRsass_spec_printMin, parseSass_printMin]

/-- the operators a tree uses -/
def opsOf : Ex → List BOp
  | .bin o a b => o :: (opsOf a ++ opsOf b)
  | .neg e => opsOf e
  | .not e => opsOf e
  | _ => []

theorem clean_of_ops (q : Quirks) :
    ∀ e : Ex, (∀ o ∈ opsOf e, rsLvl q o = lvl o ∧ rhsLayer q (lvl o) = lvl o + 1) → Clean q e
  | .num _, _ => trivial
  | .bool _, _ => trivial
  | .neg e, h => clean_of_ops q e h
  | .not e, h => clean_of_ops q e h
  | .bin o a b, h =>
    ⟨(h o List.mem_cons_self).1, (h o List.mem_cons_self).2,
      clean_of_ops q a fun o' ho => h o' (List.mem_cons_of_mem _ (List.mem_append_left _ ho)),
      clean_of_ops q b fun o' ho => h o' (List.mem_cons_of_mem _ (List.mem_append_right _ ho))⟩

/-- PARTIAL (`asis`, all flags on: the layering before 5057098): trees that use none of `and`, `or`, `==`, `!=`
— the arithmetic and relational sub-language — are read back exactly. -/
theorem parseRsass_asis_printMin_partial (e : Ex)
    (h : ∀ o ∈ opsOf e, o ≠ .and ∧ o ≠ .or ∧ o ≠ .eq ∧ o ≠ .ne) :
    parseRsass asis (printMin e) = some e :=
  parseRsass_printMin_of_clean asis e <| clean_of_ops asis e fun o ho =>
    clean_op asis o (fun _ => ⟨(h o ho).1, (h o ho).2.1⟩) (fun _ => (h o ho).2.2)

/-- PARTIAL (only `relEqSameLevel` on): trees without `==`/`!=`. -/
theorem parseRsass_relEq_printMin_partial (e : Ex)
    (h : ∀ o ∈ opsOf e, o ≠ .eq ∧ o ≠ .ne) :
    parseRsass { spec with relEqSameLevel := true } (printMin e) = some e :=
  parseRsass_printMin_of_clean _ e <| clean_of_ops _ e fun o ho => clean_op _ o nofun fun _ => h o ho

/-- PARTIAL (only `andOrSameLevel` on): trees without `and`/`or`. -/
theorem parseRsass_andOr_printMin_partial (e : Ex)
    (h : ∀ o ∈ opsOf e, o ≠ .and ∧ o ≠ .or) :
    parseRsass { spec with andOrSameLevel := true } (printMin e) = some e :=
  parseRsass_printMin_of_clean _ e <| clean_of_ops _ e fun o ho => clean_op _ o (fun _ => h o ho) nofun

/-- the hypotheses are satisfiable by non-trivial trees: `2 + 3 * 7 < 7 - 2 % 3` -/
def ex1 : Ex :=
  .bin .lt (.bin .add (.num 2) (.bin .mul (.num 3) (.num 7)))
    (.bin .sub (.num 7) (.bin .mod (.num 2) (.num 3)))
example : ∀ o ∈ opsOf ex1, o ≠ .and ∧ o ≠ .or ∧ o ≠ .eq ∧ o ≠ .ne := by decide
example : parseRsass asis (printMin ex1) = some ex1 := by decide

/-- `false and false or true` -/
def w1 : List Tok := [.ff, .bop .and, .ff, .bop .or, .tt]
/-- `true == 1 < 2` -/
def w2 : List Tok := [.tt, .bop .eq, .num 1, .bop .lt, .num 2]

/-- REFUTATION (andOrSameLevel): the code parses `false and false or true` as
`false and (false or true)` and evaluates it to `false`; Sass says `true`. -/
theorem asis_and_or_refuted :
    evalParse asis (parseRsass asis w1) = .ok (.bool false) ∧
    evalParse spec (parseSass w1) = .ok (.bool true) := by decide

/-- REFUTATION (relEqSameLevel): the code parses `true == 1 < 2` as `(true == 1) < 2`,
i.e. `false < 2`, an undefined operation (kept as an opaque value by the evaluator as it is
and reported as an error when the declaration is written; an error at once with the
evaluator repaired); Sass says `true == (1 < 2)` = `true`. -/
theorem asis_rel_eq_refuted :
    evalParse asis (parseRsass asis w2) = .ok .opq ∧
    evalParse spec (parseRsass { spec with relEqSameLevel := true } w2) = .err ∧
    evalParse spec (parseSass w2) = .ok (.bool true) := by decide

/-- the two parsers disagree on the TREE already (not only on the value) -/
theorem asis_and_or_tree :
    parseRsass asis w1 = some (.bin .and (.bool false) (.bin .or (.bool false) (.bool true))) ∧
    parseSass w1 = some (.bin .or (.bin .and (.bool false) (.bool false)) (.bool true)) := by decide

theorem asis_rel_eq_tree :
    parseRsass asis w2 = some (.bin .lt (.bin .eq (.bool true) (.num 1)) (.num 2)) ∧
    parseSass w2 = some (.bin .eq (.bool true) (.bin .lt (.num 1) (.num 2))) := by decide

/-- `and`/`or` chains are also grouped to the right by the code (harmless for the value,
visible in the tree): `true and true and false` -/
theorem asis_and_right_assoc :
    parseRsass asis [.tt, .bop .and, .tt, .bop .and, .ff]
      = some (.bin .and (.bool true) (.bin .and (.bool true) (.bool false))) := by decide

/-! ### the evaluator flags -/

/-- `%` of the specification is the floored modulo -/
theorem modOp_spec (a b : Int) : modOp spec a b = Int.fmod a b := rfl

/-- REFUTATION (remZeroSign): `(3 - 7) % 2` is `2` for the code, `0` in Sass -/
theorem asis_rem_refuted :
    eval asis (.bin .mod (.bin .sub (.num 3) (.num 7)) (.num 2)) = .ok (.num 2) ∧
    eval spec (.bin .mod (.bin .sub (.num 3) (.num 7)) (.num 2)) = .ok (.num 0) := by decide

/-- PARTIAL (remZeroSign): for a non-negative dividend and a positive divisor the code's
remainder is the Sass one. -/
theorem modOp_asis_partial (a b : Int) (ha : 0 ≤ a) (hb : 0 < b) :
    modOp asis a b = modOp spec a b := by
  have h1 : ¬ (b < 0) := by omega
  have h2 : ¬ (a < 0) := by omega
  simp [modOp, asis, spec, h1, h2, Int.fmod_eq_emod_of_nonneg a (Int.le_of_lt hb),
    Int.tmod_eq_emod_of_nonneg ha]
example : (0 : Int) ≤ 7 ∧ (0 : Int) < 3 := by decide

/-- REFUTATION (undefKept): `((true + 1) < 2) == 2` is `false` for the code, an error in Sass -/
theorem asis_kept_refuted :
    eval { spec with undefKept := true }
      (.bin .eq (.bin .lt (.bin .add (.bool true) (.num 1)) (.num 2)) (.num 2)) = .ok (.bool false) ∧
    eval spec (.bin .eq (.bin .lt (.bin .add (.bool true) (.num 1)) (.num 2)) (.num 2)) = .err := by
  decide

/-- REFUTATION (undefDeferred, code before 364945a): `(true < 2) == 2` was `false`, an error in Sass -/
theorem asis_deferred_refuted :
    eval asis (.bin .eq (.bin .lt (.bool true) (.num 2)) (.num 2)) = .ok (.bool false) ∧
    eval spec (.bin .eq (.bin .lt (.bool true) (.num 2)) (.num 2)) = .err := by decide

/-- PARTIAL (undefDeferred, undefKept): on two numbers every strict operator is independent of the flag
(`and`/`or` are not strict and never reach `applyOp`) -/
theorem applyOp_deferred_partial (q : Quirks) (o : BOp) (a b : Int) (ho : o ≠ .or ∧ o ≠ .and) :
    applyOp { q with undefDeferred := true, undefKept := true } o (.ok (.num a)) (.ok (.num b)) =
    applyOp { q with undefDeferred := false, undefKept := false } o (.ok (.num a)) (.ok (.num b)) := by
  cases o <;> first | rfl | exact absurd rfl ho.1 | exact absurd rfl ho.2


/-! ### both parsers agree on all well-formed token lists -/

/-- Both parsers read back EVERY well-formed token list — operands may carry any number of
redundant parentheses (`Expr.WF`: atoms, unary operators on operands of level 6, anything
in parentheses is an operand of level 6, `a op b` with the left operand of level ≥ `lvl op`
and the right one of level > `lvl op`). -/
theorem parse_wf {e : Ex} {ts : List Tok} {p : Nat} (h : WF e ts p) :
    parseRsass spec ts = some e ∧ parseSass ts = some e :=
  ⟨parseRsass_of_lt (lt_of_wf spec h (clean_spec e)) h.le6, parseSass_of_st (st_of_wf h)⟩

/-- AGREEMENT of the layered nom-style parser (parser flags off = the code since 5057098) and
the Sass precedence-climbing parser on every well-formed token list, not only minimal prints.
NOT PROVED (kept visible): `∀ ts, parseRsass spec ts = parseSass ts` for ill-formed lists
(both are expected to return `none`); missing: (1) fuel sufficiency of the two fixed fuels on
arbitrary input (a consumed-length argument), (2) the interleaving lemma `sClimb p a r =
foldLoop 5 ∘ … ∘ foldLoop p` including the backtracking case where a right operand fails and
the loop of a looser level retries the same operator. -/
theorem parseRsass_eq_parseSass_wf {e : Ex} {ts : List Tok} {p : Nat} (h : WF e ts p) :
    parseRsass spec ts = parseSass ts := by
  rw [(parse_wf h).1, (parse_wf h).2]

/-- a well-formed list with redundant parentheses: `((2)) + (3 * 7)` -/
example : WF (.bin .add (.num 2) (.bin .mul (.num 3) (.num 7)))
    ([.lp, .lp, .num 2, .rp, .rp] ++ Tok.bop .add :: [.lp, .num 3, .bop .mul, .num 7, .rp]) 4 :=
  WF.bin (pa := 6) (pb := 6) (WF.paren (WF.paren (WF.num 2)))
    (WF.paren (WF.bin (pa := 6) (pb := 6) (WF.num 3) (WF.num 7) (by decide) (by decide)))
    (by decide) (by decide)

end C15
