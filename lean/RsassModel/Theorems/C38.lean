/-
C38 — Library entry points agree with each other.
Property theorems about the model in `RsassModel/Glue/Entry.lean` (`lib.rs` as
compositions; `CssBuf` / `Rule::write` / `Property::write` / `into_buffer` byte by byte).
They hold for every `World` (parser, evaluator, formatter and file system are parameters).
That `lib.rs` *is* the composition assumed here is the T3 source guard of `props/C38.py`.
-/
import RsassModel.Glue.EntryLemmas
namespace C38
open GlueE

variable {Val : Type}

/-- a small concrete world used for non-vacuity examples and refutations: values are their
own text, the empty text is null, every value is valid CSS; one file `d/a` exists -/
def toyWorld : World Text where
  file := fun p => if p = ['d', '/', 'a'] then some ['q'] else none
  lookup := fun _ _ => none
  parse := fun d => some (d.map fun c => if c = '@' then Item.load ['u'] else Item.css c.toNat)
  render := fun _ k => some [Char.ofNat k]
  evalValue := fun _ t => some t
  fmtValue := fun _ v => v
  isNull := fun v => v.isEmpty
  validCss := fun _ => true

/-! ### compile_scss / compile_scss_path -/

/-- `compile_scss(input, format)` is `FsContext::for_cwd().with_format(format).transform(..)`:
the loader has the single base directory `""`. -/
theorem compile_scss_def (w : World Val) (fuel : Nat) (input : Text) (fmt : Format) :
    compileScss w fuel input fmt = transform w fuel [[]] fmt input := rfl

/-- `compile_scss_path(p, format)` transforms the file's contents with its parent directory as
the only base directory; a file that cannot be opened is an error. -/
theorem compile_scss_path_def (w : World Val) (fuel : Nat) (p : Text) (fmt : Format) :
    compileScssPath w fuel p fmt =
      match w.file p with
      | none => none
      | some data => transform w fuel [parentDir p] fmt data := by
  unfold compileScssPath forPath
  cases w.file p <;> rfl

/-- `compile_scss_path(p)` equals `compile_scss(contents of p)` when the file loads nothing
(whatever the fuel). -/
theorem compile_scss_path_eq_contents (w : World Val) (f1 f2 : Nat) (p data : Text) (fmt : Format)
    (hfile : w.file p = some data)
    (hno : ∀ items, w.parse data = some items → noLoads items = true) :
    compileScssPath w f1 p fmt = compileScss w f2 data fmt := by
  simp only [compile_scss_path_def, hfile, compile_scss_def, transform]
  cases hp : w.parse data with
  | none => rfl
  | some items => simp only [run_noLoads w [parentDir p] [[]] fmt f1 f2 items (hno items hp)]

example : toyWorld.file ['d', '/', 'a'] = some ['q'] ∧
    (∀ items, toyWorld.parse ['q'] = some items → noLoads items = true) := by
  refine ⟨rfl, ?_⟩
  intro items h
  have : items = [Item.css 113] := by
    simp [toyWorld] at h; exact h.symm
  subst this; rfl

/-- More generally: the two agree whenever everything the file loads resolves alike from the
file's directory and from the current directory ("loads nothing relative"). -/
theorem compile_scss_path_eq_contents_of_same_resolution (w : World Val) (fuel : Nat)
    (p data : Text) (fmt : Format) (hfile : w.file p = some data)
    (hsame : ∀ url, w.lookup [parentDir p] url = w.lookup [[]] url) :
    compileScssPath w fuel p fmt = compileScss w fuel data fmt := by
  simp only [compile_scss_path_def, hfile, compile_scss_def, transform]
  cases w.parse data with
  | none => rfl
  | some items => simp only [run_congr_lookup w [parentDir p] [[]] fmt hsame fuel items]

/-- The hypothesis is needed: a file that loads a url found only next to it compiles through
`compile_scss_path` but not through `compile_scss` of its contents. -/
theorem compile_scss_path_differs_with_relative_load :
    ∃ (w : World Text) (p data : Text) (fmt : Format), w.file p = some data ∧
      compileScssPath w 1 p fmt ≠ compileScss w 1 data fmt := by
  refine ⟨{ toyWorld with
      file := fun _ => some ['@']
      lookup := fun paths _ => if paths = [['d']] then some ['z'] else none },
    ['d', '/', 'a'], ['@'], ⟨false, 5⟩, rfl, ?_⟩
  simp [compileScssPath, forPath, compileScss, transform, run, toyWorld, parentDir, forCwd]

/-! ### compile_value against a declaration -/

/-- the text of a declaration never contains a newline -/
theorem declaration_text_no_newline (c : Bool) (v t : Text)
    (h : extractDecl c (declDoc c (some v)) = some t) : '\n' ∉ t := by
  rw [extract_declDoc] at h
  cases h
  exact replNl_no_nl v

/-- a null value: the declaration is dropped and the document is empty -/
theorem declaration_dropped_for_null (w : World Val) (input : Text) (fmt : Format) (x : Val)
    (he : w.evalValue fmt input = some x) (hn : w.isNull x = true) :
    compileDecl w input fmt = some [] := by
  simp [compileDecl, he, hn, declDoc_none]

/-- a value that is not valid CSS is an error in a declaration (compile_value does not check) -/
theorem declaration_invalid_is_error (w : World Val) (input : Text) (fmt : Format) (x : Val)
    (he : w.evalValue fmt input = some x) (hn : w.isNull x = false) (hv : w.validCss x = false) :
    compileDecl w input fmt = none := by
  simp [compileDecl, he, hn, hv]

/-- **Full statement (spec model).**  For every value that evaluates, is not null and is valid
CSS, the text of the declaration `x { y: v }` is exactly what `compile_value(v)` returns —
in both styles, at every precision. -/
theorem compile_value_eq_declaration (w : World Val) (input : Text) (fmt : Format) (x : Val)
    (he : w.evalValue fmt input = some x) (hn : w.isNull x = false) (hv : w.validCss x = true) :
    (compileDecl w input fmt).bind (extractDecl fmt.compressed)
      = compileValue entrySpec w input fmt := by
  simp [compileDecl, compileValue, he, hn, hv, entrySpec, extract_declDoc]

example : toyWorld.evalValue ⟨false, 10⟩ ['a', ' ', 'b'] = some ['a', ' ', 'b'] ∧
    toyWorld.isNull ['a', ' ', 'b'] = false ∧ toyWorld.validCss ['a', ' ', 'b'] = true := by decide

/-- the two models of `compile_value` differ only on texts with a newline -/
theorem compile_value_asis_eq_spec_iff (w : World Val) (input : Text) (fmt : Format) (x : Val)
    (he : w.evalValue fmt input = some x) :
    compileValue entryAsIs w input fmt = compileValue entrySpec w input fmt
      ↔ '\n' ∉ w.fmtValue fmt x := by
  simp only [compileValue, he, entryAsIs, entrySpec]
  constructor
  · intro h
    simp at h
    rw [h]
    exact replNl_no_nl _
  · intro h
    simp [replNl_id _ h]

/-- **As-is model** (`compile_value` keeps newlines): the statement holds for every valid value
whose formatted text has no newline. -/
theorem compile_value_eq_declaration_partial (w : World Val) (input : Text) (fmt : Format) (x : Val)
    (he : w.evalValue fmt input = some x) (hn : w.isNull x = false) (hv : w.validCss x = true)
    (hnl : '\n' ∉ w.fmtValue fmt x) :
    (compileDecl w input fmt).bind (extractDecl fmt.compressed)
      = compileValue entryAsIs w input fmt := by
  rw [(compile_value_asis_eq_spec_iff w input fmt x he).2 hnl]
  exact compile_value_eq_declaration w input fmt x he hn hv

example : '\n' ∉ toyWorld.fmtValue ⟨false, 10⟩ ['a', ' ', 'b'] := by decide

/-- **Refutation for the as-is model**: the text `a⏎b` (what `unquote("a\a b")` formats to) is
printed as `a b` in a declaration but returned as `a⏎b` by `compile_value`. -/
theorem compile_value_newline_refuted :
    (compileDecl toyWorld ['a', '\n', 'b'] ⟨false, 10⟩).bind (extractDecl false)
      ≠ compileValue entryAsIs toyWorld ['a', '\n', 'b'] ⟨false, 10⟩ := by
  decide +kernel

/-- errors of the evaluator surface in both entry points -/
theorem eval_error_in_both (q : EntryQuirks) (w : World Val) (input : Text) (fmt : Format)
    (he : w.evalValue fmt input = none) :
    compileValue q w input fmt = none ∧ compileDecl w input fmt = none := by
  simp [compileValue, compileDecl, he]

end C38
