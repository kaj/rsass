/-
C26 — String functions follow the Unicode code-point model.
Theorems about `Str.*` (model of `sass/functions/string.rs` on code-point lists).
-/
import RsassModel.Str.StrFn
namespace C26
open Str

/-- `length` counts code points: every code point counts exactly once, whatever its
encoded width; concatenation adds. -/
theorem length_codepoints (a b : List Char) (c : Char) (q : Bool) :
    strLength ⟨a ++ b, q⟩ = strLength ⟨a, q⟩ + strLength ⟨b, q⟩ ∧
    strLength ⟨[c], q⟩ = 1 ∧ strLength ⟨[], q⟩ = 0 := by
  simp [strLength]

/-- … and not UTF-8 bytes: the byte length is at least the code-point length (every code point
takes at least one byte). -/
theorem length_le_utf8 (s : SStr) : strLength s ≤ (s.val.map Char.utf8Size).sum := by
  obtain ⟨l, q⟩ := s
  simp only [strLength]
  induction l with
  | nil => simp
  | cons c l ih =>
    have : 1 ≤ c.utf8Size := Char.utf8Size_pos c
    simp only [List.map_cons, List.sum_cons, List.length_cons]
    omega

/-- first 1-based position selected by `start-at` -/
def startPos (len : Nat) (i : Int) : Int :=
  if i > 0 then i else if i < 0 then max 1 (len + i + 1) else 1

/-- last 1-based position selected by `end-at` (negative counts from the end; may be < 1) -/
def endPos (len : Nat) (j : Int) : Int :=
  if j ≥ 0 then min j len else len + j + 1

theorem sliceStart_eq (len : Nat) (i : Int) :
    (sliceStart len i : Int) = min (startPos len i - 1) len := by
  unfold sliceStart startPos
  split <;> split <;> omega

theorem sliceEnd_min (len : Nat) (j : Int) :
    ((min (sliceEnd len j) len : Nat) : Int) = max 0 (endPos len j) := by
  unfold sliceEnd endPos
  split <;> split <;> omega

/-- FULL STATEMENT: `slice(s, i, j)` is the substring from position `i` through `j`
(1-based, negative from the end, clamped to the string): its length is the size of that
range — zero when the range is empty — and its `k`-th code point is the one at position
`startPos + k` of `s`; never an error. -/
theorem slice_spec (s : SStr) (i j : Int) :
    ∃ r, strSlice fnSpec s i j = some ⟨r, s.quoted⟩ ∧
      (r.length : Int) = max 0 (min (endPos s.val.length j) s.val.length
                                 - min (startPos s.val.length i - 1) s.val.length) ∧
      ∀ k, k < r.length → r[k]? = s.val[(startPos s.val.length i - 1).toNat + k]? := by
  have h1 := sliceStart_eq s.val.length i
  refine ⟨(s.val.drop (sliceStart s.val.length i)).take
      (sliceEnd s.val.length j - sliceStart s.val.length i), rfl, ?_, ?_⟩
  · have h2 := sliceEnd_min s.val.length j
    have h3 : endPos s.val.length j ≤ s.val.length := by
      unfold endPos
      split <;> omega
    -- both sides in terms of the offsets: `min (b - a) (len - a) = min b len - a`
    rw [← h1, Int.min_eq_left h3, List.length_take, List.length_drop, Nat.sub_min_sub_right]
    omega
  · intro k hk
    rw [List.length_take, List.length_drop, Nat.sub_min_sub_right] at hk
    rw [List.getElem?_take_of_lt (by omega), List.getElem?_drop]
    congr 2
    omega

/-- empty when the range is empty -/
theorem slice_empty (s : SStr) (i j : Int)
    (h : endPos s.val.length j < startPos s.val.length i) :
    strSlice fnSpec s i j = some ⟨[], s.quoted⟩ := by
  obtain ⟨r, hr, hl, _⟩ := slice_spec s i j
  have h1 : r.length = 0 := by
    have : (r.length : Int) ≤ 0 := by rw [hl]; omega
    omega
  rw [hr, List.eq_nil_of_length_eq_zero h1]

example : endPos 3 1 < startPos 3 3 := by decide

/-- REFUTATION (sliceBadIndexes, code before 195e58f): `string.slice("abc", 3, 1)` was the
error "Bad indexes"; Sass gives the empty string. -/
theorem slice_asis_refuted :
    strSlice fnAsIs ⟨['a', 'b', 'c'], true⟩ 3 1 = none ∧
    strSlice fnSpec ⟨['a', 'b', 'c'], true⟩ 3 1 = some ⟨[], true⟩ := by decide

/-- PARTIAL (`fnAsIs`, the code before 195e58f): whenever the start offset does not exceed the
end offset it agrees with the specification. -/
theorem slice_asis_partial (s : SStr) (i j : Int)
    (h : sliceStart s.val.length i ≤ sliceEnd s.val.length j) :
    strSlice fnAsIs s i j = strSlice fnSpec s i j := by
  have : ¬ sliceEnd s.val.length j < sliceStart s.val.length i := by omega
  simp [strSlice, fnAsIs, fnSpec, this]

example : sliceStart 3 2 ≤ sliceEnd 3 (-1) := by decide

/-- 0-based offset before which `insert` puts the new text: before position `i` for a
positive index, after position `i` (counted from the end) for a negative one, clamped -/
def insertPos (len : Nat) (i : Int) : Int :=
  if i > 0 then min (i - 1) len else if i < 0 then max 0 (len + i + 1) else 0

theorem insertOffset_eq (len : Nat) (i : Int) :
    (min (insertOffset len i) len : Int) = insertPos len i := by
  unfold insertOffset insertPos
  split <;> split <;> omega

/-- FULL STATEMENT: `insert(s, x, i)` is `s` with `x` put at the clamped position: the
first `k` code points of `s`, then `x`, then the rest, `0 ≤ k ≤ len`. -/
theorem insert_spec (s : SStr) (x : List Char) (i : Int) :
    ∃ k : Nat, (k : Int) = insertPos s.val.length i ∧ k ≤ s.val.length ∧
      strInsert s x i = ⟨s.val.take k ++ x ++ s.val.drop k, s.quoted⟩ := by
  have h := insertOffset_eq s.val.length i
  refine ⟨min (insertOffset s.val.length i) s.val.length, by omega, Nat.min_le_right _ _, ?_⟩
  simp only [strInsert]
  by_cases hk : insertOffset s.val.length i ≤ s.val.length
  · rw [Nat.min_eq_left hk]
  · have hk' : s.val.length ≤ insertOffset s.val.length i := by omega
    rw [Nat.min_eq_right hk', List.take_of_length_le hk', List.drop_eq_nil_of_le hk',
      List.take_of_length_le (Nat.le_refl _), List.drop_eq_nil_of_le (Nat.le_refl _)]

theorem insert_length (s : SStr) (x : List Char) (i : Int) :
    (strInsert s x i).val.length = s.val.length + x.length := by
  obtain ⟨k, _, hk, h⟩ := insert_spec s x i
  rw [h]; simp; omega

theorem isPrefix_iff (p l : List Char) : isPrefix p l = true ↔ ∃ t, l = p ++ t := by
  induction p generalizing l with
  | nil => simp [isPrefix]
  | cons a p ih =>
    cases l with
    | nil => simp [isPrefix]
    | cons b l =>
      simp only [isPrefix, Bool.and_eq_true, beq_iff_eq, ih, List.cons_append, List.cons.injEq]
      constructor
      · rintro ⟨rfl, t, rfl⟩; exact ⟨t, rfl, rfl⟩
      · rintro ⟨t, rfl, rfl⟩; exact ⟨rfl, t, rfl⟩

theorem findFrom_some (sub : List Char) : ∀ (l : List Char) (k p : Nat),
    findFrom sub l k = some p →
      ∃ d, p = k + d ∧ d ≤ l.length ∧ isPrefix sub (l.drop d) = true ∧
        ∀ d', d' < d → isPrefix sub (l.drop d') = false
  | [], k, p, h => by
    simp only [findFrom] at h
    split at h
    · next hp => exact ⟨0, by simp_all, by simp, by simpa using hp, by simp⟩
    · simp at h
  | c :: l, k, p, h => by
    simp only [findFrom] at h
    split at h
    · next hp => exact ⟨0, by simp_all, by simp, by simpa using hp, by simp⟩
    · next hp =>
      obtain ⟨d, hd, hle, h1, h2⟩ := findFrom_some sub l (k + 1) p h
      refine ⟨d + 1, by omega, by simp; omega, by simpa using h1, ?_⟩
      intro d' hd'
      cases d' with
      | zero => simpa using hp
      | succ d' => simpa using h2 d' (by omega)

theorem findFrom_none (sub : List Char) : ∀ (l : List Char) (k : Nat),
    findFrom sub l k = none → ∀ d, d ≤ l.length → isPrefix sub (l.drop d) = false
  | [], k, h, d, hd => by
    simp only [findFrom] at h
    split at h
    · simp at h
    · next hp =>
      have : d = 0 := by simpa using hd
      subst this; simpa using hp
  | c :: l, k, h, d, hd => by
    simp only [findFrom] at h
    split at h
    · simp at h
    · next hp =>
      cases d with
      | zero => simpa using hp
      | succ d => simpa using findFrom_none sub l (k + 1) h d (by simpa using hd)

/-- FULL STATEMENT: `index(s, sub)` is the 1-based position of the FIRST occurrence of
`sub` in `s` — `s` continues with `sub` there and at no earlier position — or null when
`sub` occurs nowhere. -/
theorem index_first_occurrence (s sub : SStr) :
    (∀ p, strIndex s sub = some p →
        1 ≤ p ∧ p ≤ s.val.length + 1 ∧ (∃ t, s.val.drop (p - 1) = sub.val ++ t) ∧
        ∀ p', 1 ≤ p' → p' < p → ¬ ∃ t, s.val.drop (p' - 1) = sub.val ++ t) ∧
    (strIndex s sub = none → ∀ d, d ≤ s.val.length → ¬ ∃ t, s.val.drop d = sub.val ++ t) := by
  constructor
  · intro p hp
    simp only [strIndex, Option.map_eq_some_iff] at hp
    obtain ⟨p0, h0, rfl⟩ := hp
    obtain ⟨d, hd, hle, h1, h2⟩ := findFrom_some sub.val s.val 0 p0 h0
    simp only [Nat.zero_add] at hd; subst hd
    refine ⟨by omega, by omega, ?_, ?_⟩
    · simpa [isPrefix_iff] using h1
    · intro p' h1' h2' hex
      have := h2 (p' - 1) (by omega)
      rw [← isPrefix_iff] at hex
      simp [hex] at this
  · intro hn d hd hex
    simp only [strIndex, Option.map_eq_none_iff] at hn
    have := findFrom_none sub.val s.val 0 hn d hd
    rw [← isPrefix_iff] at hex
    simp [hex] at this

theorem toNat_ofNat_valid (n : Nat) (h : n.isValidChar) : (Char.ofNat n).toNat = n := by
  simp [Char.ofNat, h, Char.toNat, Char.ofNatAux]

theorem ge_of_char_le {a c : Char} (h : a ≤ c) : a.toNat ≤ c.toNat := by
  rw [Char.le_def, UInt32.le_iff_toNat_le] at h
  exact h

theorem upperAscii_cases (c : Char) :
    upperAscii c = c ∨ (97 ≤ c.toNat ∧ c.toNat ≤ 122 ∧ (upperAscii c).toNat = c.toNat - 32) := by
  unfold upperAscii
  split
  · next h =>
    right
    have h1 : 97 ≤ c.toNat := ge_of_char_le h.1
    have h2 : c.toNat ≤ 122 := ge_of_char_le h.2
    refine ⟨h1, h2, ?_⟩
    exact toNat_ofNat_valid _ (by left; omega)
  · left; rfl

theorem lowerAscii_cases (c : Char) :
    lowerAscii c = c ∨ (65 ≤ c.toNat ∧ c.toNat ≤ 90 ∧ (lowerAscii c).toNat = c.toNat + 32) := by
  unfold lowerAscii
  split
  · next h =>
    right
    have h1 : 65 ≤ c.toNat := ge_of_char_le h.1
    have h2 : c.toNat ≤ 90 := ge_of_char_le h.2
    refine ⟨h1, h2, ?_⟩
    exact toNat_ofNat_valid _ (by left; omega)
  · left; rfl

/-- FULL STATEMENT: the case functions map code point by code point, change only the ASCII
letters a–z (resp. A–Z; by exactly 32: `upperAscii_cases`, `lowerAscii_cases`) and leave every
non-ASCII code point alone. -/
theorem case_ascii_only (s : SStr) :
    (toUpper s).val.length = s.val.length ∧ (toLower s).val.length = s.val.length ∧
    (∀ k : Nat, (toUpper s).val[k]? = (s.val[k]?).map upperAscii) ∧
    (∀ k : Nat, (toLower s).val[k]? = (s.val[k]?).map lowerAscii) ∧
    (∀ c : Char, 128 ≤ c.toNat → upperAscii c = c ∧ lowerAscii c = c) := by
  refine ⟨by simp [toUpper], by simp [toLower], by simp [toUpper], by simp [toLower], ?_⟩
  intro c hc
  constructor
  · rcases upperAscii_cases c with h | ⟨_, h, _⟩
    · exact h
    · omega
  · rcases lowerAscii_cases c with h | ⟨_, h, _⟩
    · exact h
    · omega

/-- every function that returns a string keeps the quotedness of its string argument -/
theorem quotes_preserved (q : FnQuirks) (s r : SStr) (x : List Char) (i j : Int) :
    (strInsert s x i).quoted = s.quoted ∧ (toUpper s).quoted = s.quoted ∧
    (toLower s).quoted = s.quoted ∧ (strSlice q s i j = some r → r.quoted = s.quoted) := by
  refine ⟨rfl, rfl, rfl, ?_⟩
  intro h
  simp only [strSlice] at h
  split at h
  · simp at h
  · simp only [Option.some.injEq] at h; rw [← h]

end C26
