/-
C36 — Comments are preserved as Sass specifies.

Models: `Dest/Expand.lean` (`Item::Comment` of transform.rs: which comments are evaluated
and kept per style; `//` comments are consumed by the lexer and never become items),
`Dest/Css.lean` (`push_comment` of every destination), `Dest/Emit.lean`.
The flags `compressedDropsBang` / `commentInterpExpandedOnly` describe the code BEFORE the
repair dcd9ee6; they stay in the model with their refutations, `Quirks.asis` has them on.
-/
import RsassModel.Dest.Lemmas
import RsassModel.Theorems.C20
namespace C36
open Dest
variable {σ : Type}

/-- (FULL, any flags) in expanded style every loud comment
that evaluation reaches is kept. -/
theorem expanded_keeps_every_comment (q : Quirks) (bang : Bool) : commentKept q false bang = true := by
  simp [commentKept]

/-- (SPEC) in compressed style a comment is kept iff it is a
`/*!` comment. -/
theorem compressed_keeps_only_bang (bang : Bool) : commentKept Quirks.spec true bang = bang := by
  cases bang <;> rfl

/-- (SPEC) interpolation in a comment is evaluated in every style, kept or not -/
theorem comment_always_evaluated_spec (compressed bang : Bool) :
    commentEvaluated Quirks.spec compressed bang = true := by
  cases compressed <;> cases bang <;> rfl

/-- REFUTATION (code before dcd9ee6): compressed style dropped ALL comments, `/*!` included … -/
theorem compressed_drops_bang_asis_refutation : commentKept Quirks.asis true true = false := by rfl

/-- … and did not even evaluate them, so an error in `#{…}` depended on the style. -/
theorem comment_not_evaluated_compressed_asis_refutation (bang : Bool) :
    commentEvaluated Quirks.asis true bang = false := by cases bang <;> rfl

/-- `_partial` (code before dcd9ee6): in expanded style it agreed with the specification. -/
theorem comment_expanded_partial (bang : Bool) :
    commentKept Quirks.asis false bang = commentKept Quirks.spec false bang ∧
    commentEvaluated Quirks.asis false bang = commentEvaluated Quirks.spec false bang := by
  cases bang <;> exact ⟨rfl, rfl⟩

/-- the evaluator step for a comment, specification: evaluated in every style (an error in
the interpolation is the error of the run), emitted iff expanded or `/*!`, with the evaluated
parts concatenated. -/
theorem comment_step_spec (cfg : Cfg σ) (hq : cfg.q = Quirks.spec) (n : Nat) (rec : ExpandFn σ)
    (ct : Content σ) (bang : Bool) (parts : List (CPart σ)) (env : Env σ) :
    step cfg n rec ct (.comment bang parts) env =
      match evalParts env n parts with
      | .error e => .error e
      | .ok ts => if !cfg.compressed || bang then .ok ([.comment (cfg.concat ts)], env) else .ok ([], env) := by
  have he : commentEvaluated Quirks.spec cfg.compressed bang = true := comment_always_evaluated_spec _ _
  have hk : commentKept Quirks.spec cfg.compressed bang = (!cfg.compressed || bang) := by
    cases cfg.compressed <;> cases bang <;> rfl
  simp only [step, hq, he, hk, if_true]
  cases evalParts env n parts <;> rfl

/-- witness for the evaluation deviation: `/* #{$undefined} */`, compressed style -/
def badComment : Stmt Nat := .comment false [.text 1, .interp .undef]
def cfgOf (q : Quirks) (compressed : Bool) : Cfg Nat :=
  { q := q, compressed := compressed, isCss := fun _ => false, concat := List.sum }
def okOf {α} (r : Except Err α) : Bool := match r with | .ok _ => true | .error _ => false

theorem bad_interpolation_spec_fails (compressed : Bool) :
    okOf (step (cfgOf Quirks.spec compressed) 5 (expand (cfgOf Quirks.spec compressed) 5) .none badComment {}) = false := by
  cases compressed <;> rfl

theorem bad_interpolation_asis_refutation :
    okOf (step (cfgOf Quirks.asis true) 5 (expand (cfgOf Quirks.asis true) 5) .none badComment {}) = true ∧
    okOf (step (cfgOf Quirks.asis false) 5 (expand (cfgOf Quirks.asis false) 5) .none badComment {}) = false :=
  ⟨rfl, rfl⟩

/-- (FULL, any flags, any style) a `//` comment produces no output
statement at all (the lexer drops it; `Core` has no constructor for it). -/
theorem silent_never_emitted (cfg : Cfg σ) (n : Nat) (rec : ExpandFn σ) (ct : Content σ) (env : Env σ) :
    step cfg n rec ct .silent env = .ok ([], env) := by
  simp [step]

/-- inside a function body neither kind of comment has any effect -/
theorem comments_ignored_in_functions (env : Env σ) (n : Nat) (bang : Bool) (parts : List (CPart σ))
    (rest : List (Stmt σ)) :
    evalFn env (n + 1) (.comment bang parts :: rest) = evalFn env n rest ∧
    evalFn env (n + 1) (.silent :: rest) = evalFn env n rest := by
  constructor <;> simp [evalFn]

/-- statements that a style rule keeps in its own body -/
def leaf : BodyItem σ → Core σ
  | .prop n v => .decl n v
  | .comment t => .comment t
  | .arule n a => .arule n a

/-- (FULL, any flags) declarations, comments and body-less
at-rules written in a style rule reach the rule's body in exactly the written order. -/
theorem comments_in_order_in_rule (q : Quirks) (ops : Ops σ) (c : SelCtx σ) (hc : C20.Plain q c)
    (l : List (BodyItem σ)) (s : σ) (cur : List (BodyItem σ)) (rest : List (Frame σ))
    (root : List (Item σ)) (lost : Nat) :
    emitBody q ops c (l.map leaf) { stack := .rule s cur :: rest, root := root, lost := lost }
      = .ok { stack := .rule s (cur ++ l) :: rest, root := root, lost := lost } := by
  unfold C20.Plain at hc
  induction l generalizing cur with
  | nil => simp [emitBody]
  | cons b l ih =>
    have h := ih (cur ++ [b])
    rw [List.append_assoc] at h
    cases b with
    | prop n v =>
      simp only [List.map_cons, leaf, emitBody, emitItem, hc, pushProperty, pushPropertyAux, liftInv,
        Bool.false_eq_true, if_false]
      exact h
    | comment t =>
      simp only [List.map_cons, leaf, emitBody, emitItem, pushComment, pushCommentAux]
      exact h
    | arule n a =>
      simp only [List.map_cons, leaf, emitBody, emitItem, pushARule, liftInv]
      exact h

/-- (FULL, any flags) comments at the top level reach the output
in the written order, after everything emitted before. -/
theorem comments_in_order_at_top (q : Quirks) (ops : Ops σ) (c : SelCtx σ) (ts : List σ)
    (root : List (Item σ)) (lost : Nat) :
    emitBody q ops c (ts.map .comment) { stack := [], root := root, lost := lost }
      = .ok { stack := [], root := root ++ ts.map .comment, lost := lost } := by
  induction ts generalizing root with
  | nil => simp [emitBody]
  | cons t ts ih =>
    have := ih (root ++ [.comment t])
    simp_all [emitBody, emitItem, pushComment, pushCommentAux]

def isComment : Entry σ → Bool
  | ⟨_, _, .comment _⟩ => true
  | _ => false

/-- (specification without media merging, ARBITRARY programs) the
comments of the output, in document order and with their selector/at-rule context, are exactly
the comments of the evaluation log in source order (`C20.bubble_preserves_order`). -/
theorem expanded_comments_in_order (q : Quirks) (hh : q.atRuleHoists = false) (hm : q.mediaInMediaNested = true)
    (hs : q.closeSwallows = false) (ops : Ops σ) (p : List (Core σ)) (st : St σ)
    (h : emitTop q ops p = .ok st) :
    (flatItems [] st.root).filter isComment = (logBody q ops {} p []).filter isComment := by
  rw [(C20.bubble_preserves_order q hh hm hs ops p st h).1]

/-- the same for the code after the first fix round (after 242f60b), whenever the run lost nothing -/
theorem expanded_comments_in_order_afterRound1 (ops : Ops σ) (p : List (Core σ)) (st : St σ)
    (h : emitTop Quirks.afterRound1 ops p = .ok st) (hl : st.lost = 0) :
    (flatItems [] st.root).filter isComment = (logBody Quirks.afterRound1 ops {} p []).filter isComment := by
  rw [(C20.bubble_preserves_order_afterRound1 ops p st h hl).1]

/-- the code after 34ff818 (`Quirks.now`): the flag hypotheses hold of it, `lost = 0` is not assumed -/
theorem expanded_comments_in_order_now (ops : Ops σ) (p : List (Core σ)) (st : St σ)
    (h : emitTop Quirks.now ops p = .ok st) :
    (flatItems [] st.root).filter isComment = (logBody Quirks.now ops {} p []).filter isComment :=
  expanded_comments_in_order Quirks.now rfl rfl rfl ops p st h

/-- the FULL specification (media merging included): comments of the output = comments of the
evaluation log, in source order (paths compared after merging adjacent `@media` steps) -/
theorem expanded_comments_in_order_spec (ops : Ops σ) (hassoc : Assoc ops) (p : List (Core σ)) (st : St σ)
    (h : emitTop Quirks.spec ops p = .ok st) :
    (NV ops (flatItems [] st.root)).filter isComment = (NV ops (logBody Quirks.spec ops {} p [])).filter isComment := by
  rw [(C20.bubble_preserves_order_spec ops hassoc p st h).1]

/-- comments of an output tree in document order -/
def bodyComments : List (BodyItem Nat) → List Nat
  | [] => []
  | .comment t :: r => t :: bodyComments r
  | _ :: r => bodyComments r
mutual
def itemComments : Item Nat → List Nat
  | .comment t => [t]
  | .rule _ b => bodyComments b
  | .media _ b => itemsComments b
  | .atrule _ _ b => itemsComments b
  | _ => []
def itemsComments : List (Item Nat) → List Nat
  | [] => []
  | i :: r => itemComments i ++ itemsComments r
end

def commentsOf (r : Except Err (St Nat)) : Option (List Nat) :=
  match r with | .ok st => some (itemsComments st.root) | .error _ => none

/-- witness: `2 { @media 1 { 3 { /*4*/ } /*5*/ } }` -/
def orderWitness : List (Core Nat) := [.rule 2 [.media 1 [.rule 3 [.comment 4], .comment 5]]]

/-- SPEC: emitted in source order. -/
theorem order_spec : commentsOf (emitTop Quirks.spec C20.natOps orderWitness) = some [4, 5] := by rfl

/-- REFUTATION (flag `atRuleHoists`, code before 242f60b): the at-rule frame collects `/*5*/` in its
rule copy and inserts that copy at index 0, so it is emitted BEFORE `/*4*/`. -/
theorem order_asis_refutation : commentsOf (emitTop Quirks.asis C20.natOps orderWitness) = some [5, 4] := by rfl

/-- the code after the first fix round emits them in source order -/
theorem order_afterRound1 : commentsOf (emitTop Quirks.afterRound1 C20.natOps orderWitness) = some [4, 5] := by rfl

/-- under the flags of `Quirks.asis` (hoisting at-rule frames) the order is still kept whenever
the comments of an at-rule frame are not preceded by a nested rule — e.g. here. -/
example : commentsOf (emitTop Quirks.asis C20.natOps
    [.comment 9, .rule 2 [.comment 8, .media 1 [.comment 5, .rule 3 [.comment 4]], .comment 7]]) = some [9, 8, 5, 4, 7] := by rfl

/-! ### `/*# … */` (flag `hashCommentDropped`, code before 01d06ad) -/

/-- `Comment::write` prints nothing for a comment whose text starts with `#` … -/
theorem hash_comment_written_as_nothing (isHash : σ → Bool) (t : σ) (h : isHash t = true) :
    writtenItem isHash (.comment t) = [] := by
  simp [writtenItem, h]

/-- … every other comment is written. -/
theorem other_comment_written (isHash : σ → Bool) (t : σ) (h : isHash t = false) :
    writtenItem isHash (.comment t) = [.comment t] := by
  simp [writtenItem, h]

end C36
