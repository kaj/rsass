/-
C08 — Expanded and compressed styles describe the same stylesheet.

Writer part of the property, on the model `Writer.*` of the css writer (every
`is_compressed()` branch of cssbuf.rs, cssdata.rs, css/rule.rs, css/comment.rs and the
`add_one` call sites): the two styles write the same normal form (`Writer.norm`: encoding mark
removed, white space removed, `;` before `}` / end of output removed), by induction over the
css tree, for atoms whose two texts agree up to white space (`atomEq`: selector `a > b`/`a>b`,
lists `a, b`/`a,b`, …).  Leading zeros and colour notations live inside atoms; they are compared
by the tokenizer of the oracle (props/C08.py), not here.  After the writer theorem: the list
separators, and the style used for interpolated text (`interpText`).

Helper lemmas: Writer/Lemmas{Norm,Styles}.lean.
-/
import RsassModel.Writer.LemmasStyles
import RsassModel.Theorems.C07
namespace C08
open Writer

/-- The `write` functions produce the same normal form in both styles (buffer level; a `;` at
the very end is still kept here, `into_buffer` removes it). -/
theorem styles_same_buffer (q : WQuirks) (ns : Nodes) (h : nodesEq ns = true) :
    D (writeNodes q .expanded ns Buf.empty).rev = D (writeNodes q .compressed ns Buf.empty).rev :=
  writeNodes_same q ns Buf.empty Buf.empty rfl h

theorem F_dropNl (r : Bytes) : F (r.dropWhile (· = 10)) = F r := by
  induction r with
  | nil => rfl
  | cons x r ih =>
    simp only [List.dropWhile]
    split
    · next hx => simp at hx; subst hx; rw [ih, F_cons_ws (by decide)]
    · rfl

/-- what `into_buffer` strips does not change the normal form -/
theorem NR_strip (s : Style) (rev : Bytes) : NR (popSemi s (rev.dropWhile (· = 10))) = NR rev := by
  unfold NR; rw [NR_popSemi, F_dropNl]

theorem NR_cons_nl (r : Bytes) : NR (10 :: r) = NR r := by
  unfold NR; rw [F_cons_ws (by decide)]

theorem bom_not_prefix_ascii (out : Bytes) (h : isAscii out = true) : bom.isPrefixOf out = false := by
  cases out with
  | nil => rfl
  | cons x t =>
    by_cases hx : x = 0xEF
    · subst hx; simp [isAscii] at h
    · simp [bom, List.isPrefixOf]
      intro h'; exact absurd h'.symm hx

/-- ASCII buffer: the normal form of the framed output is the normal form of the buffer. -/
theorem norm_frame_ascii (s : Style) (rev : Bytes) (h : isAscii rev = true) :
    norm (frame s rev) = (NR rev).reverse := by
  have hout := C07.intoBuffer_ascii s rev h
  unfold norm stripMark
  rw [bom_not_prefix_ascii _ hout]
  simp only [hout, Bool.not_true, Bool.false_and, Bool.false_eq_true, if_false]
  congr 1
  unfold frame
  simp only [h, if_true]
  rw [← NR_strip s rev]
  generalize popSemi s (List.dropWhile (fun x => decide (x = 10)) rev) = r2
  cases r2 with
  | nil => rfl
  | cons y t =>
    simp only [List.isEmpty_cons, Bool.false_eq_true, if_false, List.reverse_reverse]
    exact NR_cons_nl _

/-- white-space-equal buffers are ASCII together -/
theorem isAscii_F (r : Bytes) : isAscii (F r) = isAscii r := by
  induction r with
  | nil => rfl
  | cons x r ih =>
    cases hw : isWs x
    · rw [F_cons_nws hw]
      simp only [isAscii, List.all_cons] at ih ⊢
      rw [ih]
    · rw [F_cons_ws hw]
      have : decide (x < 128) = true := by
        simp only [isWs, Bool.or_eq_true, decide_eq_true_eq] at hw
        rcases hw with (((h | h) | h) | h) | h <;> subst h <;> decide
      simp only [isAscii, List.all_cons] at ih ⊢
      rw [ih, this]
      rfl

/-! ### the non-ASCII case: the encoding mark is the only difference -/

theorem isAscii_popSemi_false (s : Style) (t : Bytes) (h : isAscii t = false) : isAscii (popSemi s t) = false := by
  unfold popSemi
  split
  · next r =>
    simp only [isAscii, List.all_cons] at h ⊢
    simpa using h
  · exact h

theorem stripMark_mark (s : Style) (X : Bytes) (hX : isAscii X = false) : stripMark (mark s ++ X) = X := by
  cases s
  · -- expanded: `@charset "UTF-8";\n`
    unfold stripMark
    have h1 : bom.isPrefixOf (mark .expanded ++ X) = false := by
      simp [bom, mark, List.isPrefixOf]
    have h2 : isAscii (mark .expanded ++ X) = false := by rw [isAscii_append, hX]; simp
    have h3 : (mark .expanded).isPrefixOf (mark .expanded ++ X) = true := by
      rw [List.isPrefixOf_iff_prefix]; exact List.prefix_append _ _
    simp [h1, h2, h3]
  · unfold stripMark
    have h1 : bom.isPrefixOf (mark .compressed ++ X) = true := by
      rw [List.isPrefixOf_iff_prefix]; exact List.prefix_append _ _
    rw [if_pos h1]; rfl

/-- Non-ASCII buffer: `frame` prepends the mark, `norm` strips it: the normal form of the
framed output is again the normal form of the buffer. -/
theorem norm_frame_nonascii (s : Style) (rev : Bytes) (h : isAscii rev = false) :
    norm (frame s rev) = (NR rev).reverse := by
  obtain ⟨hd, hta⟩ := dropNl_append (m := (mark s).reverse) h
  have hne : rev.dropWhile (· = 10) ≠ [] := by
    intro he; rw [he] at hta; simp [isAscii] at hta
  obtain ⟨y, t, hyt⟩ := List.exists_cons_of_ne_nil hne
  have hframe : frame s rev = mark s ++ ((popSemi s (rev.dropWhile (· = 10))).reverse ++ [10]) := by
    unfold frame
    simp only [h, Bool.false_eq_true, if_false]
    rw [hd, hyt, popSemi_append_cons]
    have : (popSemi s (y :: t) ++ (mark s).reverse).isEmpty = false := by
      cases s <;> simp [mark]
    simp [this, List.reverse_append]
  have hX : isAscii ((popSemi s (rev.dropWhile (· = 10))).reverse ++ [10]) = false := by
    rw [isAscii_append, isAscii_reverse, isAscii_popSemi_false s _ hta]; rfl
  unfold norm
  rw [hframe, stripMark_mark s _ hX]
  congr 1
  simp only [List.reverse_append, List.reverse_cons, List.reverse_nil, List.nil_append,
    List.reverse_reverse, List.singleton_append]
  rw [NR_cons_nl, NR_strip]

theorem norm_frame (s : Style) (rev : Bytes) : norm (frame s rev) = (NR rev).reverse := by
  cases h : isAscii rev
  · exact norm_frame_nonascii s rev h
  · exact norm_frame_ascii s rev h

/-- **styles_same_tokens**: for every css tree whose atoms agree up to white space, the expanded
and the compressed output have the same normal form — ASCII or not (the encoding mark,
`@charset "UTF-8";` vs. the byte-order mark, is the only difference `frame` adds). -/
theorem styles_same_tokens (q : WQuirks) (items : List Node)
    (h : nodesEq (Nodes.ofList (hoistImports items)) = true) :
    norm (intoBuffer q .expanded items) = norm (intoBuffer q .compressed items) := by
  unfold intoBuffer
  rw [norm_frame, norm_frame]
  congr 1
  exact NR_of_D (styles_same_buffer q _ h)

/-- **styles_same_tokens** (ASCII outputs): for every css tree whose atoms agree up to white
space, the expanded and the compressed output have the same normal form. -/
theorem styles_same_tokens_ascii (q : WQuirks) (items : List Node)
    (h : nodesEq (Nodes.ofList (hoistImports items)) = true)
    (ha : isAscii (writeNodes q .expanded (Nodes.ofList (hoistImports items)) Buf.empty).rev = true)
    (hc : isAscii (writeNodes q .compressed (Nodes.ofList (hoistImports items)) Buf.empty).rev = true) :
    norm (intoBuffer q .expanded items) = norm (intoBuffer q .compressed items) :=
  styles_same_tokens q items h

/-- `ListSeparator::sep(compressed)` of value/list_separator.rs -/
inductive Sep | space | slash | slashNoSpace | comma
def Sep.text : Sep → Bool → Bytes
  | .comma, true => [44]
  | .comma, false => [44, 32]
  | .slash, true => [47]
  | .slashNoSpace, _ => [47]
  | .slash, false => [32, 47, 32]
  | .space, _ => [32]

/-- the list separators agree up to white space in the two styles -/
theorem sep_same (sep : Sep) : F (sep.text false) = F (sep.text true) := by
  cases sep <;> decide

/-! ## Interpolation (sass/string.rs `SassString::evaluate`)

The text an interpolated value contributes is `value.format(scope.get_format())`: the *output*
style is used for text that becomes part of a string, a selector or an error message
(deviation `interpStyleLeak`; known finding C08-interp-style-leak).  `fmt` is the value
formatter (`Display for Formatted<Value>`), a parameter here. -/

def interpText {α : Type} (leak : Bool) (fmt : Style → α → Bytes) (s : Style) (v : α) : Bytes :=
  fmt (if leak then s else .expanded) v

/-- specification: interpolated text does not depend on the output style -/
theorem interp_style_independent {α : Type} (fmt : Style → α → Bytes) (v : α) :
    interpText false fmt .expanded v = interpText false fmt .compressed v := rfl

/-- as is: only for values whose two formats coincide -/
theorem interp_leak_partial {α : Type} (fmt : Style → α → Bytes) (v : α)
    (h : fmt .expanded v = fmt .compressed v) :
    interpText true fmt .expanded v = interpText true fmt .compressed v := h

example : (fun (s : Style) (sep : Sep) => sep.text s.isCompressed) .expanded Sep.space
    = (fun (s : Style) (sep : Sep) => sep.text s.isCompressed) .compressed Sep.space := rfl

/-- refutation: the separator of an interpolated comma list (`"#{(1, 2)}"` is `"1, 2"` expanded
and `"1,2"` compressed) -/
theorem interp_leak_witness :
    interpText true (fun s (sep : Sep) => sep.text s.isCompressed) .expanded Sep.comma
      ≠ interpText true (fun s (sep : Sep) => sep.text s.isCompressed) .compressed Sep.comma := by
  decide

/-- non-vacuity: a tree with a selector, a list value and a media query that differ between
the styles satisfies the hypothesis -/
example : nodesEq (Nodes.ofList (hoistImports
    [.rule (some ⟨[97, 32, 62, 32, 98], [97, 62, 98]⟩)
        (.cons (.prop [98] ⟨[97, 44, 32, 98], [97, 44, 98]⟩) .nil),
     .media ⟨[97, 44, 32, 98], [97, 44, 98]⟩ (.cons (.comment [32, 120, 10, 32, 32, 121]) .nil)])) = true := by
  decide

/-- and a concrete instance, computed: `a > b { b: a, b; }` -/
example : norm (intoBuffer WQuirks.asis .expanded
      [.rule (some ⟨[97, 32, 62, 32, 98], [97, 62, 98]⟩) (.cons (.prop [98] ⟨[97, 44, 32, 98], [97, 44, 98]⟩) .nil)])
    = [97, 62, 98, 123, 98, 58, 97, 44, 98, 125] := by decide

end C08
