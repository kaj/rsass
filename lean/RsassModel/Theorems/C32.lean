/-
C32 — Color adjustment functions obey their laws (partial).
Property theorems over the exact-rational instance of `RsassModel/Color/Fn.lean`, specified
model (`CQuirks.spec`).  `Col.WF` = every stored channel in range (what every constructor
yields, theorem `C31.ctor_wf`).  Laws that route an rgba-stored colour through the rgb→hsl→rgb
conversion rest on the round-trip theorem `rgb_hsl_rgb` of C31 (`Col.eqv_toHsla`).
-/
import RsassModel.Color.LemmasRT
namespace C32
open Color

/-- `mix(c, c, w)` is `c`, for every well-formed colour (any representation)
and every weight. -/
theorem mix_self (c : Col Rat) (w : Rat) (h : c.WF) :
    (mixCols CQuirks.spec c c w).eqv CQuirks.spec c = true := by
  obtain ⟨⟨r0, r1⟩, ⟨g0, g1⟩, ⟨b0, b1⟩, ⟨a0, a1⟩⟩ := Col.toRgba_wf c h
  have one_ne : ((w * 2 - 1) * 0 + 1 == (0 : Rat)) = false := by
    rw [mul_zero, zero_add]
    decide +kernel
  have mid : midpoint ((w * 2 - 1 + 0) / ((w * 2 - 1) * 0 + 1)) (1 : Rat) = w := by
    unfold midpoint
    rw [mul_zero, zero_add, div_one, add_zero]
    ring
  have mc : ∀ v : Rat, w * v + (1 - w) * v = v := fun v => by ring
  have ma : ∀ v : Rat, v * w + v * (1 - w) = v := fun v => by ring
  have e : mixCols CQuirks.spec c c w = .rgba (Rgba.new (c.toRgba CQuirks.spec).r
      (c.toRgba CQuirks.spec).g (c.toRgba CQuirks.spec).b (c.toRgba CQuirks.spec).a .name) := by
    simp only [mixCols, sub_self, one_ne, Bool.false_eq_true, if_false, mid, mc, ma]
  rw [e]
  exact eqv_spec_of_chan _ _ (cap_id _ _ r0 r1) (cap_id _ _ g0 g1) (cap_id _ _ b0 b1) (cap_id _ _ a0 a1)

/-- `Rgba::invert` with weight 1 is an involution on well-formed rgba values (exactly, channel
by channel). -/
theorem invert_invol_rgba (c : Rgba Rat) (h : c.WF) :
    ((c.invert 1).invert 1).r = c.r ∧ ((c.invert 1).invert 1).g = c.g ∧
    ((c.invert 1).invert 1).b = c.b ∧ ((c.invert 1).invert 1).a = c.a := by
  obtain ⟨⟨r0, r1⟩, ⟨g0, g1⟩, ⟨b0, b1⟩, ⟨a0, a1⟩⟩ := h
  have inv : ∀ v : Rat, 0 ≤ v → v ≤ 255 → cap (-(v - 255) * 1 + v * (1 - 1)) 255 = 255 - v := by
    intro v v0 v1
    have : -(v - 255) * 1 + v * (1 - 1) = 255 - v := by ring
    rw [this, cap_id _ _ (by linarith) (by linarith)]
  simp only [Rgba.invert, Rgba.new, inv _ r0 r1, inv _ g0 g1, inv _ b0 b1, cap_id _ _ a0 a1]
  rw [inv _ (by linarith) (by linarith), inv _ (by linarith) (by linarith), inv _ (by linarith) (by linarith)]
  refine ⟨by ring, by ring, by ring, trivial⟩

/-- `invert(invert(c))` is `c` for every well-formed colour (rgba-, hsla- and
hwba-stored). -/
theorem invert_invol (c : Col Rat) (h : c.WF) :
    ((c.invert CQuirks.spec 1).invert CQuirks.spec 1).eqv CQuirks.spec c = true := by
  cases c with
  | rgba r =>
    obtain ⟨e1, e2, e3, e4⟩ := invert_invol_rgba r h
    exact eqv_spec_of_chan _ _ e1 e2 e3 e4
  | hwba w =>
    obtain ⟨e1, e2, e3, e4⟩ := invert_invol_rgba (w.toRgba CQuirks.spec) (Hwba.toRgba_wf _ w)
    exact eqv_spec_of_chan _ _ e1 e2 e3 e4
  | hsla s =>
    obtain ⟨⟨h0, h1⟩, _, _, _⟩ := h
    have e : (Hsla.invert CQuirks.spec (Hsla.invert CQuirks.spec s 1) 1) = s := by
      simp only [Hsla.invert, degMod_half_half s.h h0 h1]
      have : (1 - ((1 - s.l) * 1 + s.l * (1 - 1))) * 1 + ((1 - s.l) * 1 + s.l * (1 - 1)) * (1 - 1) = s.l := by
        ring
      rw [this]
    show (Col.hsla (Hsla.invert CQuirks.spec (Hsla.invert CQuirks.spec s 1) 1)).eqv CQuirks.spec (Col.hsla s) = true
    rw [e]
    exact Col.eqv_spec_refl _

/-! ## complement and adjust-hue

`Color::rotate_hue` converts an rgba-stored colour to hsl first and keeps an hsla-stored one in
hsl form; an hwba-stored colour stays in hwb form with the hue stored un-normalised (`Hwba::new`
does not call `deg_mod`), so there the laws rest on `Hwba.toRgba` depending on the hue only
modulo 360 (`degMod_periodic`). -/

theorem complement_twice_eq (s : Hsla Rat) (h : s.WF) :
    ((Col.hsla s).rotateHue CQuirks.spec 180).rotateHue CQuirks.spec 180 = Col.hsla s := by
  rw [rotateHue_hsla s h, rotateHue_hsla { s with h := degMod CQuirks.spec (s.h + 180) }
    ⟨degMod_spec_range _ rfl _, h.2⟩]
  show Col.hsla { s with h := degMod CQuirks.spec (degMod CQuirks.spec (s.h + 180) + 180) } = _
  rw [degMod_half_half s.h h.1.1 h.1.2]

theorem adjust_hue_360_eq (s : Hsla Rat) (h : s.WF) :
    (Col.hsla s).rotateHue CQuirks.spec 360 = Col.hsla s := by
  rw [rotateHue_hsla s h, degMod_add_360 s.h h.1.1 h.1.2]

/-- Every representation: `complement(complement(c))` is `c`. -/
theorem complement_invol (c : Col Rat) (h : c.WF) :
    ((c.rotateHue CQuirks.spec 180).rotateHue CQuirks.spec 180).eqv CQuirks.spec c = true := by
  cases c with
  | rgba r =>
    show (((Col.hsla (r.toHsla CQuirks.spec)).rotateHue CQuirks.spec 180).rotateHue CQuirks.spec 180).eqv
      CQuirks.spec (Col.rgba r) = true
    rw [complement_twice_eq _ (Rgba.toHsla_wf r)]
    exact Col.eqv_toHsla_self (.rgba r) h
  | hsla s =>
    rw [complement_twice_eq s h]
    exact Col.eqv_spec_refl _
  | hwba w =>
    rw [rotateHue_hwba w h, rotateHue_hwba { w with h := w.h + 180 } h]
    refine hwba_hue_eqv w (w.h + 180 + 180) ?_
    rw [add_assoc, (by norm_num : (180 : Rat) + 180 = 360), degMod_periodic]

/-- `complement_invol` for an hwba-stored colour; the bounds on the stored hue are not needed -/
theorem complement_invol_hwba (w : Hwba Rat) (h : w.WF) (h0 : 0 ≤ w.h) (h1 : w.h < 360) :
    (((Col.hwba w).rotateHue CQuirks.spec 180).rotateHue CQuirks.spec 180).eqv CQuirks.spec (Col.hwba w)
      = true :=
  complement_invol (.hwba w) h

/-- Every representation: `adjust-hue(c, 360deg)` is `c`. -/
theorem adjust_hue_360 (c : Col Rat) (h : c.WF) :
    (c.rotateHue CQuirks.spec 360).eqv CQuirks.spec c = true := by
  cases c with
  | rgba r =>
    show ((Col.hsla (r.toHsla CQuirks.spec)).rotateHue CQuirks.spec 360).eqv CQuirks.spec (Col.rgba r) = true
    rw [adjust_hue_360_eq _ (Rgba.toHsla_wf r)]
    exact Col.eqv_toHsla_self (.rgba r) h
  | hsla s =>
    rw [adjust_hue_360_eq s h]
    exact Col.eqv_spec_refl _
  | hwba w =>
    rw [rotateHue_hwba w h]
    exact hwba_hue_eqv w _ (degMod_periodic w.h)

/-- `adjust_hue_360` for an hwba-stored colour; the bounds on the stored hue are not needed -/
theorem adjust_hue_360_hwba (w : Hwba Rat) (h : w.WF) (h0 : 0 ≤ w.h) (h1 : w.h < 360) :
    ((Col.hwba w).rotateHue CQuirks.spec 360).eqv CQuirks.spec (Col.hwba w) = true :=
  adjust_hue_360 (.hwba w) h

/-- No-argument form: `color.adjust(c)` returns `c` itself. -/
theorem adjust_identity (c : Col Rat) (h : c.WF) : adjustColor CQuirks.spec c [] = some c := by
  simp [adjustColor, takeOpt, kw, only, optAdd, Col.setAlpha_id c h]

/-- No-argument form: `color.change(c)` returns `c` itself. -/
theorem change_identity (c : Col Rat) : changeColor CQuirks.spec c [] = some c := by
  simp [changeColor, takeOpt, kw, only]

/-- `color.scale(c)` without arguments (and with `$saturation: 0%, $lightness: 0%, $alpha: 0%`,
which `cmb` maps to the same values) returns the hsl form of `c`, a colour equal to `c`. -/
theorem scale_identity (c : Col Rat) (h : c.WF) :
    ∃ r, scaleColor CQuirks.spec c [] = some r ∧ r.eqv CQuirks.spec c = true := by
  refine ⟨Col.hsla (c.toHsla CQuirks.spec), ?_, Col.eqv_toHsla_self c h⟩
  have e := Hsla.new_id (c.toHsla CQuirks.spec) (Col.toHsla_wf c h) (c.toHsla CQuirks.spec).fmt
  simp [scaleColor, takeOpt, kw, only, cmb, e]

theorem scale_identity_partial (s : Hsla Rat) (h : s.WF) :
    ∃ r, scaleColor CQuirks.spec (Col.hsla s) [] = some r ∧ r.eqv CQuirks.spec (Col.hsla s) = true :=
  scale_identity (.hsla s) h

theorem scale_identity_rgba (c : Rgba Rat) (h : c.WF) :
    ∃ r, scaleColor CQuirks.spec (Col.rgba c) [] = some r ∧ r.eqv CQuirks.spec (Col.rgba c) = true :=
  scale_identity (.rgba c) h

/-- `cmb(orig, 0%, max) = orig`: scaling by zero is the identity on every channel. -/
theorem scale_zero (orig mx : Rat) : cmb orig (some 0) mx = orig := by
  unfold cmb
  have : (CExtra.signNeg (0 : Rat)) = false := by decide +kernel
  simp [this]

/-- `opt_add(a, Some(0)) = a`: adjusting by zero is the identity on every channel. -/
theorem adjust_zero (a : Rat) : optAdd a (some 0) = a := by simp [optAdd]

/-- `lighten` moves the lightness by exactly the amount, clamped to 0..1 -/
theorem lighten_exact_clamped (c : Col Rat) (a : Rat) :
    (lightenBy CQuirks.spec c a true).lightness CQuirks.spec
      = clamp 0 1 ((c.toHsla CQuirks.spec).l + a) * 100 := by
  simp only [lightenBy, Col.lightness, Hsla.new, CQuirks.spec, Bool.false_eq_true, if_false, if_true,
    clamp_clamp]
  rfl

/-- `darken` moves the lightness by exactly the amount, clamped to 0..1 -/
theorem darken_exact_clamped (c : Col Rat) (a : Rat) :
    (lightenBy CQuirks.spec c a false).lightness CQuirks.spec
      = clamp 0 1 ((c.toHsla CQuirks.spec).l - a) * 100 := by
  simp only [lightenBy, Col.lightness, Hsla.new, CQuirks.spec, Bool.false_eq_true, if_false, if_true,
    clamp_clamp]
  rfl

/-- `saturate` moves the saturation by exactly the amount, clamped -/
theorem saturate_exact_clamped (c : Col Rat) (a : Rat) :
    (saturateBy CQuirks.spec c a).saturation CQuirks.spec
      = clamp 0 1 ((c.toHsla CQuirks.spec).s + a) * 100 := by
  simp [saturateBy, Col.saturation, Col.toHsla, Hsla.new, CQuirks.spec, clamp_clamp]

/-- `desaturate` moves the saturation by exactly the amount, clamped -/
theorem desaturate_exact_clamped (c : Col Rat) (a : Rat) :
    (desaturateBy CQuirks.spec c a).saturation CQuirks.spec
      = clamp 0 1 ((c.toHsla CQuirks.spec).s - a) * 100 := by
  simp [desaturateBy, Col.saturation, Col.toHsla, Hsla.new, CQuirks.spec]

/-- `opacify` / `transparentize` move alpha by exactly the amount, clamped -/
theorem opacify_exact_clamped (c : Col Rat) (a : Rat) (up : Bool) :
    (fadeBy c a up).alpha = clamp 0 1 (if up then c.alpha + a else c.alpha - a) := by
  rw [fadeBy, Col.setAlpha_alpha, clamp_clamp]

/-- REFUTATION (`lightenUnclamped` + `hslUnclamped`, finding C32-lighten-unclamped, fixed by
9a5b50b): as written before the fix, lightening white by 10% reports lightness 110%. -/
theorem lighten_unclamped_refutes :
    (lightenBy CQuirks.asis (Col.rgba (Rgba.fromBytes 255 255 255 : Rgba Rat)) (1 / 10) true).lightness
      CQuirks.asis = 110 := by decide +kernel

/-! ## cancel laws

`lighten`, `darken`, `saturate`, `desaturate` see their argument only through `Col.toHsla`, so each
law is an identity between hsla values, lifted by `Col.eqv_toHsla` (for rgba-stored colours the
round trip `rgb → hsl → rgb`). -/

theorem lighten_darken_eq (s : Hsla Rat) (a : Rat) (h : s.WF) (ha : 0 ≤ a) (hl : s.l + a ≤ 1) :
    lightenBy CQuirks.spec (lightenBy CQuirks.spec (Col.hsla s) a true) a false
      = Col.hsla { s with fmt := false } := by
  have hl' : 0 ≤ s.l + a ∧ s.l + a ≤ 1 := ⟨by linarith [h.2.2.1.1], hl⟩
  rw [lightenBy_hsla s h, if_pos rfl, clamp_id 0 1 _ hl'.1 hl'.2,
    lightenBy_hsla { s with l := s.l + a, fmt := false } ⟨h.1, h.2.1, hl', h.2.2.2⟩]
  simp only [Bool.false_eq_true, if_false, add_sub_cancel_right, clamp_id 0 1 s.l h.2.2.1.1 h.2.2.1.2]

/-- Every representation: `darken(lighten(c, a), a)` is `c` when nothing was
clamped (`lightness(c) + a ≤ 100%`), for every well-formed colour. -/
theorem lighten_darken_cancel_unclamped (c : Col Rat) (a : Rat) (h : c.WF) (ha : 0 ≤ a)
    (hl : (c.toHsla CQuirks.spec).l + a ≤ 1) :
    (lightenBy CQuirks.spec (lightenBy CQuirks.spec c a true) a false).eqv CQuirks.spec c = true := by
  have e : lightenBy CQuirks.spec c a true
      = lightenBy CQuirks.spec (Col.hsla (c.toHsla CQuirks.spec)) a true := rfl
  rw [e, lighten_darken_eq _ a (Col.toHsla_wf c h) ha hl]
  exact Col.eqv_toHsla c h false

example : ∃ s : Hsla Rat, s.WF ∧ s.l + (1 / 4 : Rat) ≤ 1 :=
  ⟨⟨10, 1 / 2, 1 / 2, 1, true⟩, by unfold Hsla.WF; norm_num, by norm_num⟩

theorem saturate_desaturate_eq (s : Hsla Rat) (a : Rat) (h : s.WF) (ha : 0 ≤ a) (hl : s.s + a ≤ 1) :
    desaturateBy CQuirks.spec (saturateBy CQuirks.spec (Col.hsla s) a) a
      = Col.hsla { s with fmt := false } := by
  have hl' : 0 ≤ s.s + a ∧ s.s + a ≤ 1 := ⟨by linarith [h.2.1.1], hl⟩
  rw [saturateBy_hsla s h, clamp_id 0 1 _ hl'.1 hl'.2,
    desaturateBy_hsla { s with s := s.s + a, fmt := false } ⟨h.1, hl', h.2.2.1, h.2.2.2⟩]
  simp only [add_sub_cancel_right, clamp_id 0 1 s.s h.2.1.1 h.2.1.2]
/-- Every representation: `desaturate(saturate(c, a), a)` is `c` when nothing
was clamped, for every well-formed colour. -/
theorem saturate_desaturate_cancel_unclamped (c : Col Rat) (a : Rat) (h : c.WF) (ha : 0 ≤ a)
    (hl : (c.toHsla CQuirks.spec).s + a ≤ 1) :
    (desaturateBy CQuirks.spec (saturateBy CQuirks.spec c a) a).eqv CQuirks.spec c = true := by
  have e : saturateBy CQuirks.spec c a
      = saturateBy CQuirks.spec (Col.hsla (c.toHsla CQuirks.spec)) a := rfl
  rw [e, saturate_desaturate_eq _ a (Col.toHsla_wf c h) ha hl]
  exact Col.eqv_toHsla c h false

/-- `transparentize(opacify(c, a), a)` is `c` when nothing was clamped, for
every well-formed colour. -/
theorem opacify_transparentize_cancel_unclamped (c : Col Rat) (a : Rat) (h : c.WF)
    (ha : 0 ≤ a) (hl : c.alpha + a ≤ 1) :
    fadeBy (fadeBy c a true) a false = c := by
  have r := Col.alpha_range c h
  show (c.setAlpha (c.alpha + a)).setAlpha ((c.setAlpha (c.alpha + a)).alpha - a) = c
  rw [Col.setAlpha_alpha, clamp_clamp, clamp_id _ _ _ (by linarith) hl, Col.setAlpha_setAlpha,
    add_sub_cancel_right, Col.setAlpha_id c h]

/-- `grayscale(c)` has saturation 0 and the lightness and alpha of `c`, for
every well-formed colour. -/
theorem grayscale_spec (c : Col Rat) (h : c.WF) :
    (grayscale CQuirks.spec c).saturation CQuirks.spec = 0 ∧
    (grayscale CQuirks.spec c).lightness CQuirks.spec = c.lightness CQuirks.spec ∧
    (grayscale CQuirks.spec c).alpha = c.alpha := by
  obtain ⟨hh, -, hl, ha⟩ := Col.toHsla_wf c h
  have e : ∀ f, Hsla.new CQuirks.spec (c.toHsla CQuirks.spec).h 0 (c.toHsla CQuirks.spec).l
      (c.toHsla CQuirks.spec).a f = { c.toHsla CQuirks.spec with s := 0, fmt := f } := fun f =>
    Hsla.new_of_range _ _ _ _ f hh ⟨le_rfl, zero_le_one⟩ hl ha
  simp only [grayscale, e]
  exact ⟨zero_mul 100, rfl, Col.toHsla_alpha c h⟩

end C32
