/-
C25 — Selector parsing and printing round-trip (partial).  Property theorems only; model in
RsassModel/Sel/Parse.lean + Sel/Print.lean, lemmas in RsassModel/Sel/ParseLemmas.lean.

Proved: the name lexer (`css_string_nohash` / `css_string`) is the identity on plain names and
on the escape the printer writes for a digit-leading class, and printing that again changes
nothing — so for names print ∘ parse ∘ print = print.  The general statement

    theorem parse_print : Canon s → parseSelSet (SelSet.print false s) = some s

over the whole grammar (fuel-indexed mutual parser) is NOT proved; it is covered by the exact
differential correspondence of the check (print(parse S), its re-parse, the rule header).
-/
import RsassModel.Sel.ParseLemmas

namespace Sel.C25

/-- Plain names (letters, digits, `-`, `_`, non-ASCII letters) are lexed to themselves, up to
any following text that cannot continue a name. -/
theorem ident_plain_roundtrip (q : LexQuirks) (hash : Bool) (n rest : List Char) (hn : isPlainName q n = true)
    (hs : stopsName q rest = true) : cssName q hash (n ++ rest) = some (n, rest) :=
  cssName_plain q hash n rest hn hs

example : isPlainName lexSpec "a-b_1é©".toList = true ∧ stopsName lexSpec ".x".toList = true := by
  decide +kernel

/-- What the printer writes for a class is a fixed point of the printer: a printed class name
either starts with a non-digit or with `\` (C25 `print_canon`, name level). -/
theorem print_class_idempotent (c : List Char) : printClassName (printClassName c) = printClassName c := by
  cases c with
  | nil => rfl
  | cons d rest =>
    by_cases h : isAsciiDigit d = true
    · have hb : isAsciiDigit '\\' = false := by decide
      simp [printClassName, h, hb]
    · simp [printClassName, h]

/-- The escape written for a digit-leading class (`.1y` → `.\31 y`) is lexed back to exactly
the escaped text, which prints as itself: print ∘ parse ∘ print = print on such names. -/
theorem ident_escape_roundtrip (q : LexQuirks) (d : Char) (rest stop : List Char) (hd : d ∈ ['0', '1', '2', '3', '4', '5', '6', '7', '8', '9'])
    (hr : rest.all (isPlainChar q) = true) (hs : stopsName q stop = true) :
    cssName q false (printClassName (d :: rest) ++ stop) = some (printClassName (d :: rest), stop) := by
  obtain ⟨hdig, hnorm, hesc⟩ := digit_escape q hd
  have hp : printClassName (d :: rest) = '\\' :: hexLower d.toNat ++ ' ' :: rest := by
    simp [printClassName, hdig]
  have ht := nameTail_plain q false rest (normFirst q d) stop ((rest ++ stop).length + 1) hr hs
    (by simp; omega)
  rw [hnorm] at ht
  rw [hp]
  simp only [List.cons_append, List.append_assoc, cssName, not_plain_backslash, Bool.false_eq_true,
    if_false, if_true, hesc, hnorm, ht, List.nil_append]

/-- Deviation `symbolEscapeRaw` (repaired by /repo bcc4ec1), refutation of the round trip for the
old code: the class `\\a9 x` (©x) was accepted and printed `.©x`, which the old lexer rejected;
now (specification = the code today) every non-ASCII character is an identifier character and
the printed text parses to itself. -/
theorem symbol_escape_old_refuted :
    (parseSelSet lexOld ".\\a9 x".toList).map (SelSet.print false) = some ".©x".toList
    ∧ parseSelSet lexOld ".©x".toList = none
    ∧ (parseSelSet lexSpec ".\\a9 x".toList).map (SelSet.print false) = some ".©x".toList
    ∧ (parseSelSet lexSpec ".©x".toList).map (SelSet.print false) = some ".©x".toList := by
  decide +kernel

/-- partial: on alphanumeric characters, `-` and `_` the old lexer's character class is the
specified one -/
theorem plain_old_partial (c : Char) (h : isAlphanumeric c = true ∨ c = '-' ∨ c = '_') :
    isPlainChar lexOld c = isPlainChar lexSpec c := by
  rcases h with h | h | h <;> simp [isPlainChar, h]

example : isAlphanumeric 'é' = true := by decide

/-- Deviation `quotedVerbatim` (repaired by /repo 60db3d6), refutation for the old code: the
attribute value `"a\"b"` ended at the escaped quote and the selector was rejected; now it is
read as `a"b` and printed with the quote escaped again. -/
theorem quoted_escape_old_refuted :
    parseSelSet lexOld "[h=\"a\\\"b\"]".toList = none
    ∧ (parseSelSet lexSpec "[h=\"a\\\"b\"]".toList).map (SelSet.print false) = some "[h=\"a\\\"b\"]".toList := by
  decide +kernel

/-- The space before an attribute modifier is written in every output style (`Attribute::write_to`
uses `add_char(' ')`, the model's `Attr.print` has no style parameter): without it `[h=abc i]`
would read back as the value `abci` (seeded change C25-2). -/
theorem attr_modifier_keeps_space (a : Attr) (m : Char) (h : a.modifier = some m) :
    a.print = '[' :: a.name ++ a.op ++ printCssString a.val a.quotes ++ [' ', m, ']'] := by
  simp [Attr.print, h]

/-- the compressed print of `[data-x=abc i]` parses back to the same selector list -/
theorem attr_modifier_compressed_roundtrip :
    (parseSelSet lexSpec "a[data-x=abc i].c".toList).map (SelSet.print true) = some "a.c[data-x=abc i]".toList
    ∧ (parseSelSet lexSpec "a.c[data-x=abc i]".toList).map (SelSet.print false) = some "a.c[data-x=abc i]".toList := by
  decide +kernel

theorem asis_is_spec : lexAsis = lexSpec := rfl

end Sel.C25
