/-
C27 — Strings keep their content through escaping and quoting.
-/
import RsassModel.Str.Escape
import RsassModel.Str.LemmasHex
namespace C27
open Str

/-! ### the reference emitter is inverted by CSS decoding -/

theorem toNat_eq_of (c : Char) (n : Nat) (h : c.toNat = n) : c = Char.ofNat n := by
  subst h; exact (Char.ofNat_toNat c).symm

/-- every character is the code point its own number denotes (no character is a surrogate or
beyond U+10FFFF), NUL excepted -/
theorem escChar_toNat (c : Char) (h0 : c.toNat ≠ 0) : escChar c.toNat = c := by
  have hv' : c.toNat < 0xD800 ∨ (0xDFFF < c.toNat ∧ c.toNat < 0x110000) := c.valid
  unfold escChar isSurrogate
  have : ¬ (c.toNat = 0 ∨ (decide (55296 ≤ c.toNat) && decide (c.toNat ≤ 57343)) = true ∨ 1114111 < c.toNat) := by
    simp; omega
  simp only [this, if_false]
  exact Char.ofNat_toNat c

/-- one character: decoding the text of `emitChar c` in front of any continuation gives
back `c` (U+FFFD for NUL) and continues with the continuation -/
theorem decode_emitChar (c : Char) (rest : List Char) (f : Nat) :
    decodeCssAux (f + 1) (emitChar c ++ rest) =
      (if c.toNat = 0 then Char.ofNat 0xFFFD else c) :: decodeCssAux f rest := by
  unfold emitChar
  by_cases h0 : c.toNat = 0
  · simp only [h0, if_true, List.cons_append, List.nil_append]
    have : ¬ (Char.ofNat 0xFFFD = '\\') := by decide
    simp [decodeCssAux, this]
  · simp only [h0, if_false]
    by_cases hc : isCtl c = true
    · simp only [hc, if_true]
      have hlt : c.toNat < 256 := by
        simp only [isCtl, Bool.or_eq_true, decide_eq_true_eq, Bool.decide_and, Bool.and_eq_true] at hc
        omega
      have hq : c.toNat / 16 < 16 := by omega
      have hr : c.toNat % 16 < 16 := Nat.mod_lt _ (by omega)
      have hrun := decode_hex_run [hexDigit (c.toNat / 16), hexDigit (c.toNat % 16)] ' ' rest f
        (by simp) (by simp [isHex_hexDigit hq, isHex_hexDigit hr]) (by simp) (by decide)
      have hn : hexNum [hexDigit (c.toNat / 16), hexDigit (c.toNat % 16)] = c.toNat := by
        simp only [hexNum, List.foldl, hexVal_hexDigit hq, hexVal_hexDigit hr]
        omega
      rw [hn, escChar_toNat c h0] at hrun
      exact hrun
    · simp only [hc, Bool.false_eq_true, if_false]
      by_cases hq : c = '"' ∨ c = '\\'
      · simp only [hq, if_true, List.cons_append, List.nil_append]
        have h1 : ¬ c = '\n' ∧ isHex c = false := by
          rcases hq with rfl | rfl <;> decide
        simp [decodeCssAux, h1.1, h1.2]
      · simp only [hq, if_false, List.cons_append, List.nil_append]
        have : ¬ c = '\\' := fun h => hq (Or.inr h)
        simp [decodeCssAux, this]

theorem emitChar_length (c : Char) : 1 ≤ (emitChar c).length ∧ (emitChar c).length ≤ 4 := by
  unfold emitChar
  split
  · simp
  · split
    · simp
    · split <;> simp

theorem decode_emit_aux : ∀ (s : List Char) (f : Nat), s.length ≤ f →
    decodeCssAux f (emitSpec s) = s.map fun c => if c.toNat = 0 then Char.ofNat 0xFFFD else c
  | [], f, _ => by cases f <;> simp [emitSpec, decodeCssAux]
  | c :: s, f, h => by
    obtain ⟨f', rfl⟩ : ∃ f', f = f' + 1 := ⟨f - 1, by simp at h; omega⟩
    have : emitSpec (c :: s) = emitChar c ++ emitSpec s := by simp [emitSpec]
    rw [this, decode_emitChar, decode_emit_aux s f' (by simp at h; omega)]
    simp

/-- FULL STATEMENT (specification model): for EVERY list of code points, decoding the
serialized text as a CSS string token gives the list back (NUL, which CSS cannot
represent, comes back as U+FFFD). -/
theorem emit_decode_all (s : List Char) :
    decodeCss (emitSpec s) = s.map fun c => if c.toNat = 0 then Char.ofNat 0xFFFD else c := by
  unfold decodeCss
  apply decode_emit_aux
  have : s.length ≤ (emitSpec s).length := by
    induction s with
    | nil => simp
    | cons c s ih =>
      have := (emitChar_length c).1
      simp [emitSpec] at ih ⊢; omega
  omega

/-- `emit_decode`: quotes, backslashes, control and private-use characters and non-ASCII
text included — every NUL-free string is read back exactly. -/
theorem emit_decode (s : List Char) (h : ∀ c ∈ s, c.toNat ≠ 0) : decodeCss (emitSpec s) = s := by
  rw [emit_decode_all]
  exact (List.map_congr_left fun c hc => if_neg (h c hc)).trans (List.map_id' s)

example : ∀ c ∈ ['a', '"', '\\', '\n', Char.ofNat 0xE000, 'a'], c.toNat ≠ 0 := by decide

/-- no character is emitted as a bare `"` (a quote is emitted as `\"`): one step towards "the
token ends where the emitter ends it", which is not stated for whole strings here. -/
theorem emitChar_no_bare_quote (c : Char) : emitChar c ≠ ['"'] := by
  unfold emitChar
  split
  · decide
  · split
    · simp
    · split
      · simp
      · next h => simp; intro hc; exact h (Or.inl hc)

/-- `length_counts_denoted`: on the specification model `string.length` of a literal is the
number of code points the literal denotes — for the serialization of any NUL-free `s`
that is `s.length`, whatever escapes were needed. -/
theorem length_counts_denoted (s : List Char) (h : ∀ c ∈ s, c.toNat ≠ 0) :
    litLength escSpec (emitSpec s) = some s.length := by
  simp [litLength, escSpec, emit_decode s h]

/-- REFUTATION (keepsEscapes): `"\10x"` denotes two code points, the code counts four -/
theorem length_asis_refuted :
    litLength escAsIs ['\\', '1', '0', 'x'] = some 4 ∧
    litLength escSpec ['\\', '1', '0', 'x'] = some 2 := by decide

theorem spanPlain_all : ∀ l : List Char, (∀ c ∈ l, isPlain c = true) → spanPlain l = (l, [])
  | [], _ => rfl
  | c :: l, h => by
    have hc := h c (by simp)
    have := spanPlain_all l (fun d hd => h d (by simp [hd]))
    simp [spanPlain, hc, this]

theorem parseDq_plain (q : EscQuirks) (l : List Char) (h : ∀ c ∈ l, isPlain c = true) :
    parseDq q l = some l := by
  cases l with
  | nil => simp [parseDq, dqParts, cleanupWs]
  | cons c l =>
    have hc := h c (by simp)
    simp only [parseDq, List.length_cons, dqParts, hc, if_true, spanPlain_all (c :: l) h,
      Option.map_some]
    simp [cleanupWs, isHexEscPart, (isPlain_ne hc).1]

/-- PARTIAL (keepsEscapes): for a literal made of plain characters only (no backslash, `#`,
quote) the code's length is the denoted length. -/
theorem length_asis_partial (l : List Char) (h : ∀ c ∈ l, isPlain c = true) :
    litLength escAsIs l = litLength escSpec l := by
  simp only [litLength, escAsIs, escSpec, if_true, Bool.false_eq_true, if_false,
    parseDq_plain _ l h, Option.map_some, decodeCss]
  rw [decodeCssAux_noBackslash l _ (by omega) (fun c hc => (isPlain_ne (h c hc)).1)]

example : ∀ c ∈ ['h', 'é', ' ', 'x'], isPlain c = true := by decide

/-! ### the code's literal parser and printer: refutations on the model -/

/-- REFUTATION (cleanupDropsSpace): `"x\ y"` is emitted as `"x\y"`, which denotes `xy` -/
theorem cleanup_asis_refuted :
    (parseDq escAsIs ['x', '\\', ' ', 'y']).map (display escAsIs) = some ['"', 'x', '\\', 'y', '"'] ∧
    decodeCss ['x', '\\', 'y'] = ['x', 'y'] ∧ decodeCss ['x', '\\', ' ', 'y'] = ['x', ' ', 'y'] := by
  decide

/-- … and `"\ "` as the unterminated token `"\"` -/
theorem cleanup_asis_broken_token :
    (parseDq escAsIs ['\\', ' ']).map (display escAsIs) = some ['"', '\\', '"'] := by decide

/-- with the flag off the escaped space survives -/
theorem cleanup_spec_ok :
    (parseDq { escAsIs with cleanupDropsSpace := false } ['x', '\\', ' ', 'y']).map (display escAsIs)
      = some ['"', 'x', '\\', ' ', 'y', '"'] := by decide

/-- REFUTATION (dqLineContinuation): backslash-newline denotes nothing, the code stores `\a` -/
theorem linecont_asis_refuted :
    parseDq escAsIs ['a', '\\', '\n', 'b'] = some ['a', '\\', 'a', ' ', 'b'] ∧
    decodeCss ['a', '\\', '\n', 'b'] = ['a', 'b'] ∧
    parseDq { escAsIs with dqLineContinuation := false } ['a', '\\', '\n', 'b'] = some ['a', 'b'] := by
  decide

/-- REFUTATION (badEscapeLiteral): `\d800` denotes U+FFFD, the code reads `d800` -/
theorem badescape_asis_refuted :
    parseDq escAsIs ['\\', 'd', '8', '0', '0'] = some ['d', '8', '0', '0'] ∧
    decodeCss ['\\', 'd', '8', '0', '0'] = [Char.ofNat 0xFFFD] ∧
    parseDq { escAsIs with badEscapeLiteral := false } ['\\', 'd', '8', '0', '0'] = some [Char.ofNat 0xFFFD] := by
  decide

/-- REFUTATION (puaUnterminated, code before 46a3464; shared with C09): U+E000 followed by
`a` was printed `"\e000a"`, which denotes U+E000A; now `"\e000 a"`. -/
theorem pua_asis_refuted :
    display escAsIs [Char.ofNat 0xE000, 'a'] = ['"', '\\', 'e', '0', '0', '0', 'a', '"'] ∧
    decodeCss ['\\', 'e', '0', '0', '0', 'a'] = [Char.ofNat 0xE000A] ∧
    display escSpec [Char.ofNat 0xE000, 'a'] = ['"', '\\', 'e', '0', '0', '0', ' ', 'a', '"'] ∧
    decodeCss ['\\', 'e', '0', '0', '0', ' ', 'a'] = [Char.ofNat 0xE000, 'a'] := by decide

/-- PARTIAL (puaUnterminated): a value without private-use characters is printed the same
by the old and the new code. -/
theorem displayBody_partial (q : EscQuirks) (qc : Char) :
    ∀ v : List Char, (∀ c ∈ v, isPrivateUse c = false) →
      displayBody q qc v = displayBody escSpec qc v
  | [], _ => rfl
  | c :: v, h => by
    have hc := h c (by simp)
    have ih := displayBody_partial q qc v (fun d hd => h d (by simp [hd]))
    simp [displayBody, hc, ih]

example : ∀ c ∈ ['a', '"', 'é'], isPrivateUse c = false := by decide

/-- REFUTATION (unquoteDecimal, code before e515c26): `unquote("\10")` read the digits as
decimal (U+000A) instead of hexadecimal (U+0010) -/
theorem unquote_asis_refuted :
    unquote escAsIs ['\\', '1', '0'] = [Char.ofNat 10] ∧
    unquote escSpec ['\\', '1', '0'] = [Char.ofNat 16] := by decide

theorem takeHex_nonhex (k : Nat) (c : Char) (l : List Char) (h : isHex c = false) :
    takeHex k (c :: l) = ([], c :: l) := by
  cases k <;> simp [takeHex, h]

theorem unquote_quote_aux (q : EscQuirks) : ∀ (v : List Char) (f : Nat),
    (quoteVal v).length ≤ f → unquoteAux q f (quoteVal v) = v
  | [], f, _ => by cases f <;> rfl
  | c :: v, f, hf => by
    have hq : quoteVal (c :: v) = (if c = '\\' then ['\\', '\\'] else [c]) ++ quoteVal v := by
      simp [quoteVal]
    rw [hq] at hf ⊢
    by_cases hc : c = '\\'
    · subst hc
      simp only [if_true, List.cons_append, List.nil_append, List.length_cons] at hf ⊢
      obtain ⟨f', rfl⟩ : ∃ f', f = f' + 2 := ⟨f - 2, by omega⟩
      have hh : isHex '\\' = false := by decide
      have h1 : ¬ ('\\' = '\n') := by decide
      simp [unquoteAux, takeHex_nonhex _ _ _ hh, h1, unquote_quote_aux q v (f' + 1) (by omega)]
    · simp only [hc, if_false, List.cons_append, List.nil_append, List.length_cons] at hf ⊢
      obtain ⟨f', rfl⟩ : ∃ f', f = f' + 1 := ⟨f - 1, by omega⟩
      simp [unquoteAux, hc, unquote_quote_aux q v f' (by omega)]

/-- `quote_unquote_id` on the representation, in the order unquote ∘ quote: quoting an unquoted
value (doubling its backslashes) and unquoting it again gives the value back, for every value
and every setting of the flags. -/
theorem quote_unquote_id (q : EscQuirks) (v : List Char) : unquote q (quoteVal v) = v := by
  unfold unquote
  exact unquote_quote_aux q v _ (by omega)

/-! ### the as-is value representation without kept escapes -/

theorem unquoteAux_noBackslash (q : EscQuirks) (v : List Char) (f : Nat) (hf : v.length ≤ f)
    (h : ∀ c ∈ v, c ≠ '\\') : unquoteAux q f v = v :=
  fuel_id (fun f => by cases f <;> rfl) (fun f c l hc => by simp [unquoteAux, hc]) v f hf h

theorem quoteVal_noBackslash (v : List Char) (h : ∀ c ∈ v, c ≠ '\\') : quoteVal v = v := by
  induction v with
  | nil => rfl
  | cons c v ih =>
    have := ih (fun d hd => h d (List.mem_cons_of_mem _ hd))
    simp only [quoteVal, List.flatMap_cons] at this ⊢
    rw [this, if_neg (h c List.mem_cons_self)]
    rfl

/-- The other order, quote ∘ unquote, under the hypothesis that excludes the open finding
C27-keeps-escapes (the stored value contains no kept escape, i.e. no backslash):
`quote(unquote(s))` has the value of `s`, for every flag setting. -/
theorem quote_unquote_id_asis (q : EscQuirks) (v : List Char) (h : ∀ c ∈ v, c ≠ '\\') :
    quoteVal (unquote q v) = v ∧ unquote q v = v := by
  have hu : unquote q v = v := unquoteAux_noBackslash q v _ (by omega) h
  exact ⟨by rw [hu]; exact quoteVal_noBackslash v h, hu⟩

example : ∀ c ∈ ['h', 'é', '"', ' ', Char.ofNat 0xE000], c ≠ '\\' := by decide

theorem displayBody_plain (q : EscQuirks) : ∀ v : List Char,
    (∀ c ∈ v, c ≠ '"' ∧ isPrivateUse c = false) → displayBody q '"' v = v
  | [], _ => rfl
  | c :: v, h => by
    have hc := h c (by simp)
    have ih := displayBody_plain q v (fun d hd => h d (by simp [hd]))
    simp [displayBody, hc.1, hc.2, ih]

/-- PIPELINE, proved fragment: for every literal made of plain characters (no backslash, `#`,
quote or line break) without private-use characters, under EVERY flag setting, the code's
own pipeline — parse the literal, print the value — emits a token whose decoded content is
exactly what the literal denotes.
NOT PROVED (kept visible): the same for ALL literals with all flags off,
`∀ lit v, parseDq escSpec lit = some v → ∃ w, display escSpec v = qc :: w ++ [qc] ∧
 decodeCss w = decodeCss lit`.  The single escape steps are there (`Str.hexNum_hexDigits`:
`hexNum (hexDigits n) = n` for the variable-length `{:x}` digits; `decode_hex_escape_space`,
`decode_hex_escape_bare`, `decode_display_escape` below); missing is the induction that chains
them over `dqParts`, `cleanupWs` and `displayBody` (the terminator logic for escapes of control
and private-use characters), and the `prefQuote` case split. -/
theorem pipeline_preserves_plain (q : EscQuirks) (lit : List Char)
    (h : ∀ c ∈ lit, isPlain c = true ∧ isPrivateUse c = false) :
    ∃ v, parseDq q lit = some v ∧ display q v = '"' :: v ++ ['"'] ∧ decodeCss v = decodeCss lit := by
  have hp : ∀ c ∈ lit, isPlain c = true := fun c hc => (h c hc).1
  refine ⟨lit, parseDq_plain q lit hp, ?_, rfl⟩
  have hnq : ∀ c ∈ lit, c ≠ '"' ∧ isPrivateUse c = false :=
    fun c hc => ⟨(isPlain_ne (h c hc).1).2, (h c hc).2⟩
  have hcq : ¬ '"' ∈ lit := by
    intro hm; exact (hnq _ hm).1 rfl
  have hb := displayBody_plain q lit hnq
  simp [display, prefQuote, hcq, hb]

example : ∀ c ∈ ['h', 'é', ' ', '😀'], isPlain c = true ∧ isPrivateUse c = false := by decide

/-! ### hex escapes with `{:x}` digits are read back -/

theorem hex_round_trip (n : Nat) (h : n < 0x110000) :
    hexNum (hexDigits n) = n ∧ (∀ c ∈ hexDigits n, isHex c = true) ∧
    1 ≤ (hexDigits n).length ∧ (hexDigits n).length ≤ 6 :=
  ⟨hexNum_hexDigits n (by simp; omega), isHex_hexDigits n,
    List.length_pos_iff.2 (hexDigits_ne_nil n), length_hexDigits_le6 n h⟩

/-- a hex escape written as `\` + `{:x}` digits + space (how `normalized_escaped_char_q` stores
a control character and how `Display` writes a private-use character before a hex digit, space
or tab) decodes to exactly that code point and the decoder continues after the space -/
theorem decode_hex_escape_space (n : Nat) (h : n < 0x110000) (rest : List Char) (f : Nat) :
    decodeCssAux (f + 1) ('\\' :: (hexDigits n ++ ' ' :: rest)) = escChar n :: decodeCssAux f rest := by
  obtain ⟨hv, hh, -, h6⟩ := hex_round_trip n h
  rw [decode_hex_run _ ' ' rest f (hexDigits_ne_nil n) hh h6 (by decide), hv]
  rfl

/-- the same escape without a terminating space, in front of a character that is neither a
hex digit nor white space (the form `Display` uses otherwise) -/
theorem decode_hex_escape_bare (n : Nat) (h : n < 0x110000) (c : Char) (rest : List Char) (f : Nat)
    (hc : isHex c = false) (hw : isWs c = false) :
    decodeCssAux (f + 1) ('\\' :: (hexDigits n ++ c :: rest)) =
      escChar n :: decodeCssAux f (c :: rest) := by
  obtain ⟨hv, hh, -, h6⟩ := hex_round_trip n h
  rw [decode_hex_run _ c rest f (hexDigits_ne_nil n) hh h6 hc, hv, dropWs, hw]
  rfl

/-- consequently the private-use escape that `Display` writes (with its terminator) is read
back as the private-use character itself -/
theorem decode_display_escape (c : Char) (h0 : c.toNat ≠ 0) (rest : List Char) (f : Nat) :
    decodeCssAux (f + 1) ('\\' :: (hexDigits c.toNat ++ ' ' :: rest)) = c :: decodeCssAux f rest := by
  have hlt : c.toNat < 0x110000 := by
    have hv' : c.toNat < 0xD800 ∨ (0xDFFF < c.toNat ∧ c.toNat < 0x110000) := c.valid
    omega
  rw [decode_hex_escape_space c.toNat hlt, escChar_toNat c h0]

end C27
