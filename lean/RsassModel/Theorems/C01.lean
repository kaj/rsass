/-
C01 — Compilation never panics or aborts: *site theorems* (level "other"/partial).

For each panic-capable site named in the property's anchors the guard logic is modelled in
`Glue/Panics.lean`; here, per site:
  `…_safe` / `…_ok_iff`   the weakest decidable guard under which the site does not panic;
  `site_guard_met`        (a tag in the docstring, not a name) the guard follows from what the
                          code around the site establishes, for every input;
  refutations             where the property's bound (≤ 64 KiB, nesting ≤ 64) does *not* imply
                          the guard: a concrete in-bounds witness on which the site panics.
                          Each refutation is a registered known finding whose witness is
                          replayed on the real code by `./check C01`.

Not provable here (kept visible): "for all byte strings the whole compilation does not panic" —
the parser and evaluator are not modelled; that part of the claim rests on the source inventory
(`Theorems/C01Sites.lean`, props/C01.py `static_checks`) and on the exploration.
-/
import RsassModel.Glue.Panics
import RsassModel.Glue.PanicsLemmas
namespace Panics

/-! ## 1. `Format::get_indent` and the CSS writer (output/format.rs, output/cssbuf.rs, css/*.rs) -/

/-- weakest guard of the slice `&INDENT[..=len]` -/
theorem getIndent_ok_iff (c : Bool) (len : Nat) :
    (getIndent c len).isOk = true ↔ c = true ∨ len ≤ 80 := by
  rw [getIndent_eq, ← okB_iff]
  cases okB c len <;> exact Iff.rfl

theorem getIndent_safe (c : Bool) (len : Nat) (h : c = true ∨ len ≤ 80) :
    getIndent c len ≠ .error .sliceOOB := by
  intro he
  have := (getIndent_ok_iff c len).2 h
  rw [he] at this
  cases this

example : getIndent false 80 = .ok 81 := by decide

/-- **Full characterisation, every output tree**: writing a CSS tree panics in `get_indent`
exactly when the format is not compressed and some `get_indent(len)` call gets `len > 80`;
`itemsNeed` is the largest such `len` of the traversal. -/
theorem writeCss_ok_iff (c : Bool) (items : List Item) :
    (writeCss c items).isOk = true ↔ c = true ∨ itemsNeed 0 items ≤ 80 :=
  writeItems_isOk c 0 items

/-- the writer can fail in no other way than the slice bound (no `usize` underflow in
`indent - existing`, `existing - indent - 1`, `indent -= 2`) -/
theorem writeCss_only_sliceOOB (c : Bool) (items : List Item) :
    writeCss c items = .ok () ∨ writeCss c items = .error .sliceOOB := by
  unfold writeCss
  rw [writeItems_eq]
  cases okB c (itemsNeed 0 items)
  · exact .inr rfl
  · exact .inl rfl

/-- compressed output never reaches the slice -/
theorem writeCss_compressed_safe (items : List Item) : writeCss true items = .ok () :=
  writeItems_eq true 0 items

/-- `site_safe` for block nesting: a comment-free tree of block depth ≤ 40 is written without panic -/
theorem writeCss_safe_of_depth (items : List Item) (hc : noComments items = true)
    (hd : itemsDepth items ≤ 40) : writeCss false items = .ok () := by
  have h := itemsNeed_le_depth 0 items hc
  exact eq_ok_of_isOk ((writeCss_ok_iff false items).2 (.inr (by omega)))

example : noComments [tower 40 .leaf] = true ∧ itemsDepth [tower 40 .leaf] ≤ 40 := by decide +kernel

/-- towers of `n` blocks around one declaration: safe iff `n ≤ 40` (for every `n`) -/
theorem tower_ok_iff (n : Nat) : (writeCss false [tower n .leaf]).isOk = true ↔ n ≤ 40 := by
  rw [writeCss_ok_iff]
  unfold itemsNeed
  rw [tower_need, show itemsNeed 0 [] = 0 from rfl, natMax_zero, Bool.false_eq_true, false_or]
  omega

/-- **Refutation** (known finding `C01-indent-nesting`): writing 41 or more nested blocks
panics in `get_indent` (the site the name refers to). The property's bound allows nesting up
to 64. -/
theorem getIndent_unsafe (depth : Nat) (h : 41 ≤ depth) :
    writeCss false [tower depth .leaf] = .error .sliceOOB := by
  rcases writeCss_only_sliceOOB false [tower depth .leaf] with h1 | h1
  · have := (tower_ok_iff depth).1 (by rw [h1]; rfl)
    omega
  · exact h1

/-- the nesting bound of the property does not imply the guard: an in-bounds witness -/
theorem nestingBound_not_sufficient :
    ∃ it : Item, itemDepth it ≤ 64 ∧ writeCss false [it] = .error .sliceOOB :=
  ⟨tower 41 .leaf, by rw [tower_depth]; omega, getIndent_unsafe 41 (Nat.le_refl _)⟩

/-- 41 is minimal: every tower of `n ≤ 40` blocks is written without panic -/
theorem tower_40_safe (n : Nat) (h : n ≤ 40) : writeCss false [tower n .leaf] = .ok () :=
  eq_ok_of_isOk ((tower_ok_iff n).2 h)

/-! ### `Comment::write` (css/comment.rs) -/

/-- weakest guard of `Comment::write`: the comment's own indentation fits, and a continuation
line is not indented more than 81 columns beyond it -/
theorem commentWrite_ok_iff (c : Bool) (indent existing : Nat) :
    (commentWrite c indent existing).isOk = true ↔
      c = true ∨ (indent ≤ 80 ∧ existing ≤ indent + 81) := by
  rw [commentWrite_eq, sliced_isOk, okB_iff, commentNeed_le]

/-- the two `usize` subtractions of `Comment::write` never underflow -/
theorem commentWrite_no_underflow (c : Bool) (indent existing : Nat) :
    commentWrite c indent existing ≠ .error .overflow := by
  rw [commentWrite_eq]
  cases okB c (commentNeed indent existing) <;> exact fun h => nomatch h

/-- **Refutation** (known finding `C01-indent-comment`): a top-level comment whose second line
starts with 82 spaces panics, although the input is 90 bytes and not nested at all. -/
theorem commentIndent_unsafe :
    commentWrite false 0 (existingOf 0 [List.replicate 82 ' ' ++ ['*', ' ', 'b', ' ']]) = .error .sliceOOB := by
  decide +kernel

example : (commentWrite false 0 (existingOf 0 [List.replicate 81 ' ' ++ ['*']])).isOk = true := by decide +kernel

/-! ## 2. `ValueRange` (value/range.rs) -/

/-- weakest guard of `ValueRange::new`'s `to + step` -/
theorem rangeNew_ok_iff (f t : Int) (incl : Bool) (ht : inI64 t) :
    (rangeNew f t incl).isOk = true ↔
      ¬ (incl = true ∧ ((f ≤ t ∧ t = i64Max) ∨ (t < f ∧ t = i64Min))) := by
  cases incl
  · exact iff_of_true rfl fun h => Bool.false_ne_true h.1
  · have h : (rangeNew f t true).isOk = (addI64 t (if t ≥ f then 1 else -1)).isOk := by
      unfold rangeNew
      rw [if_pos rfl]
      cases addI64 t (if t ≥ f then 1 else -1) <;> rfl
    rw [h, addI64_isOk, eq_self, true_and]
    unfold inI64 at *
    split <;> omega

example : inI64 3 ∧ ¬ (true = true ∧ (((1 : Int) ≤ 3 ∧ (3 : Int) = i64Max) ∨ ((3 : Int) < 1 ∧ (3 : Int) = i64Min))) := by decide

/-- **Refutation** (known finding `C01-range-overflow`):
`@for $i from 1 through 9223372036854775807` overflows in `to + step`. -/
theorem valueRange_overflow : rangeNew 1 i64Max true = .error .overflow := by decide

theorem valueRange_overflow_down : rangeNew 0 i64Min true = .error .overflow := by decide

/-- the bound value is reachable from source text: `into_integer` saturates, it does not fail -/
theorem satI64_reaches_max : satI64 9223372036854775808 = i64Max := by decide

/-- so the `inI64` hypotheses of `rangeNew_ok_iff` and `rangeIter_safe` are met by every bound that
comes out of `into_integer` -/
theorem satI64_in_range (x : Int) : inI64 (satI64 x) := by
  unfold satI64 inI64 i64Min i64Max
  split
  · omega
  · split <;> omega

/-- once constructed, iterating a range never overflows (`self.from += self.step`),
for every number of iterations -/
theorem rangeIter_safe (f t : Int) (incl : Bool) (hf : inI64 f) (r : Range)
    (h : rangeNew f t incl = .ok r) (ht : inI64 t) (fuel : Nat) : (rangeRun fuel r).isOk = true := by
  obtain ⟨rfl, hto, hstep⟩ := rangeNew_ok h ht
  exact rangeRun_isOk fuel r hf hto hstep

/-! ## 3. `Number`'s `Display` (value/number.rs): `16 - whole.log10().ceil() as usize` -/

/-- weakest guard of the `usize` subtraction -/
theorem maxDecimals_ok_iff (whole : Nat) : (maxDecimals whole).isOk = true ↔ clog10 whole ≤ 16 := by
  unfold maxDecimals usub; split <;> simp_all

/-- `site_guard_met`: the subtraction is evaluated only when `frac != 0`, and an `f64` with a
non-zero fraction is smaller than 2^52 in magnitude (f64 fact, trusted); then the guard holds. -/
theorem numFmt_maxDecimals_safe (whole : Nat) (h : whole < 2 ^ 52) :
    (maxDecimals whole).isOk = true := by
  rw [maxDecimals_ok_iff]
  apply clog10_le whole 16 (by omega)
  have : (2 : Nat) ^ 52 < 10 ^ 16 := by decide
  omega

example : (4503599627370495 : Nat) < 2 ^ 52 := by decide

/-- the hypothesis is needed: without it the subtraction underflows -/
theorem maxDecimals_unsafe_beyond : maxDecimals (10 ^ 16 + 1) = .error .overflow := by decide

/-! ## 4. `Color::cmp` (value/colors/mod.rs): `partial_cmp().unwrap()` -/

/-- `site_safe`: no NaN channel, no panic -/
theorem colorCmp_safe (a b : Hsla) (ha : a.noNaN) (hb : b.noNaN) : (colorCmp a b).isOk = true := by
  obtain ⟨ha1, ha2, ha3, ha4⟩ := ha
  obtain ⟨hb1, hb2, hb3, hb4⟩ := hb
  rw [colorCmp_isOk, Ne, hslaPartialCmp_eq_none]
  rintro (h | ⟨-, h | ⟨-, h | ⟨-, h⟩⟩⟩)
  · exact pcmpChan_ne_none ha1 hb1 h
  · exact pcmpChan_ne_none ha2 hb2 h
  · exact pcmpChan_ne_none ha3 hb3 h
  · exact pcmpChan_ne_none ha4 hb4 h

example : (hslaFromValues (some 0) (some 50000) (some 50000) (some 1000)).noNaN := by decide

/-- weakest guard, for colours built by `hsl()`/`hsla()` (saturation and alpha are NaN-free after
`hsla_from_values` / `Hsla::new`): `Color::cmp` panics exactly when the hue comparison is
undefined, or hue and saturation compare equal and the lightness comparison is undefined. -/
theorem colorCmp_panics_iff (h1 s1 l1 a1 h2 s2 l2 a2 : Chan) :
    colorCmp (hslaFromValues h1 s1 l1 a1) (hslaFromValues h2 s2 l2 a2) = .error .unwrapNone ↔
      (pcmpChan h1 h2 = none ∨
        (pcmpChan h1 h2 = some .eq ∧ pcmpChan (normSat s1) (normSat s2) = some .eq ∧ pcmpChan l1 l2 = none)) := by
  rw [colorCmp_eq_error, hslaPartialCmp_eq_none]
  -- the saturation and alpha comparisons are never undefined, so their disjuncts drop out
  simp only [hslaFromValues, pcmpChan_eq_none (a := normSat s1), pcmpChan_eq_none (a := normAlpha a1),
    normSat_ne_none, normAlpha_ne_none, or_self, false_or, and_false, or_false]

/-- **Refutation** (known finding `C01-colorcmp-nan`): `hsl(NaN, 50%, 50%) == hsl(0, 50%, 50%)`;
NaN is reachable within the bounds (`math.div(0, 0)`). -/
theorem colorCmp_nan_unsafe :
    colorCmp (hslaFromValues none (some 50000) (some 50000) (some 1000))
             (hslaFromValues (some 0) (some 50000) (some 50000) (some 1000)) = .error .unwrapNone := by
  decide

/-- a NaN lightness alone is enough when hue and saturation agree -/
theorem colorCmp_nanLum_unsafe :
    colorCmp (hslaFromValues (some 0) (some 50000) none (some 1000))
             (hslaFromValues (some 0) (some 50000) (some 50000) (some 1000)) = .error .unwrapNone := by
  decide

/-! ## 5. `Selector::resolve_ref` (css/selectors/selector.rs): `append(..).unwrap()` -/

/-- weakest guard: every alternative of the parent can take the child's suffix -/
theorem resolveRef_ok_iff (parents : List (List Char)) (child : List Char) :
    (resolveRef parents child).isOk = true ↔ ∀ p ∈ parents, appendOk p child = true := by
  induction parents with
  | nil => simp [resolveRef]
  | cons p ps ih =>
    unfold resolveRef resolveRefOne
    by_cases h : appendOk p child = true
    · simp [h, ih]
    · simp [h]

/-- `site_safe`: a child that does not continue with a name suffix (`&`, `&.b`, `&:hover`, `& b`) -/
theorem resolveRef_safe_noSuffix (parents : List (List Char)) (child : List Char)
    (h : suffixOf child = .none) : (resolveRef parents child).isOk = true := by
  rw [resolveRef_ok_iff]; intro p _; simp [appendOk, h]

example : suffixOf ".b".toList = .none := by decide

/-- **Refutation** (known finding `C01-resolve-ref-unwrap`): `*{&b{x:y}}` -/
theorem resolveRef_unwrap : resolveRef ["*".toList] "b".toList = .error .unwrapErr := by
  decide +kernel

/-- also after an attribute or a functional pseudo class: `a[x]{&b{..}}`, `:not(a){&b{..}}` -/
theorem resolveRef_unwrap_attr : resolveRef ["a[x]".toList] "b".toList = .error .unwrapErr := by
  decide +kernel
theorem resolveRef_unwrap_pseudo : resolveRef [":not(a)".toList] "-b".toList = .error .unwrapErr := by
  decide +kernel

/-- `&*` panics under every parent -/
theorem resolveRef_star_unsafe (p : List Char) (ps : List (List Char)) (child : List Char)
    (h : suffixOf child = .star) : resolveRef (p :: ps) child = .error .unwrapErr := by
  simp [resolveRef, resolveRefOne, appendOk, h]

/-! ## 6. `Pseudo::replace` (css/selectors/pseudo.rs): `.unwrap()` — safe -/

/-- `site_guard_met`, full: whatever the selector and whatever `original`, `SelectorSet::replace`
never reaches the `unwrap()` with an `Err`: the inner call re-checks the *same* `original` that
the outer call has already checked. -/
theorem pseudoReplace_safe (original : List Bool) (s : List Sel) :
    (setReplace original s).isOk = true := by
  unfold setReplace
  by_cases h : checkExtendComplex original = true
  · simp [h, argsReplace_ok original h s]
  · simp [h]

/-- the guard is what makes it safe: called with an unchecked complex `original` it would panic -/
theorem pseudoReplace_needs_check :
    argsReplace [true] [.node false []] = .error .unwrapErr := by decide

/-! ## 7. `Context::lock_loading` (input/context.rs): `pos.next().unwrap()` — safe -/

/-- `site_guard_met`, full: in a compilation the root file is locked first into the empty map
and every later lock has a non-root position, so the `unwrap()` is never on `None`. -/
theorem lockLoading_safe (root : String) (later : List String) :
    (compileLocks root later).isOk = true := by
  unfold compileLocks lockLoading
  simp [lockAll_ok]

/-- outside that discipline (public API misuse: a second root with the same name) it panics -/
theorem lockLoading_root_twice :
    lockLoading [("a", .root)] "a" .root = .error .unwrapNone := by decide

/-! ## 8. `calc()` (sass/functions/math/css.rs): `args.get_single().unwrap()` -/

theorem calcInnerCall_ok_iff (named positional : Nat) :
    (calcInnerCall named positional).isOk = true ↔ named = 0 ∧ positional ≤ 1 := by
  unfold calcInnerCall getSingleOk
  rw [isOk_ite, Bool.and_eq_true, beq_iff_eq, decide_eq_true_iff]

/-- **Refutation** (known finding `C01-calc-get-single`): a plain-CSS function value named `calc`
with two arguments, `call(get-function("calc", $css: true), 1, 2)`, passed to `calc()` -/
theorem calcInnerCall_unsafe : calcInnerCall 0 2 = .error .unwrapErr := by decide

/-! ## Specification vs. code as first examined (deviation flags)

`Quirks.spec` is the property: with every flag off no modelled site panics, for all inputs.
`Quirks.asis` is the code as first examined: the flagged functions are exactly the guard-logic
models above, so every refutation above is a refutation of `asis`.  A flag is live in a run only
while its finding's witness still crashes the real code. -/

/-- **The property on the specification model**: the CSS writer never panics, for every tree,
style and indentation. With both flags off `getIndentQ` is `.ok 0` by definition, so this says
only that nothing else in the writer can fail (no `usize` underflow); that the code behaves like
`spec` is what commit 0a71721 "do not panic on indentation deeper than 80 columns" establishes
and the correspondence run checks on towers up to depth 64. -/
theorem writeCss_spec_never_panics (c : Bool) (items : List Item) :
    writeCssQ Quirks.spec c items = .ok () :=
  writeItemsQ_fixed Quirks.spec rfl rfl c 0 items

/-- it is enough that `get_indent` itself is repaired (both call-site flags off) -/
theorem writeCss_fixed_never_panics (q : Quirks) (h1 : q.indentSlice80 = false)
    (h2 : q.commentIndentSlice80 = false) (c : Bool) (items : List Item) :
    writeCssQ q c items = .ok () :=
  writeItemsQ_fixed q h1 h2 c 0 items

/-- the as-is writer is the guard-logic model (so `writeCss_ok_iff`, `getIndent_unsafe`, … are
statements about `asis`) -/
theorem writeCss_asis_eq (c : Bool) (items : List Item) :
    writeCssQ Quirks.asis c items = writeCss c items :=
  writeItemsQ_asis c 0 items

/-- PARTIAL (as-is writer): comment-free trees of block depth ≤ 40 -/
theorem writeCss_asis_partial (items : List Item) (hc : noComments items = true)
    (hd : itemsDepth items ≤ 40) : writeCssQ Quirks.asis false items = .ok () := by
  rw [writeCss_asis_eq]
  exact writeCss_safe_of_depth items hc hd

theorem writeCss_asis_refuted :
    writeCssQ Quirks.asis false [tower 41 .leaf] ≠ writeCssQ Quirks.spec false [tower 41 .leaf] := by
  rw [writeCss_asis_eq, writeCss_spec_never_panics, getIndent_unsafe 41 (Nat.le_refl _)]
  exact nofun

/-- the other flagged sites on the specification model: `flagged false _ = .ok ()` by definition —
the statement records what `spec` demands of each site, it proves nothing about the code -/
theorem sites_spec_never_panic (f t : Int) (incl : Bool) (a b : Hsla)
    (ps : List (List Char)) (child : List Char) (named positional : Nat) :
    rangeNewQ Quirks.spec f t incl = .ok () ∧ colorCmpQ Quirks.spec a b = .ok () ∧
    resolveRefQ Quirks.spec ps child = .ok () ∧ calcInnerCallQ Quirks.spec named positional = .ok () := by
  simp [rangeNewQ, colorCmpQ, resolveRefQ, calcInnerCallQ, flagged, Quirks.spec]

/-- … and on `asis` they are the guard-logic models (refuted above by their witnesses) -/
theorem sites_asis_refuted :
    rangeNewQ Quirks.asis 1 i64Max true = .error .overflow ∧
    resolveRefQ Quirks.asis ["*".toList] "b".toList = .error .unwrapErr ∧
    calcInnerCallQ Quirks.asis 0 2 = .error .unwrapErr ∧
    colorCmpQ Quirks.asis (hslaFromValues none (some 50000) (some 50000) (some 1000))
      (hslaFromValues (some 0) (some 50000) (some 50000) (some 1000)) = .error .unwrapNone := by
  decide +kernel

end Panics
