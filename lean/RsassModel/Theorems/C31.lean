/-
C31 — Color channels stay in range and conversions round-trip.
Property theorems over the exact-rational instance of the colour model
(`RsassModel/Color/{Conv,Ctor,Eval}.lean`); `CQuirks.spec` is the model with every deviation
of the code switched off, `CQuirks.asis` the model with every deviation switched on: the code as
first read (the flag docstrings in `Color/Conv.lean` name the commits that repaired some of them).
-/
import RsassModel.Color.Eval
import RsassModel.Color.LemmasRT
namespace C31
open Color

/-! ## Channels in range (specified model, all inputs including out-of-range ones) -/

/-- Every constructor expression (hex literal, colour name, `rgb()`, `hsl()`, `hwb()`,
`rgba($c, $a)`), whatever its arguments, yields a colour value all of whose stored channels
are in range. -/
theorem ctor_wf (e : CExpr Rat) (c : Col Rat) (he : e.isCtor = true)
    (h : e.eval CQuirks.spec = some c) : c.WF := by
  induction e generalizing c with
  | hex ds =>
    simp only [CExpr.eval, Option.map_eq_some_iff] at h
    obtain ⟨r, hr, rfl⟩ := h
    simp only [CExpr.isCtor, List.all_eq_true, decide_eq_true_eq] at he
    exact fromHex_wf ds he r hr
  | name s =>
    simp only [CExpr.eval, Option.map_eq_some_iff] at h
    obtain ⟨r, hr, rfl⟩ := h
    exact fromName_wf s r hr
  | rgb r g b a => exact mkRgb_wf r g b a c h
  | rgbaOf c0 a ih =>
    simp only [CExpr.eval] at h
    split at h
    · simp only [Option.some.injEq] at h
      subst h
      rename_i c1 a1 h1 _
      exact Col.resetSource_wf _ (Col.setAlpha_wf _ _ (ih c1 he h1))
    · simp at h
  | hsl hh s l a => exact mkHsl_wf hh s l a c h
  | hwb hh w b a => exact mkHwb_wf hh w b a c h
  | call f c0 args => simp [CExpr.isCtor] at he
  | mix a b w => simp [CExpr.isCtor] at he

/-- `red()`, `green()`, `blue()` of a well-formed colour are within 0..255 (after rounding). -/
theorem wf_rgb_in_range (c : Col Rat) (h : c.WF) :
    (0 ≤ c.red CQuirks.spec ∧ c.red CQuirks.spec ≤ 255) ∧
    (0 ≤ c.green CQuirks.spec ∧ c.green CQuirks.spec ≤ 255) ∧
    (0 ≤ c.blue CQuirks.spec ∧ c.blue CQuirks.spec ≤ 255) := by
  have w := Col.toRgba_wf c h
  unfold Col.red Col.green Col.blue
  exact ⟨round_range _ 255 w.1.1 (by exact_mod_cast w.1.2),
    round_range _ 255 w.2.1.1 (by exact_mod_cast w.2.1.2),
    round_range _ 255 w.2.2.1.1 (by exact_mod_cast w.2.2.1.2)⟩

theorem wf_hsl_in_range (c : Col Rat) (h : c.WF) :
    (0 ≤ c.saturation CQuirks.spec ∧ c.saturation CQuirks.spec ≤ 100) ∧
    (0 ≤ c.lightness CQuirks.spec ∧ c.lightness CQuirks.spec ≤ 100) := by
  obtain ⟨_, hs, hl, _⟩ := Col.toHsla_wf c h
  exact ⟨pct_range _ hs, pct_range _ hl⟩

theorem wf_hwb_in_range (c : Col Rat) (h : c.WF) :
    (0 ≤ c.whiteness CQuirks.spec ∧ c.whiteness CQuirks.spec ≤ 100) ∧
    (0 ≤ c.blackness CQuirks.spec ∧ c.blackness CQuirks.spec ≤ 100) := by
  obtain ⟨hw, hb, _, _⟩ := Col.toHwba_wf c h
  exact ⟨pct_range _ hw, pct_range _ hb⟩

theorem wf_hue_in_0_360 (c : Col Rat) (h : c.WF) :
    0 ≤ c.hue CQuirks.spec ∧ c.hue CQuirks.spec < 360 :=
  (Col.toHsla_wf c h).1

/-- red, green and blue of any constructed colour are in 0..255. -/
theorem rgb_in_range (e : CExpr Rat) (c : Col Rat) (he : e.isCtor = true)
    (h : e.eval CQuirks.spec = some c) :
    (0 ≤ c.red CQuirks.spec ∧ c.red CQuirks.spec ≤ 255) ∧
    (0 ≤ c.green CQuirks.spec ∧ c.green CQuirks.spec ≤ 255) ∧
    (0 ≤ c.blue CQuirks.spec ∧ c.blue CQuirks.spec ≤ 255) :=
  wf_rgb_in_range c (ctor_wf e c he h)

/-- saturation, lightness, whiteness and blackness of any constructed colour
are in 0%..100%. -/
theorem hsl_in_range (e : CExpr Rat) (c : Col Rat) (he : e.isCtor = true)
    (h : e.eval CQuirks.spec = some c) :
    ((0 ≤ c.saturation CQuirks.spec ∧ c.saturation CQuirks.spec ≤ 100) ∧
     (0 ≤ c.lightness CQuirks.spec ∧ c.lightness CQuirks.spec ≤ 100)) ∧
    ((0 ≤ c.whiteness CQuirks.spec ∧ c.whiteness CQuirks.spec ≤ 100) ∧
     (0 ≤ c.blackness CQuirks.spec ∧ c.blackness CQuirks.spec ≤ 100)) :=
  ⟨wf_hsl_in_range c (ctor_wf e c he h), wf_hwb_in_range c (ctor_wf e c he h)⟩

/-- the hue of any constructed colour is in `[0, 360)`. -/
theorem hue_in_0_360 (e : CExpr Rat) (c : Col Rat) (he : e.isCtor = true)
    (h : e.eval CQuirks.spec = some c) :
    0 ≤ c.hue CQuirks.spec ∧ c.hue CQuirks.spec < 360 :=
  wf_hue_in_0_360 c (ctor_wf e c he h)

/-- the alpha of any constructed colour is in 0..1. -/
theorem alpha_in_0_1 (e : CExpr Rat) (c : Col Rat) (he : e.isCtor = true)
    (h : e.eval CQuirks.spec = some c) : 0 ≤ c.alpha ∧ c.alpha ≤ 1 :=
  Col.alpha_range c (ctor_wf e c he h)

/-- the hypotheses are satisfiable: `hsl(-400, 150%, -20%, 3)` is a constructor expression
that evaluates (out-of-range arguments are clamped, not rejected) -/
example : ∃ c, (CExpr.hsl ⟨-400, .none⟩ ⟨150, .pct⟩ ⟨-20, .pct⟩ (some ⟨3, .none⟩) : CExpr Rat).eval
    CQuirks.spec = some c := ⟨_, rfl⟩

/-- rgb → hsl → rgb: for every rgba value whose channels are in range
(`0 ≤ r, g, b ≤ 255`, `0 ≤ a ≤ 1`, exact rationals — nothing else is assumed), converting to hsl
(`Rgba.toHsla`, specified `max_min_largest`) and back (`Hsla.toRgba`) gives exactly the same four
channels.  Proof: `Color/LemmasRT.lean` — `sector` (six hue sectors of `max_min_largest`, with the
ties at the sector borders), `hue2rgb_tri` (the piecewise `hue2rgb` as one triangle profile),
`hsl_back` (q = max, p = min for all three branches of the lightness/saturation formulas). -/
theorem rgb_hsl_rgb (c : Rgba Rat) (h : c.WF) :
    (c.toHsla CQuirks.spec).toRgba.r = c.r ∧ (c.toHsla CQuirks.spec).toRgba.g = c.g ∧
    (c.toHsla CQuirks.spec).toRgba.b = c.b ∧ (c.toHsla CQuirks.spec).toRgba.a = c.a :=
  Rgba.hsl_roundtrip c h

theorem rgb_hsl_rgb_eqv (c : Rgba Rat) (h : c.WF) :
    (Col.hsla (c.toHsla CQuirks.spec)).eqv CQuirks.spec (Col.rgba c) = true :=
  Col.eqv_toHsla_self (.rgba c) h

example : (Rgba.fromBytes 255 255 0 : Rgba Rat).WF := Rgba.fromBytes_wf 255 255 0 (by omega) (by omega) (by omega)

/-- rgb → hwb → rgb: for every rgba value whose channels are in range
(`0 ≤ r, g, b ≤ 255`, `0 ≤ a ≤ 1`; nothing else is assumed), converting to hwb (`Rgba.toHwba`:
whiteness = min/255, blackness = 1 − max/255, hue from the hsl conversion) and back
(`Hwba.toRgba`, which rsass computes through `Hsla::from(hwba)`) gives exactly the same four
channels.  Proof: `(c.toHwba).toHsla = c.toHsla` (`Rgba.hwb_toHsla_eq`), then `rgb_hsl_rgb`. -/
theorem rgb_hwb_rgb (c : Rgba Rat) (h : c.WF) :
    ((c.toHwba CQuirks.spec).toRgba CQuirks.spec).r = c.r ∧
    ((c.toHwba CQuirks.spec).toRgba CQuirks.spec).g = c.g ∧
    ((c.toHwba CQuirks.spec).toRgba CQuirks.spec).b = c.b ∧
    ((c.toHwba CQuirks.spec).toRgba CQuirks.spec).a = c.a :=
  Rgba.hwb_roundtrip c h

theorem rgb_hwb_rgb_eqv (c : Rgba Rat) (h : c.WF) :
    (Col.hwba (c.toHwba CQuirks.spec)).eqv CQuirks.spec (Col.rgba c) = true := by
  obtain ⟨e1, e2, e3, e4⟩ := Rgba.hwb_roundtrip c h
  exact eqv_spec_of_chan _ _ e1 e2 e3 e4

/-- two colours with the same rgba channels compare equal, whichever
representation (rgba / hsla / hwba) and source notation they have. -/
theorem eq_of_same_rgba (x y : Col Rat)
    (hr : (x.toRgba CQuirks.spec).r = (y.toRgba CQuirks.spec).r)
    (hg : (x.toRgba CQuirks.spec).g = (y.toRgba CQuirks.spec).g)
    (hb : (x.toRgba CQuirks.spec).b = (y.toRgba CQuirks.spec).b)
    (ha : (x.toRgba CQuirks.spec).a = (y.toRgba CQuirks.spec).a) :
    x.eqv CQuirks.spec y = true :=
  eqv_spec_of_chan x y hr hg hb ha

theorem eqv_refl (x : Col Rat) : x.eqv CQuirks.spec x = true :=
  Col.eqv_spec_refl x

/-- PARTIAL (`hslUnclamped`): with saturation and lightness arguments inside 0..1 `Hsla::new`
as written is `Hsla::new` as specified. -/
theorem hslUnclamped_partial (q : CQuirks) (h s l a : Rat) (f : Bool)
    (hs : 0 ≤ s ∧ s ≤ 1) (hl : 0 ≤ l ∧ l ≤ 1) :
    Hsla.new { q with hslUnclamped := true } h s l a f
      = Hsla.new { q with hslUnclamped := false } h s l a f := by
  unfold Hsla.new degMod
  simp only [if_true, Bool.false_eq_true, if_false, clamp_id 0 1 s hs.1 hs.2, clamp_id 0 1 l hl.1 hl.2]
  congr 1
  rw [cmax_eq_max, max_eq_right hs.1]

example : (0 : Rat) ≤ 1 / 2 ∧ (1 / 2 : Rat) ≤ 1 := by norm_num

/-- REFUTATION (`hslUnclamped`, finding C31-hsl-unclamped): as written, `hsl(0, 50%, 150%)`
reports lightness 150%. -/
theorem hslUnclamped_refutes :
    (mkHsl CQuirks.asis ⟨0, .none⟩ ⟨50, .pct⟩ ⟨150, .pct⟩ none : Option (Col Rat)).map
      (fun c => c.lightness CQuirks.asis) = some 150 := by decide +kernel

/-- PARTIAL (`hwbUnclamped`): with whiteness and blackness inside 0..1 `Hwba::new` as written
is `Hwba::new` as specified. -/
theorem hwbUnclamped_partial (q : CQuirks) (h w b a : Rat)
    (hw : 0 ≤ w ∧ w ≤ 1) (hb : 0 ≤ b ∧ b ≤ 1) :
    Hwba.new { q with hwbUnclamped := true } h w b a
      = Hwba.new { q with hwbUnclamped := false } h w b a := by
  unfold Hwba.new
  simp only [if_true, Bool.false_eq_true, if_false, clamp_id 0 1 w hw.1 hw.2, clamp_id 0 1 b hb.1 hb.2]

/-- REFUTATION (`hwbUnclamped`, finding C31-hwb-unclamped): as written, `hwb(0 -20% 30.5%)`
reports whiteness -20%. -/
theorem hwbUnclamped_refutes :
    (mkHwb CQuirks.asis ⟨0, .none⟩ ⟨-20, .pct⟩ ⟨61 / 2, .pct⟩ none : Option (Col Rat)).map
      (fun c => c.whiteness CQuirks.asis) = some (-20) := by decide +kernel

/-- PARTIAL (`degModNegZero`): unless the angle is a negative multiple of 360, `deg_mod` as
written is `deg_mod` as specified. -/
theorem degMod_partial (q : CQuirks) (v : Rat) (h : ¬ (v < 0 ∧ CExtra.fmod v (360 : Rat) = 0)) :
    degMod { q with degModNegZero := true } v = degMod { q with degModNegZero := false } v := by
  unfold degMod
  simp only [if_true, Bool.false_eq_true, if_false]
  show (if (decide (v < 0)) = true then _ else _) = _
  by_cases hv : v < 0
  · have hr := (fmod_neg v 360 (by norm_num) hv).2
    have hne : CExtra.fmod v (360 : Rat) ≠ 0 := fun e => h ⟨hv, e⟩
    have : CExtra.fmod v (360 : Rat) < 0 := lt_of_le_of_ne hr hne
    simp [hv, this]
  · have hr := (fmod_nonneg v 360 (by norm_num) (not_lt.mp hv)).1
    have : ¬ (CExtra.fmod v (360 : Rat) < 0) := not_lt.mpr hr
    simp [hv, this, cabs_of_nonneg _ hr]

example : ¬ ((-400 : Rat) < 0 ∧ CExtra.fmod (-400 : Rat) (360 : Rat) = 0) := by decide +kernel

/-- REFUTATION (`degModNegZero`, finding C31-hue-360, fixed by 60b104e): as written before the fix, the hue of
`hsl(-360, 50%, 50%)` is 360, outside `[0, 360)`. -/
theorem degMod_refutes : degMod CQuirks.asis (-360 : Rat) = 360 := by decide +kernel

/-- PARTIAL (`hslaEqStructural`): when one of the two colours is stored as rgba, equality as
written is equality as specified (comparison of the rgba channels). -/
theorem hslaEq_partial (q : CQuirks) (x : Rgba Rat) (y : Col Rat) :
    (Col.rgba x).eqv { q with hslaEqStructural := true } y
      = (Col.rgba x).eqv { q with hslaEqStructural := false } y ∧
    y.eqv { q with hslaEqStructural := true } (Col.rgba x)
      = y.eqv { q with hslaEqStructural := false } (Col.rgba x) := by
  cases y <;> exact ⟨rfl, rfl⟩

/-- REFUTATION (`hslaEqStructural`, finding C31-hsla-eq-structural, fixed by b49c85e): as written before the fix,
`hsl(0, 0%, 50%)` and `hsl(120, 0%, 50%)` — the same grey, rgba (127.5, 127.5, 127.5, 1) —
compare unequal. -/
theorem hslaEq_refutes :
    let x : Col Rat := .hsla (Hsla.new CQuirks.asis 0 0 (1 / 2) 1 true)
    let y : Col Rat := .hsla (Hsla.new CQuirks.asis 120 0 (1 / 2) 1 true)
    (x.toRgba CQuirks.asis).r = (y.toRgba CQuirks.asis).r ∧
    (x.toRgba CQuirks.asis).g = (y.toRgba CQuirks.asis).g ∧
    (x.toRgba CQuirks.asis).b = (y.toRgba CQuirks.asis).b ∧
    x.eqv CQuirks.asis y = false := by decide +kernel

/-- REFUTATION (`maxTieRedGreen`, finding C31-max-tie, fixed by a02d8f5): as written before the fix, `#ffff00` (red = green >
blue) is converted to hue 0, saturation 0, lightness 0 — black — and rebuilding it from its
own hsl channels gives rgb (0, 0, 0); as specified the hue is 60, lightness 1/2 and the
round trip is exact. -/
theorem maxTie_refutes :
    let y : Rgba Rat := Rgba.fromBytes 255 255 0
    ((y.toHsla CQuirks.asis).h = 0 ∧ (y.toHsla CQuirks.asis).l = 0 ∧
      ((y.toHsla CQuirks.asis).toRgba).r = 0) ∧
    ((y.toHsla CQuirks.spec).h = 60 ∧ (y.toHsla CQuirks.spec).l = 1 / 2 ∧
      ((y.toHsla CQuirks.spec).toRgba).r = 255 ∧ ((y.toHsla CQuirks.spec).toRgba).g = 255 ∧
      ((y.toHsla CQuirks.spec).toRgba).b = 0) := by decide +kernel

/-- PARTIAL (`maxTieRedGreen`, general form): for EVERY rgba value except those with
red = green > blue (the decidable hypothesis that excludes the deviation), `Rgba.toHsla` with the
old `max_min_largest` (`Color.qTie` = specified model + `maxTieRedGreen`) is the specified
`Rgba.toHsla` — the other ties (red = blue > green, green = blue > red, all equal) pick another
channel index but give the same maximum and the same hue. -/
theorem maxTie_partial (c : Rgba Rat)
    (hx : ¬ (c.r / 255 = c.g / 255 ∧ c.b / 255 < c.r / 255)) :
    c.toHsla qTie = c.toHsla CQuirks.spec :=
  Rgba.toHsla_qTie c hx

/-- the hypothesis is satisfiable by a colour with a tie for the maximum: `#ff00ff` -/
example : ¬ ((255 : Rat) / 255 = (0 : Rat) / 255 ∧ (255 : Rat) / 255 < (255 : Rat) / 255) := by norm_num

end C31
