/-
C13 — Map keys follow `==` and map equality ignores order.

  "Two maps are equal when they have `==` keys mapped to `==` values, regardless of key order.
   map.get, map.has-key, map.remove, map.set and map.merge find a key exactly when it is `==` to a
   stored key, and a map literal with two `==` keys is an error.  map.merge(m1, m2) contains the
   keys of both, with m2's values winning and m1's key order followed by m2's new keys; after
   map.set(m, k, v), map.get returns v for k and other entries are unchanged."

Model: `Value/OrderMap.lean` (`OM`: `ordermap.rs` as an association list searched with
`stored == probe`), `Value/MapFn.lean` (the functions of `sass/functions/map.rs` and the map
literal arm of `sass/value.rs`, instantiated with `Val.V.eq`), `Value/Eq.lean` (map `==`).
The generic laws are stated for an arbitrary key equality `keq`; the ones that need `==` to be an
equivalence take `OM.KEquiv keq` (on the key type) as a hypothesis — numbers within ε of each
other are not transitive, so this is a genuine restriction of the statement, not of the proof.
-/
import RsassModel.Value.OrderMapLemmas
import RsassModel.Value.MapFn
import RsassModel.Value.Lemmas
import RsassModel.Value.SimpleKeys
import RsassModel.Value.StructKeys
import RsassModel.Value.MapKeys
import RsassModel.Num.XRatLaws
namespace C13
open Val Num OM

section generic
variable {K β : Type} (keq : K → K → Bool)

/-! ## Lookup: a key is found exactly when it is `==` to a stored key -/

/-- `map.has-key` / `map.get` succeed iff some stored key is `==` to the probe. -/
theorem lookup_iff_exists_eq (m : List (K × β)) (key : K) :
    (OM.get keq m key).isSome = true ↔ ∃ e ∈ m, keq e.1 key = true := by
  rw [get_isSome]
  exact contains_iff keq m key

/-- … and what is returned is the value of such an entry. -/
theorem lookup_returns_matching (m : List (K × β)) (key : K) (v : β) (h : OM.get keq m key = some v) :
    ∃ k, (k, v) ∈ m ∧ keq k key = true := get_some_mem keq m key v h

/-- `map.set` / `map.merge` replace (rather than append) exactly when the key is found the same way. -/
theorem set_replaces_iff (m : List (K × β)) (key : K) (v : β) :
    (OM.insert keq m key v).2 = true ↔ ∃ e ∈ m, keq e.1 key = true := by
  rw [insert_snd]
  exact contains_iff keq m key

/-! ## map.set -/

/-- after `map.set(m, k, v)`, `map.get` returns `v` for `k` (for every key that is `==` to itself) -/
theorem get_set_same (m : List (K × β)) (key : K) (v : β) (hrefl : keq key key = true) :
    OM.get keq (OM.insert keq m key v).1 key = some v := get_insert_same keq m key v hrefl

/-- the reflexivity hypothesis is needed: a key that is not `==` to itself (NaN) is never found again -/
theorem get_set_same_needs_refl :
    OM.get (fun (_ _ : Nat) => false) (OM.insert (fun (_ _ : Nat) => false) [] 0 1).1 0 = (none : Option Nat) := by
  decide

/-- other entries are unchanged — weakest form: no stored key is `==` to both keys, and the two
keys are not `==`. -/
theorem get_set_other (m : List (K × β)) (key key' : K) (v : β)
    (h1 : ∀ e ∈ m, keq e.1 key = true → keq e.1 key' = false) (h2 : keq key key' = false) :
    OM.get keq (OM.insert keq m key v).1 key' = OM.get keq m key' := get_insert_other keq m key key' v h1 h2

/-- … which follows when `==` is an equivalence and `key`, `key'` are not `==`. -/
theorem get_set_other_equiv (E : KEquiv keq) (m : List (K × β)) (key key' : K) (v : β)
    (h2 : keq key key' = false) :
    OM.get keq (OM.insert keq m key v).1 key' = OM.get keq m key' :=
  get_insert_other keq m key key' v (fun e _ => E.not_both keq h2 e.1) h2

/-- the keys (and their order, and the stored representation of a key that
was already there) are unchanged; a new key goes to the end. -/
theorem set_preserves_order (m : List (K × β)) (key : K) (v : β) :
    OM.keys (OM.insert keq m key v).1 =
      if OM.contains keq m key then OM.keys m else OM.keys m ++ [key] := keys_insert keq m key v

/-! ## map.remove -/

/-- exactly the first entry whose key is `==` is erased, everything else keeps its
place. -/
theorem remove_spec (m : List (K × β)) (key : K) :
    OM.remove keq m key = m.eraseP (fun e => keq e.1 key) := remove_eq_eraseP keq m key

/-- other keys are looked up as before -/
theorem get_remove_other (E : KEquiv keq) (m : List (K × β)) (key key' : K) (h : keq key key' = false) :
    OM.get keq (OM.remove keq m key) key' = OM.get keq m key' :=
  OM.get_remove_other keq m key key' fun e _ => E.not_both keq h e.1

/-- afterwards the key is gone (maps never hold two `==` keys: `NoDup`) -/
theorem has_key_after_remove (E : KEquiv keq) (m : List (K × β)) (key : K) (hd : OM.NoDup keq m) :
    OM.contains keq (OM.remove keq m key) key = false := contains_remove_same keq E m key hd

/-! ## map.merge -/

/-- `m1`'s key order, followed by `m2`'s new keys in `m2`'s order. -/
theorem merge_order (m1 m2 : List (K × β)) (hd : OM.NoDup keq m2) :
    OM.keys (OM.merge keq m1 m2) = OM.keys m1 ++ (OM.keys m2).filter (fun k => !OM.contains keq m1 k) :=
  keys_merge keq m1 m2 hd

/-- the result has the keys of both. -/
theorem merge_keys (m1 m2 : List (K × β)) (hd : OM.NoDup keq m2) (k : K) :
    k ∈ OM.keys (OM.merge keq m1 m2) ↔
      k ∈ OM.keys m1 ∨ (k ∈ OM.keys m2 ∧ OM.contains keq m1 k = false) := by
  rw [keys_merge keq m1 m2 hd]
  simp [List.mem_append, List.mem_filter]

/-- every entry of `m2` is found with `m2`'s value. -/
theorem merge_values_right_wins (E : KEquiv keq) (m1 m2 : List (K × β)) (hd : OM.NoDup keq m2)
    (k : K) (v : β) (hm : (k, v) ∈ m2) :
    OM.get keq (OM.merge keq m1 m2) k = some v := get_merge_right keq E m1 m2 hd k v hm

/-- entries of `m1` that `m2` does not mention are unchanged -/
theorem merge_left_kept (E : KEquiv keq) (m1 m2 : List (K × β)) (key' : K)
    (h : ∀ e ∈ m2, keq e.1 key' = false) :
    OM.get keq (OM.merge keq m1 m2) key' = OM.get keq m1 key' := get_merge_other keq E m1 m2 key' h

/-! ## map literals -/

/-- a literal evaluates (to its entries, in order) iff no two of its keys
are `==`; otherwise it is the error "Duplicate key.". -/
theorem literal_dup_error (kvs : List (K × β)) :
    (OM.literal keq [] kvs = some kvs ↔ OM.NoDup keq kvs) ∧
    (OM.literal keq [] kvs = none ↔ ¬ OM.NoDup keq kvs) := by
  have h := literal_some_iff keq [] kvs
  have hs : OM.literal keq [] kvs = some kvs ↔ OM.NoDup keq kvs :=
    ⟨fun hs => ((h kvs).mp hs).2.2, fun hd => (h kvs).mpr ⟨by simp, by simp, hd⟩⟩
  refine ⟨hs, fun hn hd => by simp [hs.mpr hd] at hn, fun hnd => ?_⟩
  cases hl : OM.literal keq [] kvs with
  | none => rfl
  | some r => exact absurd ((h r).mp hl).2.2 hnd

end generic

/-! ## instantiation with SassScript values -/

variable {ν : Type} [NumCmpOps ν]

/-- the map functions of `map.rs` are the generic operations with `css::Value`'s `==` -/
theorem mapFns_are_OM (q : ValQuirks) (env : Env ν) (m m2 : Entries ν) (k v : V ν) (ks : List (V ν)) :
    mapGet q env m k = (OM.get (V.eq q env) m k).getD .null
    ∧ mapHasKey q env m k = (OM.get (V.eq q env) m k).isSome
    ∧ mapSet q env m k v = (OM.insert (V.eq q env) m k v).1
    ∧ mapRemove q env m ks = OM.removeAll (V.eq q env) m ks
    ∧ mapMerge q env m m2 = OM.merge (V.eq q env) m m2
    ∧ mapLiteral q env m = OM.literal (V.eq q env) [] m := ⟨rfl, rfl, rfl, rfl, rfl, rfl⟩

/-- `map.get` after `map.set` on values: any NaN-free key (specification model). -/
theorem value_get_set_same (L : NumCmpLaws ν) (env : Env ν) (m : Entries ν) (k v : V ν) (hk : k.noNaN = true) :
    mapGet Val.spec env (mapSet Val.spec env m k v) k = v := by
  have hr : V.eq Val.spec env k k = true := reflAt Val.spec env L k hk (Or.inl rfl)
  simp [mapGet, mapSet, keqV, get_insert_same (V.eq Val.spec env) m k v hr]

/-! ## map equality ignores order -/

/-- a map is `==` to every permutation of itself (entries NaN-free), for every flag
setting except the derived order-sensitive comparison. -/
theorem mapEq_perm (L : NumCmpLaws ν) (q : ValQuirks) (hq : q.mapEqOrdered = false)
    (hq2 : q.argListNeverEqual = false) (env : Env ν)
    (a b : Entries ν) (hp : a.Perm b) (hn : noNaNPairs a = true) :
    V.eq q env (.map a) (.map b) = true := by
  have hra := reflAtPairs q env L a hn (Or.inl hq2)
  have hF : inclF q env a b = true :=
    inclF_of_sub q env a b fun p hp' => ⟨hp.mem_iff.mp hp', hra p hp'⟩
  have hM : b.all (fun p => hasMatch q env a p) = true :=
    List.all_eq_true.mpr fun p hp' =>
      hasMatch_of_mem q env a p (hp.mem_iff.mpr hp') (hra p (hp.mem_iff.mpr hp')).1 (hra p (hp.mem_iff.mpr hp')).2
  rw [V.eq_map_map, hq, hF, hM, hp.length_eq, beq_self_eq_true]
  simp only [Bool.false_eq_true, if_false, Bool.and_self, ite_self]

/-- FULL (specification model). -/
theorem mapEq_perm_spec (L : NumCmpLaws ν) (env : Env ν) (a b : Entries ν) (hp : a.Perm b)
    (hn : noNaNPairs a = true) : V.eq Val.spec env (.map a) (.map b) = true :=
  mapEq_perm L Val.spec rfl rfl env a b hp hn

def one : XRat := ⟨1, 1⟩
def two : XRat := ⟨2, 1⟩
def env0 : Env XRat := { conv := fun _ _ => none }

/-- the hypotheses are met by `(a: 1, b: 2)` and `(b: 2, a: 1)` -/
example : ([(V.str [97] .none, V.num one 0), (V.str [98] .none, V.num two 0)] : Entries XRat).Perm
    [(V.str [98] .none, V.num two 0), (V.str [97] .none, V.num one 0)] := List.Perm.swap _ _ _

/-- REFUTATION (flag `mapEqOrdered`, the derived `PartialEq` of `OrderMap` before commit 001310e):
`(a: 1, b: 2) == (b: 2, a: 1)` was false; the specification and the code today say true. -/
theorem mapEq_ordered_not_perm :
    V.eq asisOld env0 (.map [(.str [97] .none, .num one 0), (.str [98] .none, .num two 0)])
        (.map [(.str [98] .none, .num two 0), (.str [97] .none, .num one 0)]) = false
    ∧ V.eq Val.spec env0 (.map [(.str [97] .none, .num one 0), (.str [98] .none, .num two 0)])
        (.map [(.str [98] .none, .num two 0), (.str [97] .none, .num one 0)]) = true
    ∧ V.eq asis env0 (.map [(.str [97] .none, .num one 0), (.str [98] .none, .num two 0)])
        (.map [(.str [98] .none, .num two 0), (.str [97] .none, .num one 0)]) = true := by
  decide +kernel

/-- keys in different representations: `(1: x, "a": y)` is `==` to `(a: y, 1.0: x)` -/
theorem mapEq_respelled :
    V.eq Val.spec env0 (.map [(.num one 0, .str [120] .none), (.str [97] .dbl, .str [121] .none)])
        (.map [(.str [97] .none, .str [121] .sgl), (.num ⟨2, 2⟩ 0, .str [120] .dbl)]) = true := by
  decide +kernel

/-- a literal with two `==` keys in different representations is the error: `(1: x, 1.0: y)`, `("a": x, a: y)` -/
theorem literal_dup_examples :
    (mapLiteral Val.spec env0 [(.num one 0, .tt), (.num ⟨2, 2⟩ 0, .ff)]).isNone = true
    ∧ (mapLiteral Val.spec env0 [(.str [97] .dbl, .tt), (.str [97] .none, .ff)]).isNone = true
    ∧ (mapLiteral Val.spec env0 [(.str [97] .dbl, .tt), (.num one 0, .ff)]).isSome = true := by
  decide +kernel

/-! ## `==` is an equivalence on a key type (non-vacuity of `KEquiv`) -/

/-- `KEquiv` is satisfiable: any decidable equality. -/
theorem kequiv_beq : KEquiv (fun a b : Nat => a == b) :=
  KEquiv.of_canon _ id fun _ _ => beq_iff_eq

/-- `==` of SassScript values IS an equivalence on the simple keys (null, booleans, functions,
strings without backslash escapes in any quote style), for every flag setting — so every law above
that assumes `KEquiv` applies to maps with such keys (`"a"`, `a` and `'a'` being one key). -/
theorem keys_equivalence_simple (q : ValQuirks) (env : Env ν) : KEquiv (keqSimple q env) :=
  kequiv_simple q env

/-- e.g. right-wins for `map.merge` on maps with simple keys, as the code is today -/
theorem merge_values_right_wins_simple (env : Env ν) (m1 m2 : List (SimpleKey ν × V ν))
    (hd : OM.NoDup (keqSimple asis env) m2) (k : SimpleKey ν) (v : V ν) (hm : (k, v) ∈ m2) :
    OM.get (keqSimple asis env) (OM.merge (keqSimple asis env) m1 m2) k = some v :=
  merge_values_right_wins (keqSimple asis env) (kequiv_simple asis env) m1 m2 hd k v hm

/-- On numbers `==` is NOT transitive (1−2⁻⁵³ == 1 == 1+2⁻⁵² but the outer two differ): the
equivalence hypothesis cannot be dropped for numeric keys. -/
theorem number_eq_not_transitive :
    V.eq Val.spec env0 (.num ⟨2 ^ 53 - 1, 2 ^ 53⟩ 0) (.num one 0) = true
    ∧ V.eq Val.spec env0 (.num one 0) (.num ⟨2 ^ 52 + 1, 2 ^ 52⟩ 0) = true
    ∧ V.eq Val.spec env0 (.num ⟨2 ^ 53 - 1, 2 ^ 53⟩ 0) (.num ⟨2 ^ 52 + 1, 2 ^ 52⟩ 0) = false := by
  decide +kernel

/-- `==` is an equivalence on null, booleans, functions and ALL strings — escapes included, same
or different quote kinds — with the unquote-based `CssString::eq` (code since 5b7f338 = spec). -/
theorem keys_equivalence_strings (q : ValQuirks) (hq : q.strEqSameQuotesRaw = false) (env : Env ν) :
    KEquiv (keqAtom q env) := kequiv_atom q hq env

/-- … and on structured keys: lists, nested to any depth, of such keys (mutual structural
induction through a canonical tree on which `==` is plain equality). -/
theorem keys_equivalence_structured (q : ValQuirks) (hq : q.strEqSameQuotesRaw = false) (env : Env ν) :
    KEquiv (keqGood q env) := kequiv_good q hq env

/-- hence the "other keys" laws hold for such keys with NO equivalence hypothesis, for the code as
it is today: `map.get` of another key after `map.set`, … -/
theorem get_set_other_structured (env : Env ν) (m : List (GoodKey ν × V ν)) (k k' : GoodKey ν) (v : V ν)
    (h : keqGood asis env k k' = false) :
    OM.get (keqGood asis env) (OM.insert (keqGood asis env) m k v).1 k' = OM.get (keqGood asis env) m k' :=
  get_set_other_equiv (keqGood asis env) (kequiv_good asis rfl env) m k k' v h

/-- … `map.merge`: m2's values win, … -/
theorem merge_values_right_wins_structured (env : Env ν) (m1 m2 : List (GoodKey ν × V ν))
    (hd : OM.NoDup (keqGood asis env) m2) (k : GoodKey ν) (v : V ν) (hm : (k, v) ∈ m2) :
    OM.get (keqGood asis env) (OM.merge (keqGood asis env) m1 m2) k = some v :=
  merge_values_right_wins (keqGood asis env) (kequiv_good asis rfl env) m1 m2 hd k v hm

/-- … and `map.remove` leaves other keys alone. -/
theorem get_remove_other_structured (env : Env ν) (m : List (GoodKey ν × V ν)) (k k' : GoodKey ν)
    (h : keqGood asis env k k' = false) :
    OM.get (keqGood asis env) (OM.remove (keqGood asis env) m k) k' = OM.get (keqGood asis env) m k' :=
  get_remove_other (keqGood asis env) (kequiv_good asis rfl env) m k k' h

/-- a structured key with an escape: `("a\20 b" (x null))` is a good key -/
example : (V.list [.str [97, 92, 32, 98] .dbl, .list [.str [120] .none, .null] .space false] .space false : V XRat).goodKey = true := by
  decide +kernel

/-- The old same-quote fast path (flag `strEqSameQuotesRaw`) breaks transitivity on strings:
`"a b" == a b` (unquoted) and unquoted `== "a\ b"`, but `"a b" == "a\ b"` was false — the
hypothesis `strEqSameQuotesRaw = false` cannot be dropped. -/
theorem string_eq_old_not_transitive :
    V.eq asisOld env0 (.str [97, 32, 98] .dbl) (.str [97, 32, 98] .none) = true
    ∧ V.eq asisOld env0 (.str [97, 32, 98] .none) (.str [97, 92, 32, 98] .dbl) = true
    ∧ V.eq asisOld env0 (.str [97, 32, 98] .dbl) (.str [97, 92, 32, 98] .dbl) = false := by
  decide +kernel

/-- Colours cannot be added without a hypothesis: channel comparison has a tolerance of 1e-7 and is
not transitive (red channels 0, 0.6e-7, 1.2e-7). -/
theorem color_eq_not_transitive :
    V.eq Val.spec env0 (.color ⟨0, 1⟩ ⟨0, 1⟩ ⟨0, 1⟩ one) (.color ⟨6, 10 ^ 8⟩ ⟨0, 1⟩ ⟨0, 1⟩ one) = true
    ∧ V.eq Val.spec env0 (.color ⟨6, 10 ^ 8⟩ ⟨0, 1⟩ ⟨0, 1⟩ one) (.color ⟨12, 10 ^ 8⟩ ⟨0, 1⟩ ⟨0, 1⟩ one) = true
    ∧ V.eq Val.spec env0 (.color ⟨0, 1⟩ ⟨0, 1⟩ ⟨0, 1⟩ one) (.color ⟨12, 10 ^ 8⟩ ⟨0, 1⟩ ⟨0, 1⟩ one) = false := by
  decide +kernel

/-- MAPS AS KEYS: on maps whose keys and values are structured keys, the set-like map `==` (same
length, inclusion both ways — specification and code since 3dd7990) is an equivalence: it is
"same length and the same set of canonical (key, value) pairs" (`Val.mapEq_good_iff`). -/
theorem keys_equivalence_maps (q : ValQuirks) (hq : q.strEqSameQuotesRaw = false)
    (hm1 : q.mapEqOrdered = false) (hm2 : q.mapEqOneSided = false) (env : Env ν) :
    KEquiv (keqMap q env) := kequiv_map q hq hm1 hm2 env

/-- the "other keys" laws for maps used as keys, on the code as it is today, no hypothesis on `==` -/
theorem get_set_other_mapkeys (env : Env ν) (m : List (MapKey ν × V ν)) (k k' : MapKey ν) (v : V ν)
    (h : keqMap asis env k k' = false) :
    OM.get (keqMap asis env) (OM.insert (keqMap asis env) m k v).1 k' = OM.get (keqMap asis env) m k' :=
  get_set_other_equiv (keqMap asis env) (kequiv_map asis rfl rfl rfl env) m k k' v h

theorem merge_values_right_wins_mapkeys (env : Env ν) (m1 m2 : List (MapKey ν × V ν))
    (hd : OM.NoDup (keqMap asis env) m2) (k : MapKey ν) (v : V ν) (hm : (k, v) ∈ m2) :
    OM.get (keqMap asis env) (OM.merge (keqMap asis env) m1 m2) k = some v :=
  merge_values_right_wins (keqMap asis env) (kequiv_map asis rfl rfl rfl env) m1 m2 hd k v hm

/-- The hypothesis `mapEqOrdered = false` of `keys_equivalence_maps` matters: the derived ordered
comparison (before commit 001310e) is an equivalence too, but a finer one, for which
`(a: x, b: y)` and `(b: y, a: x)` were different keys.  (The one-sided comparison of 001310e is not
even symmetric, but only on maps with numbers: `C12.mapEq_oneSided_not_symm`.) -/
theorem map_keys_ordered_are_finer :
    V.eq asisOld env0 (.map [(.str [97] .none, .tt), (.str [98] .none, .ff)])
        (.map [(.str [98] .none, .ff), (.str [97] .none, .tt)]) = false
    ∧ V.eq asis env0 (.map [(.str [97] .none, .tt), (.str [98] .none, .ff)])
        (.map [(.str [98] .none, .ff), (.str [97] .none, .tt)]) = true := by
  decide +kernel

end C13
