/-
C09 — rsass's own CSS output reads back as the same stylesheet (partial).

Proved here: the string layer (`CssString` Display vs. the reading of a quoted string), on the
escape-token model `Writer.Str`, and `ident_roundtrip` (identifiers written with escapes:
`normalized_escaped_char`, model `Writer.Ident`, lemmas in Writer/LemmasIdent.lean).
Not proved (kept visible, tied by the round-trip run only):
`tree_roundtrip : parseTree (printTree t) = t` on token streams, and the hexadecimal digit
layer of escapes (printing `{:x}` / `hex_number`).
-/
import RsassModel.Writer.CssString
import RsassModel.Writer.Ident
import RsassModel.Writer.LemmasIdent
namespace C09
open Writer.Str

theorem spec_flag : SQuirks.spec.escapeUnterminated = false := rfl

/-- reading what `Display` writes, also after an unterminated escape when the next character
cannot continue it; for every code-point list -/
theorem read_pending (s : List Nat) :
    readAux none (showQ SQuirks.spec s) = s ∧
    (∀ c, needsTerm s = false → readAux (some c) (showQ SQuirks.spec s) = c :: s) := by
  induction s with
  | nil => exact ⟨rfl, fun _ _ => rfl⟩
  | cons x rest ih =>
    obtain ⟨ih1, ih2⟩ := ih
    by_cases hq : x = 34
    · subst hq
      exact ⟨by simp [showQ, readAux, ih1], fun c _ => by simp [showQ, readAux, ih1]⟩
    · by_cases hp : isPrivateUse x = true
      · -- an escape
        cases ht : needsTerm rest with
        | true =>
          exact ⟨by simp [showQ, hq, hp, ht, spec_flag, readAux, ih1],
                 fun c _ => by simp [showQ, hq, hp, ht, spec_flag, readAux, ih1]⟩
        | false =>
          exact ⟨by simp [showQ, hq, hp, ht, spec_flag, readAux, ih2 x ht],
                 fun c _ => by simp [showQ, hq, hp, ht, spec_flag, readAux, ih2 x ht]⟩
      · refine ⟨by simp [showQ, hq, hp, readAux, ih1], ?_⟩
        intro c hn
        simp only [needsTerm, Bool.or_eq_false_iff, decide_eq_false_iff_not] at hn
        simp [showQ, hq, hp, readAux, hn.1.1, hn.1.2, hn.2, ih1]

/-- **string_roundtrip** (specification model): what `Display` writes for a double-quoted
string reads back as the same code points — for every string without a backslash (a backslash
in the value is written unescaped by `Display`; the token model cannot express its effect). -/
theorem string_roundtrip (s : List Nat) (hs : ∀ c ∈ s, c ≠ 92) :
    readQ (showQ SQuirks.spec s) = s := (read_pending s).1

example : ∀ c ∈ [0xE000, 97, 34, 32, 0x10FFFD, 233], c ≠ 92 := by decide

/-- the code as it is since 46a3464 writes what the specification model writes -/
theorem asis_show_eq_spec (s : List Nat) : showQ SQuirks.asis s = showQ SQuirks.spec s := by
  induction s with
  | nil => rfl
  | cons x rest ih =>
    have h1 : SQuirks.asis.escapeUnterminated = false := rfl
    simp only [showQ, ih, h1, spec_flag]

/-- no private-use character is followed by a hex digit, space or tab -/
def noEscThenHex : List Nat → Bool
  | [] => true
  | c :: rest => (!(isPrivateUse c && needsTerm rest)) && noEscThenHex rest

theorem old_show_eq_spec_partial (s : List Nat) (h : noEscThenHex s = true) :
    showQ SQuirks.old s = showQ SQuirks.spec s := by
  induction s with
  | nil => rfl
  | cons x rest ih =>
    simp only [noEscThenHex, Bool.and_eq_true, Bool.not_eq_true', Bool.and_eq_false_iff] at h
    have := ih h.2
    by_cases hq : x = 34
    · simp [showQ, hq, this]
    · by_cases hp : isPrivateUse x = true
      · rcases h.1 with h1 | h1
        · rw [hp] at h1; cases h1
        · simp [showQ, hq, hp, h1, this]
      · simp [showQ, hq, hp, this]

/-- before 46a3464 (`escapeUnterminated`): round trip under the hypothesis that no private-use
character is followed by a hex digit, space or tab -/
theorem old_string_roundtrip_partial (s : List Nat) (hs : ∀ c ∈ s, c ≠ 92) (h : noEscThenHex s = true) :
    readQ (showQ SQuirks.old s) = s := by
  rw [old_show_eq_spec_partial s h]
  exact string_roundtrip s hs

example : noEscThenHex [0xE000, 120, 34, 0xE001] = true := by decide

/-- refutation for the old code: U+E000 followed by `a` was written `\e000a`, which reads
back as the single code point U+E000A -/
theorem old_escape_witness :
    showQ SQuirks.old [0xE000, 97] = [.esc 0xE000 false, .ch 97] ∧
    readQ (showQ SQuirks.old [0xE000, 97]) = [0xE000A] := by decide

/-- the reader as it is since 60db3d6 accepts everything `Display` writes -/
theorem asis_reader_accepts (s : List Nat) :
    readRaw SQuirks.asis (showQ SQuirks.asis s) = some (showQ SQuirks.asis s) := by
  have h : SQuirks.asis.readerIgnoresEscapes = false := rfl
  simp [readRaw, h]

/-- the reader before 60db3d6 (`readerIgnoresEscapes`): a string without `"` is read (undecoded,
so that printing it again gives the same text) … -/
theorem r1_reader_partial (s : List Nat) (h : 34 ∉ s) :
    readRaw SQuirks.r1 (showQ SQuirks.r1 s) = some (showQ SQuirks.r1 s) := by
  have hmem : Tok.bsq ∉ showQ SQuirks.r1 s := by
    induction s with
    | nil => simp [showQ]
    | cons x rest ih =>
      have hx : x ≠ 34 := fun e => h (e ▸ List.mem_cons_self)
      have hr := ih (fun m => h (List.mem_cons_of_mem _ m))
      by_cases hp : isPrivateUse x = true
      · simp [showQ, hx, hp, hr]
      · simp [showQ, hx, hp, hr]
  have h2 : SQuirks.r1.readerIgnoresEscapes = true := rfl
  simp [readRaw, h2, hmem]

example : (34 : Nat) ∉ [0xE000, 97, 39] := by decide

/-- … refutation: the string `a"b'` is written `"a\"b'"` and rejected by the reader -/
theorem r1_reader_witness :
    showQ SQuirks.r1 [97, 34, 98, 39] = [.ch 97, .bsq, .ch 98, .ch 39] ∧
    readRaw SQuirks.r1 (showQ SQuirks.r1 [97, 34, 98, 39]) = none ∧
    readRaw SQuirks.spec (showQ SQuirks.spec [97, 34, 98, 39]) ≠ none := by decide

/-! ## Identifiers: escapes survive the round trip

`ident_escape_roundtrip`: what a reader writes for an escaped code point of an identifier is
read back (by the plain-css reader) as exactly the same text — for every code point and both
positions, with the threshold `0xa1` the two readers use.  Both readers share one threshold:
were the plain-css copy to use another one (`ident_threshold_witness`: `0x80`), an escape such as
`\85 ` written by the scss reader would come back as the raw C1 control character. -/

theorem ident_escape_roundtrip_first (c : Nat) :
    Writer.Ident.reread Writer.Ident.thrCode true (Writer.Ident.normFirst Writer.Ident.thrCode c)
      = some (Writer.Ident.normFirst Writer.Ident.thrCode c) :=
  Writer.Ident.reread_norm true c

theorem ident_escape_roundtrip_rest (c : Nat) :
    Writer.Ident.reread Writer.Ident.thrCode false (Writer.Ident.normRest Writer.Ident.thrCode c)
      = some (Writer.Ident.normRest Writer.Ident.thrCode c) :=
  Writer.Ident.reread_norm false c

/-- the two readers must share the threshold: with `0x80` in the plain-css copy only, the text
`\85 ` (what the scss reader writes for U+0085) is read back as the raw character -/
theorem ident_threshold_witness :
    Writer.Ident.normRest Writer.Ident.thrCode 0x85 = .hex 0x85 ∧
    Writer.Ident.reread 0x80 false (Writer.Ident.normRest Writer.Ident.thrCode 0x85) = some (.raw 0x85) := by
  decide

/-- **ident_roundtrip**: a whole identifier (every code point given as an escape, any code
points, any length) is written back by the reader as a text that reads back as itself. -/
theorem ident_roundtrip (cs : List Nat) :
    Writer.Ident.rereadIdent (Writer.Ident.normIdent cs) = some (Writer.Ident.normIdent cs) := by
  cases cs with
  | nil => rfl
  | cons c rest =>
    simp [Writer.Ident.normIdent, Writer.Ident.rereadIdent, ident_escape_roundtrip_first c,
      Writer.Ident.rereadRest_norm ident_escape_roundtrip_rest rest]

example : Writer.Ident.normIdent [0x6d, 0x85, 0x31, 0xa0, 0x2d, 0x7b]
    = [.raw 0x6d, .hex 0x85, .raw 0x31, .bs 0xa0, .raw 0x2d, .bs 0x7b] := by decide

/-- `string_roundtrip` on the token level for **every** code-point list, backslashes included:
`Display` writes a backslash of the value as the one token `.ch 92`, which the token-level
reader reads as that code point. -/
theorem string_roundtrip_tokens (s : List Nat) : readQ (showQ SQuirks.spec s) = s :=
  (read_pending s).1

/- Not proved (kept visible):
   * `string_roundtrip` on the BYTE level for values with a backslash.  It is false for the code: `Display for
     CssString` writes a backslash unescaped (the value `\` is written `"\"`, an unterminated string; `\61` is
     written `"\61"` and read as `a`), because rsass keeps escapes inside string values as text.  The statement
     needs a specification `Display` that writes `\\` (a new token in `Writer.Str.Tok`) and a byte-level reader
     (hex digits of escapes): neither is part of the model `Writer.Str`.
   * `tree_roundtrip : parseTree (printTree t) = t` on token streams (no parser model of rules/at-rules). -/

end C09
