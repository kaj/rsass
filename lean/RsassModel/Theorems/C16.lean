/-
C16 — Variable assignment follows Sass scoping.

Property theorems about the heap-of-scopes model (Core/Scope.lean, Core/Eval.lean):
`setVariable specScopeQuirks` is the specified assignment; `setVariable asisScopeQuirks`
(every deviation flag on) is `Scope::set_variable` of rsass/src/variablescope.rs as it stood
when the findings of notes/C16.md were registered, before their repairs.
-/
import RsassModel.Core.LemmasScope
import RsassModel.Core.LemmasEval
namespace C16
open Core

/-- On every well-formed heap the scoping-correct walk over
the heap (`setVariable` with no deviation flag) is the chain-level specification
`assignSpec` of DESIGN §7 C16: same suppression by `!default`, and the write lands in
the scope at the chain position `assignSpec` names. -/
theorem assign_refines_spec (h : Heap) (wf : h.WF) (s : Nat) (hs : s < h.size)
    (x : Name) (v : V) (dflt glob : Bool) :
    setVariable specScopeQuirks h s x v dflt glob = assignSpecHeap h s x v dflt glob := by
  unfold setVariable assignSpecHeap
  generalize (dflt && match lookup h s x with
                      | none => false
                      | some w => !w.isNull) = c
  cases c
  case true => rfl
  case false =>
    simp only [Bool.false_eq_true, if_false]
    cases glob with
    | true => rw [if_pos rfl, rootOf_eq_assignSpec h s x]
    | false =>
      have hl : specScopeQuirks.localAt (kindAt h s) = false := by
        cases kindAt h s <;> rfl
      rw [if_neg Bool.false_ne_true, hl, if_neg Bool.false_ne_true, specTarget_eq_assignSpec wf hs]

/-- the chain-level rule, clause by clause (`fr` = chain innermost → root of
`(declares name, is flow-control body)`): -/
theorem spec_global_flag (fr : List (Bool × Bool)) : assignSpec true fr = fr.length - 1 := by
  simp [assignSpec]

theorem spec_at_root (df : Bool × Bool) : assignSpec false [df] = 0 := by
  simp [assignSpec]

/-- innermost enclosing scope that already declares the name, when that is not the root -/
theorem spec_updates_innermost_declaring (fr : List (Bool × Bool)) (i : Nat)
    (hi : fr.findIdx? (·.1) = some i) (hinner : i + 1 < fr.length) :
    assignSpec false fr = i := by
  have : ¬ fr.length ≤ 1 := by omega
  simp [assignSpec, this, hi, hinner]

/-- only the root declares it and some scope on the way is not flow control: new local -/
theorem spec_global_is_shadowed (fr : List (Bool × Bool)) (hn : 1 < fr.length)
    (hi : fr.findIdx? (·.1) = some (fr.length - 1))
    (hblock : (fr.take (fr.length - 1)).all (·.2) = false) :
    assignSpec false fr = 0 := by
  have h1 : ¬ fr.length ≤ 1 := by omega
  have h2 : ¬ (fr.length - 1 + 1 < fr.length) := by omega
  simp [assignSpec, h1, hi, h2, hblock]

/-- only the root declares it and every scope below the root is flow control
("top-level flow control"): the global is updated -/
theorem spec_toplevel_flow_updates_global (fr : List (Bool × Bool)) (hn : 1 < fr.length)
    (hi : fr.findIdx? (·.1) = some (fr.length - 1))
    (hflow : (fr.take (fr.length - 1)).all (·.2) = true) :
    assignSpec false fr = fr.length - 1 := by
  have h1 : ¬ fr.length ≤ 1 := by omega
  have h2 : ¬ (fr.length - 1 + 1 < fr.length) := by omega
  simp [assignSpec, h1, hi, h2, hflow]

/-- nobody declares it: new local in the innermost scope -/
theorem spec_undeclared_is_new_local (fr : List (Bool × Bool))
    (hi : fr.findIdx? (·.1) = none) : assignSpec false fr = 0 := by
  simp [assignSpec, hi]

/-- the hypotheses above are satisfiable: `$g` global, assigned inside `a { @if … { … } }`
(shadow) and inside `@if … { @for … { … } }` (update) -/
example : assignSpec false [(false, true), (false, false), (true, false)] = 0 := by decide +kernel
example : assignSpec false [(false, true), (false, true), (true, false)] = 2 := by decide +kernel
example : assignSpec false [(false, true), (true, false), (true, false)] = 1 := by decide +kernel

/-- Whatever the deviation flags, an assignment with
`!global` (not suppressed by `!default`) inserts into the ultimate parent … -/
theorem global_flag_writes_root (q : ScopeQuirks) (h : Heap) (s : Nat) (x : Name) (v : V) :
    setVariable q h s x v false true = insertAt h (rootOf h s) x v := by
  simp [setVariable]

/-- … which has no parent itself … -/
theorem rootOf_is_root (h : Heap) (wf : h.WF) (s : Nat) (hs : s < h.size) :
    parentAt h (rootOf h s) = none := by
  induction s using Nat.strongRecOn with
  | _ s ih =>
    rw [rootOf_unfold wf hs]
    cases hp : parentAt h s with
    | none => exact hp
    | some p =>
      have hlt : p < s := wf s p hp
      exact ih p hlt (by omega)

/-- … and whose own variables then hold the new value. -/
theorem global_write_visible_at_root (q : ScopeQuirks) (h : Heap) (s : Nat) (hs : s < h.size)
    (x : Name) (v : V) :
    getAssoc x (varsAt (setVariable q h s x v false true) (rootOf h s)) = some v := by
  rw [global_flag_writes_root, varsAt_insertAt_self _ _ (rootOf_lt hs), getAssoc_setAssoc, if_pos rfl]

/-- `!default` with a defined, non-null variable visible from `s` changes nothing (any flags) … -/
theorem default_keeps_defined (q : ScopeQuirks) (h : Heap) (s : Nat) (x : Name) (v w : V) (glob : Bool)
    (hl : lookup h s x = some w) (hw : w.isNull = false) :
    setVariable q h s x v true glob = h := by
  simp [setVariable, hl, hw]

/-- … and with an undefined or null variable it is the plain assignment (any flags). -/
theorem default_only_if_unset_or_null (q : ScopeQuirks) (h : Heap) (s : Nat) (x : Name) (v : V) (glob : Bool)
    (hl : lookup h s x = none ∨ ∃ w, lookup h s x = some w ∧ w.isNull = true) :
    setVariable q h s x v true glob = setVariable q h s x v false glob := by
  rcases hl with hl | ⟨w, hl, hw⟩
  · simp [setVariable, hl]
  · simp [setVariable, hl, hw]

/-- the `!default` test is "undefined or **exactly** `null`" -/
theorem default_test_is_exactly_null (w : V) : w.isNull = true ↔ w = V.null := by
  unfold V.isNull V.null
  split <;> simp_all

/-- values that are blank or falsy but defined — `()`, `null null`, `(null,)`, the empty
unquoted string, `""`, `[]`, `0`, `false` — are kept by `!default` (any flags, any scope);
`css::Value::is_null()` is true for the first four, which is why the guard in
`Scope::set_variable` must not be written with it -/
def blankValues : List V :=
  [.list [] true, .list [.null, .null] false, .list [.null] true, .atom (.str []), .atom (.qstr []),
   .blist [] true, .num 0, .atom (.bool false)]

theorem default_keeps_blank_values (q : ScopeQuirks) (h : Heap) (s : Nat) (x : Name) (v w : V) (glob : Bool)
    (hw : w ∈ blankValues) (hl : lookup h s x = some w) :
    setVariable q h s x v true glob = h := by
  apply default_keeps_defined q h s x v w glob hl
  simp only [blankValues, List.mem_cons, List.not_mem_nil, or_false] at hw
  rcases hw with rfl | rfl | rfl | rfl | rfl | rfl | rfl | rfl <;> rfl

example : lookup Heap.init 0 ['a'] = none := by decide +kernel
example : ∃ w, lookup (insertAt Heap.init 0 ['a'] V.null) 0 ['a'] = some w ∧ w.isNull = true :=
  ⟨V.null, by decide, rfl⟩
example : lookup (insertAt Heap.init 0 ['a'] (V.num 1)) 0 ['a'] = some (V.num 1) ∧ (V.num 1).isNull = false := by
  decide +kernel

/-- What `asisScopeQuirks` means — `Scope::set_variable` before the repairs: at every
scope-creating site a plain assignment is a plain insert into `self`, no walk. -/
theorem asis_is_plain_insert (h : Heap) (s : Nat) (hk : kindAt h s ≠ .root ∧ kindAt h s ≠ .ifBlock ∧
    kindAt h s ≠ .eachLoop ∧ kindAt h s ≠ .callee ∧ kindAt h s ≠ .fnFlow) (x : Name) (v : V) :
    setVariable asisScopeQuirks h s x v false false = insertAt h s x v := by
  have : asisScopeQuirks.localAt (kindAt h s) = true := by
    revert hk
    generalize kindAt h s = k
    cases k <;> decide +kernel
  simp [setVariable, this]

/-- With any deviation flags the assignment is the specified one
whenever the specified target is the current scope (the name is declared in the current
scope, or nowhere, or only in the root below a non-flow scope) or `!global` is given. -/
theorem assign_partial (q : ScopeQuirks) (h : Heap) (wf : h.WF) (s : Nat) (hs : s < h.size)
    (x : Name) (v : V) (dflt glob : Bool) (hyp : glob = true ∨ specTarget h s x = s) :
    setVariable q h s x v dflt glob = assignSpecHeap h s x v dflt glob := by
  rw [← assign_refines_spec h wf s hs]
  unfold setVariable
  rcases hyp with rfl | ht
  · simp
  · rw [ht]; simp

/-- the hypothesis is met by a non-trivial input: `a { $x: 1; $x: 2 }` (declared in the current scope) -/
example : specTarget (#[{ parent := none }, { parent := some 0, kind := .rule, vars := [(['x'], V.num 1)] }] : Heap) 1 ['x'] = 1 := by
  decide +kernel

/-- three scopes: root, a rule declaring `$a: 0`, and below it a scope of kind `k` -/
def nest3 (k : Kind) (flow : Bool) : Heap :=
  #[{ parent := none }, { parent := some 0, kind := .rule, vars := [(['a'], V.num 0)] },
    { parent := some 1, kind := k, flow := flow }]

/-- **refutation, one per scope-creating site**: for every kind of scope at which
`asisScopeQuirks` inserts locally, `a { $a: 0; <site> { $a: 5 } }` leaves the rule's `$a` at 0 where
the specification updates it to 5. -/
theorem asis_refuted_at_every_site (k : Kind) (hk : asisScopeQuirks.localAt k = true) (flow : Bool) :
    lookup (setVariable asisScopeQuirks (nest3 k flow) 2 ['a'] (V.num 5) false false) 1 ['a'] = some (V.num 0)
    ∧ lookup (assignSpecHeap (nest3 k flow) 2 ['a'] (V.num 5) false false) 1 ['a'] = some (V.num 5) := by
  -- the kinds without a flag contradict `hk`; the nine others are evaluated, for both values of `flow`
  cases k <;> first | exact absurd hk (by decide) | (cases flow <;> decide +kernel)

/-- … and top-level flow control: `$a: 0; @for/@while { $a: 5 }` leaves the global at 0. -/
theorem asis_refuted_toplevel_flow (k : Kind) (hk : k = .forIter ∨ k = .whileLoop) :
    let h : Heap := #[{ parent := none, vars := [(['a'], V.num 0)] }, { parent := some 0, kind := k, flow := true }]
    lookup (setVariable asisScopeQuirks h 1 ['a'] (V.num 5) false false) 0 ['a'] = some (V.num 0)
    ∧ lookup (assignSpecHeap h 1 ['a'] (V.num 5) false false) 0 ['a'] = some (V.num 5) := by
  rcases hk with rfl | rfl <;> decide +kernel

/-- The loop machinery itself (`@for`, any flags; `@each`/`@for` in the spec configuration use
the same `loopFresh`/fresh-scope binding) — binding the loop variable for every value, with a
body that does nothing — allocates fresh scopes only: every scope that existed before is
unchanged, nothing is emitted, nothing is returned. -/
theorem loopFresh_binds_fresh (cfg : Cfg) (fn : Bool) (s : Nat) (kind : Kind) (x : Name) :
    ∀ (vals : List V) (fuel : Nat) (st : St) (r : Option V) (st' : St),
      loopFresh fuel cfg fn s kind x vals [] st = .ok (r, st') →
      r = none ∧ st'.out = st.out ∧ st.heap.Ext st'.heap := by
  intro vals
  induction vals with
  | nil =>
    intro fuel st r st' h
    cases fuel <;> simp [loopFresh] at h
    obtain ⟨rfl, rfl⟩ := h
    exact ⟨rfl, rfl, Heap.Ext.refl _⟩
  | cons v vs ih =>
    intro fuel st r st' h
    rcases fuel with _ | _ | g
    · simp [loopFresh] at h
    · rw [loopFresh] at h
      simp [exec] at h
    · rw [loopFresh] at h
      simp only [exec_nil] at h
      obtain ⟨hr, ho, he⟩ := ih (g + 1) _ r st' h
      refine ⟨hr, ho, Heap.Ext.trans ?_ he⟩
      simp only
      exact ((ext_alloc _ _ _ _).modify_newer (Nat.le_refl _) _).insertAt_newer (Nat.le_refl _) x v

/-- consequently (empty body; arbitrary bodies: `loop_frame`) no pre-existing scope sees the loop
variable, or anything else, change -/
theorem loop_vars_local (cfg : Cfg) (fn : Bool) (s : Nat) (kind : Kind) (x : Name)
    (vals : List V) (fuel : Nat) (st st' : St) (r : Option V) (wf : st.heap.WF)
    (hrun : loopFresh fuel cfg fn s kind x vals [] st = .ok (r, st'))
    (t : Nat) (ht : t < st.heap.size) (y : Name) :
    lookup st'.heap t y = lookup st.heap t y :=
  (loopFresh_binds_fresh cfg fn s kind x vals fuel st r st' hrun).2.2.lookup wf ht y

/-- **frame theorem for arbitrary loop bodies** (`@for`, and `@each` / function loops since
90cea8e; any flags, any fuel).  Let `R h0 ·` be any relation "the heap evolved acceptably
from `h0`" that is kept by allocating a scope and by writing loop variables into scopes
newer than `h0`.  If the *body*, run in any scope newer than `h0`, keeps `R h0`, then so does
the whole loop: the loop construct itself — binding the loop variable for every value,
iterating, stopping at `@return` — never touches a scope that existed before it.  Whatever
happened to the enclosing scopes was done by a statement of the body. -/
theorem loop_frame (R : Heap → Heap → Prop) (h0 : Heap)
    (hsize : ∀ h, R h0 h → h0.size ≤ h.size)
    (halloc : ∀ h p k fl, R h0 h → R h0 (alloc h p k fl).1)
    (hins : ∀ h t x v, R h0 h → h0.size ≤ t → R h0 (insertAt h t x v))
    (hmark : ∀ h t x, R h0 h → h0.size ≤ t → R h0 (markLoopVar h t x))
    (cfg : Cfg) (fn : Bool) (s : Nat) (kind : Kind) (x : Name) (body : List Stmt)
    (hbody : ∀ fuel f st r st', h0.size ≤ f → R h0 st.heap →
      exec fuel cfg fn f body st = .ok (r, st') → R h0 st'.heap) :
    ∀ (vals : List V) (fuel : Nat) (st : St) (r : Option V) (st' : St),
      R h0 st.heap → loopFresh fuel cfg fn s kind x vals body st = .ok (r, st') → R h0 st'.heap := by
  intro vals
  induction vals with
  | nil =>
    intro fuel st r st' hR h
    cases fuel <;> simp [loopFresh] at h
    obtain ⟨_, rfl⟩ := h
    exact hR
  | cons v vs ih =>
    intro fuel st r st' hR h
    cases fuel with
    | zero => simp [loopFresh] at h
    | succ f =>
      have hfresh : h0.size ≤ st.heap.size := hsize _ hR
      have hR1 := hins _ _ x v (hmark _ _ x (halloc _ s kind true hR) hfresh) hfresh
      rw [loopFresh] at h
      simp only [alloc] at hR1 h
      split at h
      · cases h
      · next w st1 hb =>
        obtain ⟨_, rfl⟩ : some w = r ∧ st1 = st' := by simpa using h
        refine hbody f _ _ _ _ hfresh ?_ hb
        simp only
        exact hR1
      · next st1 hb =>
        refine ih f st1 r st' (hbody f _ _ _ _ hfresh ?_ hb) h
        simp only
        exact hR1

/-- **loop variables are local, arbitrary body.**  Instance `R := Heap.Upd` ("old scopes keep
their parents and declare exactly the names they declared; only values of already declared
variables may have changed"): if the body only assigns to variables that the enclosing
scopes already declare (and otherwise works in newer scopes), then after the loop every
enclosing scope declares exactly what it declared before — in particular the loop variable
`$x` was not declared in, and did not overwrite a declaration of, any enclosing scope by the
loop construct. -/
theorem loop_vars_local_any_body (h0 : Heap) (cfg : Cfg) (fn : Bool) (s : Nat) (kind : Kind) (x : Name)
    (body : List Stmt)
    (hbody : ∀ fuel f st r st', h0.size ≤ f → h0.Upd st.heap →
      exec fuel cfg fn f body st = .ok (r, st') → h0.Upd st'.heap)
    (vals : List V) (fuel : Nat) (st : St) (r : Option V) (st' : St)
    (hst : h0.Upd st.heap) (hrun : loopFresh fuel cfg fn s kind x vals body st = .ok (r, st')) :
    ∀ i, i < h0.size → ∀ y, declares st'.heap y i = declares h0 y i := by
  have := loop_frame Heap.Upd h0 (fun h hR => hR.1)
    (fun h p k fl hR => hR.trans (ext_alloc h p k fl).toUpd)
    (fun h t x v hR ht => hR.modify_newer ht _)
    (fun h t x hR ht => hR.modify_newer ht _)
    cfg fn s kind x body hbody vals fuel st r st' hst hrun
  intro i hi y
  exact (this.2 i hi).2 y

/-- the body hypothesis of `loop_vars_local_any_body` is met by an assignment to a variable an
enclosing scope declares: it is an `Upd` step (`upd_insertAt_declared`), e.g. `$a: 5` reaching
the root's `$a` -/
example : Heap.Upd #[{ parent := none, vars := [(['a'], V.num 0)] }]
    (insertAt #[{ parent := none, vars := [(['a'], V.num 0)] }] 0 ['a'] (V.num 5)) :=
  upd_insertAt_declared #[{ parent := none, vars := [(['a'], V.num 0)] }] 0 ['a'] (V.num 5) (by decide)

/-- the declaration-only fragment: non-`!global` assignments (with or without `!default`)
whose right-hand sides are literals, variable reads, or one `+` / `<` / `==` over them -/
def DeclOnly (body : List Stmt) : Prop :=
  ∀ stmt ∈ body, ∃ x e d, stmt = Stmt.decl x e d false ∧ e.simple = true

theorem upd_ghostMark {h0 h1 : Heap} (hOld : Heap) (hu : h0.Upd h1) (s : Nat) (x : Name) (d g : Bool) :
    h0.Upd (ghostMark hOld h1 s x d g) :=
  Heap.Upd.ite hu (Heap.Upd.ite (hu.trans (upd_markGhosts _ _ _)) hu)

/-- **the body hypothesis of `loop_frame`, derived syntactically** for the declaration-only
fragment (any flags, spec or as-is, any fuel): a body of non-`!global` assignments, run in
a scope newer than `h0`, keeps `Heap.Upd h0` — each assignment lands in the running scope or
in a scope that already declares the name (`upd_setVariable_local`), and its right-hand
side does not touch the heap (`evalExpr_simple_state`). -/
theorem decl_body_keeps_frame (h0 : Heap) (cfg : Cfg) (fn : Bool) :
    ∀ (body : List Stmt), DeclOnly body → ∀ (fuel f : Nat) (st : St) (r : Option V) (st' : St),
      h0.size ≤ f → h0.Upd st.heap → exec fuel cfg fn f body st = .ok (r, st') → h0.Upd st'.heap := by
  intro body
  induction body with
  | nil =>
    intro _ fuel f st r st' _ hu h
    cases fuel <;> simp [exec] at h
    obtain ⟨_, rfl⟩ := h
    exact hu
  | cons stmt rest ih =>
    intro hd fuel f st r st' hf hu h
    obtain ⟨x, e, d, rfl, hsimple⟩ := hd _ (List.mem_cons_self ..)
    have hrest : DeclOnly rest := fun s hs => hd s (List.mem_cons_of_mem _ hs)
    rcases fuel with _ | _ | m
    · simp [exec] at h
    · simp [exec, execStmt] at h
    · simp only [exec, execStmt] at h
      cases he : evalExpr m cfg f e st with
      | error e' => simp [he] at h
      | ok res =>
        obtain ⟨v, st1⟩ := res
        obtain rfl := evalExpr_simple_state hsimple he
        simp only [he, assign] at h
        by_cases hc : (cfg.ghosts && ghostAssign st1.heap f (normName x) d false) = true
        · rw [if_pos hc] at h
          simp at h
        · rw [if_neg hc] at h
          refine ih hrest (m + 1) f _ r st' hf ?_ h
          simp only
          exact Heap.Upd.ite (upd_ghostMark _ (upd_setVariable_local hu cfg.sq hf _ _ _) _ _ _ _)
            (upd_setVariable_local hu cfg.sq hf _ _ _)

/-- **loop variables are local — unconditional for declaration-only bodies**: after a
`@for` / `@each` whose body is any sequence of non-`!global` assignments, every scope that
existed before the loop declares exactly the names it declared before (the loop variable
included: it was neither added to nor overwritten in any of them); only values of
variables they already declared may have been assigned. -/
theorem loop_vars_local_decl_bodies (h0 : Heap) (cfg : Cfg) (fn : Bool) (s : Nat) (kind : Kind) (x : Name)
    (body : List Stmt) (hb : DeclOnly body) (vals : List V) (fuel : Nat) (st : St) (r : Option V) (st' : St)
    (hst : h0.Upd st.heap) (hrun : loopFresh fuel cfg fn s kind x vals body st = .ok (r, st')) :
    ∀ i, i < h0.size → ∀ y, declares st'.heap y i = declares h0 y i :=
  loop_vars_local_any_body h0 cfg fn s kind x body
    (decl_body_keeps_frame h0 cfg fn body hb)
    vals fuel st r st' hst hrun

example : DeclOnly [.decl ['a'] (.add (.var ['a']) (.var ['i'])) false false, .decl ['b'] (.num 1) true false] := by
  intro s hs
  simp only [List.mem_cons, List.not_mem_nil, or_false] at hs
  rcases hs with rfl | rfl
  · exact ⟨_, _, _, rfl, rfl⟩
  · exact ⟨_, _, _, rfl, rfl⟩

/-- **loop_vars_local, `@each` with `noEachScope`** (transform.rs before 90cea8e: define in the
enclosing scope, `store_local_values` before, `restore_local_values` after): after the loop the
enclosing scope's own variables are what they were. -/
theorem each_restores_local (h : Heap) (s : Nat) (hs : s < h.size) (x : Name) (vals : List V) (y : Name) :
    getAssoc y (varsAt (restoreLocal (vals.foldl (fun h v => insertLocal h s x v) h) s x (storeLocal h s x)) s)
      = getAssoc y (varsAt h s) := by
  have hfold : vals.foldl (fun h v => insertLocal h s x v) h = bindVals h s (vals.map fun v => (x, v)) := by
    simp [bindVals, List.foldl_map]
  rw [hfold, getAssoc_restoreLocal_self _ _ (by rw [size_bindVals]; exact hs)]
  split
  · next hy => rw [hy]; rfl
  · next hy => exact getAssoc_bindVals_ne s y _ h hs (by simp [Ne.symm hy])

theorem runBinds_vals_fresh (cfg : Cfg) (a : Nat) (h0 : Heap) (ha : h0.size ≤ a) :
    ∀ (bs : List (Name × V)) (fuel : Nat) (st st' : St) (r : Unit),
      h0.Ext st.heap →
      runBinds fuel cfg a (bs.map fun b => (b.1, Binding.val b.2)) st = .ok (r, st') →
      h0.Ext st'.heap ∧ st'.out = st.out := by
  intro bs
  induction bs with
  | nil =>
    intro fuel st st' r he h
    cases fuel <;> simp [runBinds] at h
    subst h
    exact ⟨he, rfl⟩
  | cons b bs ih =>
    intro fuel st st' r he h
    cases fuel with
    | zero => simp [runBinds] at h
    | succ f =>
      simp only [List.map_cons, runBinds] at h
      apply ih f _ st' r _ h
      simp only
      exact he.insertAt_newer ha b.1 b.2

/-- Binding evaluated arguments to parameters (`argscope.define`, any
flags) writes into the fresh argscope only: every scope that existed when the call
started is unchanged — a parameter never overwrites a variable of the same name. -/
theorem params_local (cfg : Cfg) (clo : Closure) (kind : Kind) (bs : List (Name × V)) (fuel : Nat)
    (st st' : St) (r : Unit) (wf : st.heap.WF)
    (hrun : let (h1, c0) := alloc st.heap clo.scope .callee false
            let (h2, a) := alloc h1 c0 kind false
            runBinds fuel cfg a (bs.map fun b => (b.1, Binding.val b.2)) { st with heap := h2 } = .ok (r, st'))
    (t : Nat) (ht : t < st.heap.size) (y : Name) :
    lookup st'.heap t y = lookup st.heap t y := by
  have he : st.heap.Ext (alloc (alloc st.heap clo.scope .callee false).1 st.heap.size kind false).1 :=
    Heap.Ext.trans (ext_alloc _ _ _ _) (ext_alloc _ _ _ _)
  exact (runBinds_vals_fresh cfg _ st.heap (by simp) bs fuel _ st' r he hrun).1.lookup wf ht y

/-! ## Whole-program refutations (the witnesses of the registered findings) -/

-- The programs below are built from: `a0` = `$a: 0`, `inc` = `$a: $a + 1`, `rd` = `r { p1: $a }`;
-- `out1 v` is the output consisting of the one declaration `p1: v`.
-- Fuel: every call of the evaluator passes `fuel - 1` down, so a run needs as much fuel as its
-- longest chain of nested calls (statements in sequence and loop rounds count); 40 to 80 is ample
-- here, and a run out of fuel is the error `Err.fuel`, hence `none`, never a stated output.  The one
-- `none` below (`refute_each_var_visible_outside`) is `Err.err`, undefined variable.
def nm (s : String) : Name := s.toList
def a0 : Stmt := .decl (nm "a") (.num 0) false false
def inc : Stmt := .decl (nm "a") (.add (.var (nm "a")) (.num 1)) false false
def rd : Stmt := .emit (nm "p1") (.var (nm "a"))
def out1 (v : String) : Option Emitted := some [(nm "p1", v.toList)]

/-- `$a: 0; @for $i from 1 through 3 { $a: $a + $i } r{p1: $a}` — 6 specified, 0 with `asisCfg` -/
theorem refute_for :
    (runProgram specCfg 60 [a0, .forS (nm "i") (.num 1) (.num 3) true [.decl (nm "a") (.add (.var (nm "a")) (.var (nm "i"))) false false], rd]).toOption = out1 "6"
    ∧ (runProgram asisCfg 60 [a0, .forS (nm "i") (.num 1) (.num 3) true [.decl (nm "a") (.add (.var (nm "a")) (.var (nm "i"))) false false], rd]).toOption = out1 "0" := by
  decide +kernel

theorem refute_while :
    let p := [a0, .decl (nm "k") (.num 0) false false,
      .whileS (.lt (.var (nm "k")) (.num 3)) [.decl (nm "k") (.add (.var (nm "k")) (.num 1)) false false, inc], rd]
    (runProgram specCfg 80 p).toOption = out1 "3" ∧ (runProgram asisCfg 80 p).toOption = out1 "0" := by
  decide +kernel

theorem refute_rule_media_atrule :
    (∀ p ∈ [[Stmt.rule [a0, .rule [inc], rd]], [Stmt.rule [a0, .media [inc], rd]], [Stmt.rule [a0, .atrule [inc], rd]]],
      (runProgram specCfg 40 p).toOption = out1 "1" ∧ (runProgram asisCfg 40 p).toOption = out1 "0") := by
  decide +kernel

theorem refute_mixin_content_fn :
    let pm := [Stmt.rule [a0, .mixin (nm "m") .none [inc], .incl (nm "m") [] false .none [], rd]]
    let pc := [Stmt.mixin (nm "w") .none [.content []], .rule [a0, .incl (nm "w") [] true .none [inc], rd]]
    let pf := [Stmt.rule [a0, .func (nm "f") .none [inc, .ret (.num 0)], .decl (nm "d") (.call (nm "f") []) false false, rd]]
    (∀ p ∈ [pm, pc, pf], (runProgram specCfg 60 p).toOption = out1 "1" ∧ (runProgram asisCfg 60 p).toOption = out1 "0") := by
  decide +kernel

def pFnWhile : List Stmt :=
  [.func (nm "f") .none [.decl (nm "k") (.num 0) false false,
      .whileS (.lt (.var (nm "k")) (.num 3)) [.decl (nm "k") (.add (.var (nm "k")) (.num 1)) false false], .ret (.var (nm "k"))],
    .emit (nm "p1") (.call (nm "f") [])]
def pFnFor : List Stmt :=
  [.func (nm "f") ⟨[(nm "i", none)], none⟩ [.forS (nm "i") (.num 1) (.num 2) true [], .ret (.var (nm "i"))],
    .emit (nm "p1") (.call (nm "f") [(.pos, .num 7)])]
def pFnEach : List Stmt :=
  [.func (nm "f") ⟨[(nm "i", none)], none⟩ [.each (nm "i") (.list [.num 1, .num 2] true) [], .ret (.var (nm "i"))],
    .emit (nm "p1") (.call (nm "f") [(.pos, .num 7)])]

/-- function bodies: the `@while` scope … -/
theorem refute_fn_while :
    (runProgram specCfg 80 pFnWhile).toOption = out1 "3" ∧ (runProgram asisCfg 80 pFnWhile).toOption = out1 "0" := by
  decide +kernel

/-- … and `@for`/`@each` loop variables overwrite the function's parameter of the same name -/
theorem refute_fn_loopvars :
    (runProgram specCfg 60 pFnFor).toOption = out1 "7" ∧ (runProgram asisCfg 60 pFnFor).toOption = out1 "2"
    ∧ (runProgram specCfg 60 pFnEach).toOption = out1 "7" ∧ (runProgram asisCfg 60 pFnEach).toOption = out1 "2" := by
  decide +kernel

/-- `@each` binds its variable in the enclosing scope: a function defined outside the
block sees it while the loop runs (specified: undefined variable) -/
theorem refute_each_var_visible_outside :
    let p := [Stmt.func (nm "f") .none [.ret (.var (nm "i"))],
      .each (nm "i") (.list [.num 1, .num 2] true) [.emit (nm "p1") (.call (nm "f") [])]]
    (runProgram specCfg 60 p).toOption = none
    ∧ (runProgram asisCfg 60 p).toOption = some [(nm "p1", "1".toList), (nm "p1", "2".toList)] := by
  decide +kernel

/-! Proved above: `loop_frame` / `loop_vars_local_any_body` — the loop construct adds nothing to
what its body does, for arbitrary bodies, relative to a frame hypothesis on the body.
`decl_body_keeps_frame` / `loop_vars_local_decl_bodies` discharge the body hypothesis
syntactically for the declaration-only fragment.
Still not proved (kept visible): the same for bodies with nested blocks and calls —
"for every body whose assignments are non-`!global` assignments to names declared in an
enclosing scope and whose expressions call no function with `!global` writes,
`exec … body` keeps `Heap.Upd h0`" — which needs one induction over the whole mutual
evaluator (11 functions on `fuel`): `setVariable`'s cases are covered by
`upd_setVariable_local`, the missing part is the purely structural
mutual induction threading `Upd` through `evalExpr`/`callClosure`/`exec`. -/

end C16
