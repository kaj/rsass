/-
C28 — List functions follow the Sass list model.
Property theorems about the model of `sass/functions/list.rs` (RsassModel/ListFn/Model.lean).
`getList v = (items, sep, bra)` is the list view of any value (`get_list`): the theorems
state every clause of the property in terms of that view, for ALL values, indices and
arguments (no bound on lengths or nesting).  `spec` = all deviation flags off.
-/
import RsassModel.ListFn.Model
import RsassModel.ListFn.Lemmas
namespace ListFn

/-- FULL: a map is the comma list of its `(key value)` pairs (undecided when empty), an
argument list is the comma list of its positional values followed by its named pairs;
every other non-list value is the one-element list of itself. -/
theorem map_as_pairs (ps : List (Val × Val)) (pos : List Val) (named : List (Val × Val)) (tc : Bool) :
    getList (.map ps) = (ps.map pairV, if ps.isEmpty then .undecided else .comma, false) ∧
    getList (.arglist pos named tc) = (pos ++ named.map pairV, .comma, false) ∧
    (∀ i c, getList (.atom i c) = ([.atom i c], .undecided, false)) ∧
    getList .null = ([.null], .undecided, false) ∧
    (∀ k v, pairV (k, v) = .list [k, v] .space false) := by
  exact ⟨rfl, rfl, fun _ _ => rfl, rfl, fun _ _ => rfl⟩

/-- FULL (specification model): `length` is the number of elements of the list view. -/
theorem length_spec (v : Val) : length spec v = .int (getList v).1.length := by
  cases v with
  | _ => simp [length, getList, spec]

/-- PARTIAL (`asis`: every deviation flag on): the same for every value but `null`. -/
theorem length_asis_partial (v : Val) (h : v ≠ .null) : length asis v = .int (getList v).1.length := by
  cases v with
  | null => exact absurd rfl h
  | _ => simp [length, getList]

/-- the hypothesis is satisfiable, also by a list that holds `null` -/
example : (Val.list [.null] .undecided true) ≠ .null := nofun

/-- REFUTATION (known finding C28-length-null): the code says `length(null) = 0`
while `nth(null, 1)` succeeds on the same value. -/
theorem length_asis_null_refuted :
    length asis .null = .int 0 ∧ (getList .null).1.length = 1 ∧ nth .null (.int 1) = .val .null := by
  refine ⟨rfl, rfl, rfl⟩

/-- FULL: `nth` resolves the index with `index_of` against the length of the list view and
returns exactly that element of the view; anything `index_of` rejects is an error. -/
theorem nth_spec (v : Val) (i : Idx) :
    nth v i = match indexArg i (getList v).1.length with
      | none => .err
      | some k => match (getList v).1[k]? with
        | some x => .val x
        | none => .panic := by
  -- a value that is no list is the one-element list of itself, and its only index is 0
  have single (v : Val) : (match indexArg i 1 with | none => Out.err | some _ => .val v)
      = match indexArg i 1 with
        | none => .err
        | some k => match [v][k]? with
          | some x => .val x
          | none => .panic := by
    cases h : indexArg i 1 with
    | none => rfl
    | some k =>
      cases Nat.lt_one_iff.mp (indexArg_lt i 1 k h)
      rfl
  cases v with
  | list l s b =>
    simp only [nth, getList]
    cases indexArg i l.length with
    | none => rfl
    | some k => cases l[k]? <;> rfl
  | atom id c => exact single _
  | null => exact single _
  | map ps =>
    simp only [nth, getList, List.length_map]
    cases h : indexArg i ps.length with
    | none => rfl
    | some k =>
      have hk := indexArg_lt i _ k h
      simp only [List.getElem?_map, List.getElem?_eq_getElem hk, Option.map_some]
  | arglist pos named tc =>
    simp only [nth, getList, List.length_append, List.length_map]
    cases h : indexArg i (pos.length + named.length) with
    | none => rfl
    | some k =>
      have hk := indexArg_lt i _ k h
      simp only []
      by_cases hp : k < pos.length
      · rw [List.getElem?_append_left hp, List.getElem?_eq_getElem hp]
      · have hp' : pos.length ≤ k := Nat.le_of_not_lt hp
        rw [List.getElem?_append_right hp', List.getElem?_eq_none hp']
        have hn : k - pos.length < named.length := Nat.sub_lt_left_of_lt_add hp' hk
        simp only [List.getElem?_map, List.getElem?_eq_getElem hn, Option.map_some]

/-- FULL: `nth` never panics: the index handed to `list[n]` is always in bounds. -/
theorem nth_never_panics (v : Val) (i : Idx) : nth v i ≠ .panic := by
  rw [nth_spec]
  cases h : indexArg i (getList v).1.length with
  | none => exact nofun
  | some k =>
    simp only [List.getElem?_eq_getElem (indexArg_lt i _ k h)]
    exact nofun

/-- FULL: positions `1..n` address the elements from the front. -/
theorem nth_accepts_1_to_n (v : Val) (n : Int) (h1 : 1 ≤ n) (h2 : n ≤ (getList v).1.length) :
    ∃ x, (getList v).1[(n - 1).toNat]? = some x ∧ nth v (.int n) = .val x := by
  have hk : (n - 1).toNat < (getList v).1.length := by omega
  refine ⟨(getList v).1[(n - 1).toNat], List.getElem?_eq_getElem hk, ?_⟩
  rw [nth_spec]
  simp only [indexArg, indexOf_pos n _ h1 h2, List.getElem?_eq_getElem hk]

/-- FULL: positions `-n..-1` address the elements from the back (`-1` is the last). -/
theorem nth_accepts_neg_n_to_neg_1 (v : Val) (n : Int)
    (h1 : -((getList v).1.length : Int) ≤ n) (h2 : n ≤ -1) :
    ∃ x, (getList v).1[(((getList v).1.length : Int) + n).toNat]? = some x ∧ nth v (.int n) = .val x := by
  have hk : (((getList v).1.length : Int) + n).toNat < (getList v).1.length := by omega
  refine ⟨(getList v).1[(((getList v).1.length : Int) + n).toNat], List.getElem?_eq_getElem hk, ?_⟩
  rw [nth_spec]
  simp only [indexArg, indexOf_neg n _ h1 h2, List.getElem?_eq_getElem hk]

/-- FULL: 0, positions beyond the ends and non-integer / unit / non-number indices are errors. -/
theorem nth_rejects_other (v : Val) :
    nth v .bad = .err ∧
    ∀ n : Int, (n = 0 ∨ ((getList v).1.length : Int) < n ∨ n < -((getList v).1.length : Int)) →
      nth v (.int n) = .err := by
  constructor
  · rw [nth_spec]; rfl
  · intro n h
    rw [nth_spec]
    simp only [indexArg, indexOf_none n _ h]

example : nth (.list [.atom 0 0, .atom 1 1, .atom 2 2] .space false) (.int (-1)) = .val (.atom 2 2) := rfl
example : nth (.map [(.atom 0 0, .atom 1 1)]) (.int 1) = .val (.list [.atom 0 0, .atom 1 1] .space false) := rfl

/-- FULL: `set-nth` with an accepted index `k` returns the list view with the same
separator and brackets, the same length, the new value at `k`, and every other position
unchanged. -/
theorem set_nth_only_changes_addressed (v x : Val) (i : Idx) (k : Nat)
    (h : indexArg i (getList v).1.length = some k) :
    ∃ l', setNth v i x = .val (.list l' (getList v).2.1 (getList v).2.2) ∧
      l'.length = (getList v).1.length ∧ l'[k]? = some x ∧
      ∀ j, j ≠ k → l'[j]? = (getList v).1[j]? := by
  have hk := indexArg_lt i _ k h
  refine ⟨(getList v).1.set k x, ?_, List.length_set, by simp [hk], fun j hj => ?_⟩
  · rw [setNth_eq, h]
    exact if_pos hk
  · exact List.getElem?_set_ne (fun e => hj e.symm)

/-- FULL: the index rules of `set-nth` are those of `nth`; rejected indices are errors. -/
theorem set_nth_rejects_other (v x : Val) (i : Idx) (h : indexArg i (getList v).1.length = none) :
    setNth v i x = .err := by
  rw [setNth_eq, h]

/-- FULL: `set-nth` never panics: `Vec` indexing is reached only with an index in bounds. -/
theorem set_nth_never_panics (v x : Val) (i : Idx) : setNth v i x ≠ .panic := by
  cases h : indexArg i (getList v).1.length with
  | none =>
    rw [set_nth_rejects_other v x i h]
    exact nofun
  | some k =>
    obtain ⟨l', he, _⟩ := set_nth_only_changes_addressed v x i k h
    rw [he]
    exact nofun

/-- the hypothesis is satisfiable: `-1` addresses position 1 of two -/
example : indexArg (.int (-1)) (getList (.list [.atom 0 0, .atom 1 1] .comma true)).1.length = some 1 := rfl

/-- FULL: `append` returns the elements of the list view followed by the value; the
separator is the explicit argument, else the list's own, else space; brackets are the
list's.  An invalid `$separator` is an error. -/
theorem append_spec (v x : Val) (s : SepArg) :
    append v x s = match s.check with
      | none => .err
      | some e => .val (.list ((getList v).1 ++ [x]) (sepRule e [(getList v).2.1]) (getList v).2.2) := by
  simp only [sepRule_cons, sepRule_nil]
  unfold append
  cases s.check <;> rfl

/-- the bracket rule of the statement: the explicit argument, else the first list -/
theorem bracket_rule (bra1 : Bool) :
    BraArg.auto.resolve bra1 = bra1 ∧ BraArg.truthy.resolve bra1 = true ∧ BraArg.falsy.resolve bra1 = false :=
  ⟨rfl, rfl, rfl⟩

/-- FULL: `join` concatenates the two list views; the separator is the explicit argument,
else that of the first list that has one, else space; brackets are the explicit
`$bracketed` truthiness, else those of the first list. -/
theorem join_spec (v w : Val) (s : SepArg) (b : BraArg) :
    join v w s b = match s.check with
      | none => .err
      | some e => .val (.list ((getList v).1 ++ (getList w).1)
          (sepRule e [(getList v).2.1, (getList w).2.1])
          (b.resolve (getList v).2.2)) := by
  simp only [sepRule_cons, sepRule_nil]
  unfold join
  cases s.check <;> rfl

example : append (.list [] .undecided true) (.atom 0 0) .auto = .val (.list [.atom 0 0] .space true) := rfl
example : join (.atom 0 0) (.list [.atom 1 1, .atom 2 2] .comma true) .auto .auto
    = .val (.list [.atom 0 0, .atom 1 1, .atom 2 2] .comma false) := rfl

/-- FULL (specification model): `index` searches the list view. -/
theorem index_spec_view (v x : Val) :
    index spec v x = idxOut (findIdx (fun e => veq e x) (getList v).1 0) := by
  cases v with
  | atom i c => simp only [index, getList, findIdx]; split <;> rfl
  | null => simp only [index, getList, findIdx]; split <;> rfl
  | _ => simp [index, getList, spec]

/-- FULL (specification model): the result of `index` is either the 1-based position `k+1`
of an element that is `==` to the value with no `==` element before it, or `null` and
then no element of the view is `==` to the value. -/
theorem index_first_eq (v x : Val) :
    (∃ k e, index spec v x = .int ((k : Nat) + 1) ∧ (getList v).1[k]? = some e ∧ veq e x = true ∧
        ∀ j e', j < k → (getList v).1[j]? = some e' → veq e' x = false) ∨
    (index spec v x = .val .null ∧ ∀ e, e ∈ (getList v).1 → veq e x = false) := by
  rw [index_spec_view]
  cases h : findIdx (fun e => veq e x) (getList v).1 0 with
  | none => exact Or.inr ⟨rfl, (findIdx_eq_none_iff _ _ 0).mp h⟩
  | some r =>
    obtain ⟨k, e, hr, he, hp, hmin⟩ := findIdx_some _ _ 0 r h
    refine Or.inl ⟨k, e, ?_, he, hp, hmin⟩
    rw [hr, Nat.zero_add]
    rfl

/-- PARTIAL (`asis`): `index` under `asis` is the specified one whenever the list is
not an argument list and not (a map searched for a bracketed list). -/
theorem index_asis_partial (v x : Val) (h : indexDeviates v x = false) :
    index asis v x = index spec v x := by
  cases v with
  | arglist _ _ _ => cases h
  | map m =>
    refine index_map_asis m x fun l s hx => ?_
    subst hx
    cases h
  | _ => rfl

example : indexDeviates (.map [(.atom 0 0, .atom 1 1)]) (.list [.atom 0 0, .atom 1 1] .space false) = false := rfl

/-- REFUTATION (known finding C28-index-map-brackets): the pair `(a b)` is not `==` to
`[a b]`, yet the code finds it. -/
theorem index_asis_map_brackets_refuted :
    index asis (.map [(.atom 0 0, .atom 2 1)]) (.list [.atom 0 0, .atom 2 1] .space true) = .int 1 ∧
    index spec (.map [(.atom 0 0, .atom 2 1)]) (.list [.atom 0 0, .atom 2 1] .space true) = .val .null ∧
    veq (pairV (.atom 0 0, .atom 2 1)) (.list [.atom 0 0, .atom 2 1] .space true) = false :=
  ⟨rfl, rfl, rfl⟩

/-- REFUTATION (known finding C28-index-arglist): the second element of the argument list
`(1, 2)` is `==` to 2, yet the code answers `null`. -/
theorem index_asis_arglist_refuted :
    index asis (.arglist [.atom 6 4, .atom 7 5] [] false) (.atom 7 5) = .val .null ∧
    index spec (.arglist [.atom 6 4, .atom 7 5] [] false) (.atom 7 5) = .int 2 :=
  ⟨rfl, rfl⟩

/-- FULL (specification model): the items `Value::iter_items` yields, which `zip` walks, are the
list view. -/
theorem zip_uses_list_view (v : Val) : iterItems spec v = (getList v).1 := by
  cases v <;> simp [iterItems, getList, spec]

/-- FULL (for either model, in terms of the items `iterItems` yields): `zip` returns an
unbracketed comma list of unbracketed space lists; it has as many rows as the SHORTEST
argument has items (no rows without arguments); row `i` has one entry per argument and
its `j`-th entry is item `i` of argument `j`. -/
theorem zip_truncates (q : ListQuirks) (vs : List Val) :
    ∃ rows, zip q vs = .val (.list rows .comma false) ∧
      (∀ v, v ∈ vs → rows.length ≤ (iterItems q v).length) ∧
      (vs ≠ [] → ∃ v, v ∈ vs ∧ rows.length = (iterItems q v).length) ∧
      (vs = [] → rows = []) ∧
      ∀ i : Nat, i < rows.length → ∃ row : List Val, rows[i]? = some (.list row .space false) ∧
        row.length = vs.length ∧
        ∀ (j : Nat) (v : Val), vs[j]? = some v → ∃ e, (iterItems q v)[i]? = some e ∧ row[j]? = some e := by
  refine ⟨_, rfl, ?_, ?_, ?_, ?_⟩
  · intro v hv
    simp only [List.length_map, List.length_range]
    exact minLen_le _ _ (List.mem_map_of_mem hv)
  · intro hne
    simp only [List.length_map, List.length_range]
    obtain ⟨l, hl, he⟩ := minLen_attained (vs.map (iterItems q)) (by simpa using hne)
    obtain ⟨v, hv, rfl⟩ := List.mem_map.mp hl
    exact ⟨v, hv, he⟩
  · intro h; subst h; rfl
  · intro i hi
    simp only [List.length_map, List.length_range] at hi
    refine ⟨(vs.map (iterItems q)).map (fun l => l.getD i .null), ?_, ?_, ?_⟩
    · simp only [List.getElem?_map, List.getElem?_range hi, Option.map_some]
    · simp
    · intro j v hj
      have hv : v ∈ vs := List.mem_of_getElem? hj
      have hlen : i < (iterItems q v).length :=
        Nat.lt_of_lt_of_le hi (minLen_le _ _ (List.mem_map_of_mem hv))
      refine ⟨(iterItems q v)[i], List.getElem?_eq_getElem hlen, ?_⟩
      simp only [List.getElem?_map, hj, Option.map_some, List.getD_eq_getElem?_getD,
        List.getElem?_eq_getElem hlen, Option.getD_some]

/-- PARTIAL (`asis`): `zip` under `asis` is the specified one when no argument is an
argument list built with a trailing comma. -/
theorem zip_asis_partial (vs : List Val) (h : ∀ v, v ∈ vs → hasTrailingComma v = false) :
    zip asis vs = zip spec vs := by
  have : vs.map (iterItems asis) = vs.map (iterItems spec) :=
    List.map_congr_left (fun v hv => iterItems_asis_eq v (h v hv))
  simp only [zip, this]

example : ∀ v, v ∈ [Val.arglist [.atom 6 4] [] false, .list [.atom 0 0] .comma false] →
    hasTrailingComma v = false := by
  decide

/-- REFUTATION (known finding C28-zip-trailing-comma): `zip(args(1, 2,), (a b c))` has a
third row in the code although the argument list has two elements. -/
theorem zip_asis_trailing_comma_refuted :
    zip asis [.arglist [.atom 6 4, .atom 7 5] [] true, .list [.atom 0 0, .atom 2 1, .atom 3 2] .space false]
      = .val (.list [.list [.atom 6 4, .atom 0 0] .space false, .list [.atom 7 5, .atom 2 1] .space false,
                     .list [.null, .atom 3 2] .space false] .comma false) ∧
    zip spec [.arglist [.atom 6 4, .atom 7 5] [] true, .list [.atom 0 0, .atom 2 1, .atom 3 2] .space false]
      = .val (.list [.list [.atom 6 4, .atom 0 0] .space false, .list [.atom 7 5, .atom 2 1] .space false]
                .comma false) :=
  ⟨rfl, rfl⟩

/-- FULL: `separator` names the separator of the list view, `space` when undecided. -/
theorem separator_spec (v : Val) :
    separator v = .kw (if (getList v).2.1 = .undecided then .space else (getList v).2.1) := by
  cases v with
  | list l s b => cases s <;> simp [separator, getList]
  | map m => cases m <;> simp [separator, getList]
  | _ => simp [separator, getList]

/-- FULL: `is-bracketed` is the bracket flag of the list view. -/
theorem is_bracketed_spec (v : Val) : isBracketed v = .bool (getList v).2.2 := by
  cases v with
  | list l s b => cases b <;> simp [isBracketed, getList]
  | _ => simp [isBracketed, getList]

end ListFn
