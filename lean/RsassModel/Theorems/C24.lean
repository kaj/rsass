/-
C24 — Selector unify/extend/replace/nest/append obey their algebra (partial).

Models: Sel/Unify.lean, Sel/Extend.lean (+ Sel/Nest.lean of the C19 family for nesting and
compound append).  `unifySpec` / `nestSpec` = the specification.  `unifyAsis` = all three
deviations on, the code as it was first checked: `vitalKeepsGeneral` (ac1584f) and
`sup.attrQuoteMix` (5b7f338) have since been repaired, the strict `>` arm `sup.parentStrict` is
still in the code.  Since d714329 the nesting code is `nestAsis` (= `{}`), the old code is
`{ ampViaUnify := true }`.  Extend / replace laws are proved for EVERY superselector test `S`,
unifier `U` and dedup `D` (list plumbing only).  Unification is proved sound for the specification
configuration: compounds (`compound_unify_sound`), complex selectors (`unify_sound_complex`,
`unify_sound_complex_pe`) and lists (`unify_sound_lists`); for `unifyAsis` the law is refuted
(`compound_unify_asis_refuted`: old `combine_vital`; `unify_asis_parent_strict_refuted`: the
strict `>` arm, still in the code) and holds under the hypothesis of
`compound_unify_sound_partial`.
-/
import RsassModel.Sel.ExtendLemmas
import RsassModel.Sel.UnifyLemmas
import RsassModel.Sel.UnifyComplex
import RsassModel.Theorems.C23
namespace C24
open Sel

/-- **extend keeps the originals**: whatever the superselector test, unifier and dedup, the
result of `selector.extend(s, x, y)` contains all complex selectors of `s`, in order, and only
adds selectors (`s` is a sublist of the result). -/
theorem extend_keeps_originals (S : Selector → Selector → Bool) (U : Selector → Selector → List Selector)
    (D : Compound → Compound → Compound) (s x y R : SelSet)
    (h : SelSet.extendW S U D s x y = some R) : List.Sublist s R := by
  unfold SelSet.extendW at h
  split at h
  · exact Option.some.inj h ▸ sublist_flatMap_of_single _ (Selector.extendW_keeps S U D x y) s
  · exact nomatch h

theorem extend_keeps_originals_fn (q : UnifyQuirks) (s x y R : SelSet)
    (h : SelSet.extend q s x y = some R) : List.Sublist s R :=
  extend_keeps_originals _ _ _ s x y R h

-- `selector.extend(".a, .b", ".a", ".c")` (equality of results is shown on the printed text:
-- the nested selector types have no derived `DecidableEq`)
example : (SelSet.extend unifyAsis [.leaf (Compound.ofClass "a"), .leaf (Compound.ofClass "b")]
    [.leaf (Compound.ofClass "a")] [.leaf (Compound.ofClass "c")]).map (SelSet.print false)
    = some ".a, .c, .b".toList := by
  decide +kernel

/-- **replace without a match is the identity**: when no member of `x` is a superselector of
any complex selector of `s` — at any nesting level `replace` enters (`Selector.noMatchListD`) —
`selector.replace(s, x, y)` returns `s`, for every `S`, `U`, `D`. -/
theorem replace_no_match_id (S : Selector → Selector → Bool) (U : Selector → Selector → List Selector)
    (D : Compound → Compound → Compound) (s x y : SelSet) (hx : checkExtendComplex x = true)
    (h : Selector.noMatchListD S x s = true) : SelSet.replaceW S U D s x y = some s := by
  unfold SelSet.replaceW
  simp only [hx, if_true, Selector.replaceListD_noMatch S U D x y s h]

theorem replace_no_match_id_fn (q : UnifyQuirks) (s x y : SelSet) (hx : checkExtendComplex x = true)
    (h : Selector.noMatchListD (Selector.isSuperF q.sup) x s = true) : SelSet.replace q s x y = some s :=
  replace_no_match_id _ _ _ s x y hx h

-- the hypothesis is met by non-trivial inputs (`.z` matches nothing in `.a:is(.b) > .c`)
example : Selector.noMatchListD (Selector.isSuperF superAsis) [.leaf (Compound.ofClass "z")]
    [.rel .parent (.leaf (.mk false none [] ["a".toList] none []
        [.mk "is".toList (.sel [.leaf (Compound.ofClass "b")]) false])) (Compound.ofClass "c")] = true := by
  decide +kernel

/-- **Soundness of compound unification** (specification model: `combine_vital` drops the more
general element): when `CompoundSelector::unify` returns a compound, both inputs are
superselectors of it.  Hypotheses: both or neither input has a pseudo-element (otherwise the
result has one that an input lacks, and Sass's own `is-superselector` is false), at most one
pseudo-element per compound, element types with at most one `|` (what the parser produces). -/
theorem compound_unify_sound (a b u : Compound)
    (hpe : a.pseudoElement.isSome = b.pseudoElement.isSome) (ha1 : a.onePe) (hb1 : b.onePe)
    (hwa : ∀ e, a.elem = some e → elemWf e = true) (hwb : ∀ e, b.elem = some e → elemWf e = true)
    (h : Compound.unify unifySpec a b = some u) :
    Compound.isSuper superSpec a u = true ∧ Compound.isSuper superSpec b u = true :=
  Compound.unify_sound hpe ha1 hb1 hwa hwb h

-- the hypotheses are met by non-trivial inputs: `a.x:is(.c)` ∪ `*|a.y:hover`
example : (Compound.unify unifySpec
    (.mk false (some "a".toList) [] ["x".toList] none [] [.mk "is".toList (.sel [.leaf (Compound.ofClass "c")]) false])
    (.mk false (some "*|a".toList) [] ["y".toList] none [] [.mk "hover".toList .none false])).map
      (Compound.print false) = some "a.x.y:is(.c):hover".toList := by
  decide +kernel

/-- **Soundness of `Selector::unify` for two complex selectors** (specification configuration:
`combine_vital` as repaired by ac1584f, `>` arm looking through sibling combinators), all 16
relation pairs of `unify_relbox`, any chain lengths: every selector produced has both inputs
as superselectors.  `Inv` = the compounds carry no pseudo-element and element types have at
most one `|`.  Under the strict `>` arm of the code (open finding C24-super-parent-strict) the
statement is false — `unify_asis_parent_strict_refuted` — exactly in the arms that put a
sibling link in front of a `>` link (`link_par_deep`). -/
theorem unify_sound_complex (a b : Selector) (ha : Inv a) (hb : Inv b) (u : Selector)
    (hu : u ∈ Selector.unify unifySpec a b) :
    Selector.isSuperF superSpec a u = true ∧ Selector.isSuperF superSpec b u = true :=
  (sound_all _).2.1 a b ha hb u hu

/-- **Complex ∪ complex with pseudo-elements on the rightmost compounds** (specification
configuration): `Inv` is only needed for the parts to the left of the rightmost compounds; the
rightmost compounds may carry a pseudo-element each, under the hypotheses of
`compound_unify_sound` (both or neither has one, at most one per compound, element types with
≤ 1 `|`) — which is where CSS allows pseudo-elements. -/
theorem unify_sound_complex_pe (a b : Selector)
    (hla : ∀ k s c, a = .rel k s c → Inv s) (hlb : ∀ k s c, b = .rel k s c → Inv s)
    (hpe : a.compound.pseudoElement.isSome = b.compound.pseudoElement.isSome)
    (h1 : a.compound.onePe) (h2 : b.compound.onePe)
    (hwa : ∀ e, a.compound.elem = some e → elemWf e = true)
    (hwb : ∀ e, b.compound.elem = some e → elemWf e = true)
    (u : Selector) (hu : u ∈ Selector.unify unifySpec a b) :
    Selector.isSuperF superSpec a u = true ∧ Selector.isSuperF superSpec b u = true :=
  unify_sound_top a b (fun _ _ _ _ _ _ ea eb => ⟨hla _ _ _ ea, hlb _ _ _ eb⟩)
    (fun c hc => compound_unify_sound _ _ c hpe h1 h2 hwa hwb hc) u hu

/-- **`selector.unify` is sound on lists of compound selectors** (specification model): every
complex selector of `selector.unify(A, B)` has both `A` and `B` as superselectors — the law of
the property, as `selector.is-superselector` (C23's `SelSet.isSuper`) states it. -/
theorem unify_sound_compound_lists (A B : List Compound)
    (hp : ∀ a ∈ A, ∀ b ∈ B, a.pseudoElement.isSome = b.pseudoElement.isSome)
    (hA : ∀ a ∈ A, a.onePe ∧ ∀ e, a.elem = some e → elemWf e = true)
    (hB : ∀ b ∈ B, b.onePe ∧ ∀ e, b.elem = some e → elemWf e = true)
    (c : Selector) (hc : c ∈ SelSet.unify unifySpec (A.map .leaf) (B.map .leaf)) :
    SelSet.isSuper superSpec (A.map .leaf) [c] = true ∧ SelSet.isSuper superSpec (B.map .leaf) [c] = true := by
  simp only [SelSet.unify, SelSet.unifyW, List.mem_flatMap, List.mem_map] at hc
  obtain ⟨_, ⟨a, ha, rfl⟩, _, ⟨b, hb, rfl⟩, hc⟩ := hc
  have hs := unify_sound_complex_pe (.leaf a) (.leaf b) (fun _ _ _ e => nomatch e)
    (fun _ _ _ e => nomatch e) (hp a ha b hb)
    (hA a ha).1 (hB b hb).1 (hA a ha).2 (hB b hb).2 c hc
  exact ⟨SelSet.isSuper_of_mem (List.mem_map.2 ⟨a, ha, rfl⟩) hs.1,
    SelSet.isSuper_of_mem (List.mem_map.2 ⟨b, hb, rfl⟩) hs.2⟩

/-- **Complex selector ∪ compound selector** (specification model): `selector.unify("… ca", "b")`
unifies `b` into the rightmost compound; both inputs are superselectors of the result (in
either argument order). -/
theorem unify_sound_complex_compound (k : Rel) (s : Selector) (ca b : Compound)
    (hpe : ca.pseudoElement.isSome = b.pseudoElement.isSome) (h1 : ca.onePe) (h2 : b.onePe)
    (hwa : ∀ e, ca.elem = some e → elemWf e = true) (hwb : ∀ e, b.elem = some e → elemWf e = true)
    (c : Selector)
    (hc : c ∈ SelSet.unify unifySpec [.rel k s ca] [.leaf b] ∨ c ∈ SelSet.unify unifySpec [.leaf b] [.rel k s ca]) :
    SelSet.isSuper superSpec [.rel k s ca] [c] = true ∧ SelSet.isSuper superSpec [.leaf b] [c] = true := by
  -- no `Inv` for `s`: with a compound selector on one side `unify_relbox` is never reached
  simp only [SelSet.unify, SelSet.unifyW, List.flatMap_cons, List.flatMap_nil, List.append_nil] at hc
  rcases hc with hc | hc
  · have hs := unify_sound_top (.rel k s ca) (.leaf b) (fun _ _ _ _ _ _ _ e => nomatch e)
      (fun u hu => compound_unify_sound ca b u hpe h1 h2 hwa hwb hu) c hc
    exact ⟨SelSet.isSuper_of_mem (List.mem_singleton.2 rfl) hs.1,
      SelSet.isSuper_of_mem (List.mem_singleton.2 rfl) hs.2⟩
  · have hs := unify_sound_top (.leaf b) (.rel k s ca) (fun _ _ _ _ _ _ e => nomatch e)
      (fun u hu => compound_unify_sound b ca u hpe.symm h2 h1 hwb hwa hu) c hc
    exact ⟨SelSet.isSuper_of_mem (List.mem_singleton.2 rfl) hs.2,
      SelSet.isSuper_of_mem (List.mem_singleton.2 rfl) hs.1⟩

/- NOT REACHED (kept visible): the as-is `_partial` of `unify_sound_complex`, i.e. for
`q := { sup := { parentStrict := true } }` (the code today):
  `(∀ link of a, b: not `>`) ∨ (∀ link of a, b: neither `~` nor `+`) → Inv a → Inv b →
     u ∈ Selector.unify q a b → Selector.isSuperF q.sup a u ∧ Selector.isSuperF q.sup b u`.
It needs Sel/UnifyComplex.lean generalised over the `through` flag and the quirk record
(`compound_unify_sound` for `superStrict` via `C23.super_trans_strict`); the only lemma that
uses `through = true` is `link_par_deep`, reached only from the (`>`, `~`/`+`) arms. -/

/-- **The property's law for `selector.unify` on lists of complex selectors** (specification
configuration): every complex selector of `selector.unify(A, B)` has `A` and `B` as
superselectors in the sense of `selector.is-superselector`. -/
theorem unify_sound_lists (A B : SelSet) (hA : ∀ a ∈ A, Inv a) (hB : ∀ b ∈ B, Inv b)
    (c : Selector) (hc : c ∈ SelSet.unify unifySpec A B) :
    SelSet.isSuper superSpec A [c] = true ∧ SelSet.isSuper superSpec B [c] = true := by
  simp only [SelSet.unify, SelSet.unifyW, List.mem_flatMap] at hc
  obtain ⟨a, ha, b, hb, hc⟩ := hc
  have hs := unify_sound_complex a b (hA a ha) (hB b hb) c hc
  exact ⟨SelSet.isSuper_of_mem ha hs.1, SelSet.isSuper_of_mem hb hs.2⟩

-- the hypotheses are met by non-trivial inputs: `.a > .b ~ c` and `.d + e.f` (Inv is decidable
-- compound by compound; here by unfolding)
example : Inv (.rel .sibling (.rel .parent (.leaf (Compound.ofClass "a")) (Compound.ofClass "b")) (Compound.ofElem "c")) := by
  intro c hc
  simp only [Selector.compounds, List.mem_cons, List.not_mem_nil, or_false] at hc
  rcases hc with rfl | rfl | rfl
  · exact ⟨by decide, fun e h => Option.some.inj h ▸ by decide⟩
  · exact ⟨by decide, fun e h => nomatch h⟩
  · exact ⟨by decide, fun e h => nomatch h⟩

/-- `:is(<classes>)` as a compound -/
def isOf (cs : List String) : Compound :=
  .mk false none [] [] none [] [.mk "is".toList (.sel (cs.map fun c => .leaf (Compound.ofClass c))) false]

/-- **Refutation** for `unifyAsis`, i.e. for `combine_vital` with the argument order it had
before ac1584f (known finding C24-vital-keeps-general):
`:is(.a)` ∪ `:is(.a, .b)` = `:is(.a, .b)`, of which `:is(.a)` is not a superselector. -/
theorem compound_unify_asis_refuted :
    ((Compound.unify unifyAsis (isOf ["a"]) (isOf ["a", "b"])).map fun u =>
        (Compound.print false u, Compound.isSuper superAsis (isOf ["a"]) u))
      = some (":is(.a, .b)".toList, false) := by decide +kernel

/-- the specification model on the same input keeps the more specific one -/
example : (Compound.unify unifySpec (isOf ["a"]) (isOf ["a", "b"])).map (Compound.print false)
    = some ":is(.a)".toList := by decide +kernel

/-- **Compound unification, old argument order of `combine_vital` — partial**: when the pseudo
selectors (and attributes) of the two inputs are only comparable symmetrically — no pseudo of
one side is a strict superselector of a pseudo of the other — `combine_vital`'s argument order
is immaterial and the as-is unifier with the specification's relations is sound. -/
theorem compound_unify_sound_partial (a b u : Compound)
    (hpe : a.pseudoElement.isSome = b.pseudoElement.isSome) (ha1 : a.onePe) (hb1 : b.onePe)
    (hwa : ∀ e, a.elem = some e → elemWf e = true) (hwb : ∀ e, b.elem = some e → elemWf e = true)
    (hsymP : ∀ p ∈ a.pseudos, ∀ p' ∈ b.pseudos, Pseudo.isSuper superSpec p p' = Pseudo.isSuper superSpec p' p)
    (hsymA : ∀ x ∈ a.attrs, ∀ y ∈ b.attrs, Attr.isSuper superSpec x y = Attr.isSuper superSpec y x)
    (h : Compound.unify { vitalKeepsGeneral := true } a b = some u) :
    Compound.isSuper superSpec a u = true ∧ Compound.isSuper superSpec b u = true := by
  apply compound_unify_sound a b u hpe ha1 hb1 hwa hwb
  rw [← h]
  simp only [superSpec] at hsymA hsymP
  unfold Compound.unify Compound.unifyG
  simp only [unifySpec]
  rw [combineVital_symm (Attr.isSuper {}) a.attrs b.attrs hsymA,
    combineVital_symm (Pseudo.isSuper {}) _ _ (fun p hp p' hp' =>
      hsymP p (List.mem_filter.1 hp).1 p' (List.mem_filter.1 hp').1)]
  rfl

/-- **Refutation** of the unify law for the strict `>` arm (flag `parentStrict`, still in the
code; known finding C24-super-parent-strict): `selector.unify("a > c", "b + .d")` =
`a > b + c.d`, and the as-is `is-superselector("a > c", …)` rejects it because its `>` arm does
not look through the `+`; the specification model accepts it. -/
theorem unify_asis_parent_strict_refuted :
    let A : SelSet := [.rel .parent (.leaf (Compound.ofElem "a")) (Compound.ofElem "c")]
    let B : SelSet := [.rel .adjacent (.leaf (Compound.ofElem "b")) (Compound.ofClass "d")]
    SelSet.print false (SelSet.unify unifyAsis A B) = "a > b + c.d".toList
      ∧ SelSet.isSuper superAsis A (SelSet.unify unifyAsis A B) = false
      ∧ SelSet.isSuper superAsis B (SelSet.unify unifyAsis A B) = true
      ∧ SelSet.isSuper superSpec A (SelSet.unify unifySpec A B) = true := by decide +kernel

/-- **selector.nest = rule nesting**: for a selector list `a` without `&` (a `CssSelectorSet`)
that is not the root, `selector.nest(a, b)` is the selector emitted for `a { b { … } }`
(both are `CssSelectorSet::nest(a, b, backref = a)`), for every `b` — with or without `&` —
and every variant of the nesting model. -/
theorem nest_fn_eq_rule_nest (q : NestQuirks) (a b : SelSet) (ha : ∀ i ∈ a, i.hasBackref = false)
    (hroot : SelSet.isRoot a = false) : fnNest q a b = ruleNest q a b := by
  rw [ruleNest_eq q a b ha hroot]; rfl

/-- **selector.append = `&`-suffix nesting** (the nesting code as it is, `nestAsis`: both go
through `CompoundSelector::append`, whose re-parse keeps only the last `#id` — C19 finding
C19-amp-id-suffix-lost; `nestSpec` keeps both ids and therefore differs from `selector.append`
there): when `selector.append(a, c)` succeeds for a simple suffix `c` (no `&`, no selector
arguments), its result is the selector emitted for `a { &c { … } }`. -/
theorem append_eq_amp_suffix (a : SelSet) (c : Compound) (R : SelSet)
    (ha : ∀ i ∈ a, i.hasBackref = false) (hroot : SelSet.isRoot a = false)
    (hc : c.backref = false) (hps : ∀ p ∈ c.pseudos, ∀ X, p.arg ≠ .sel X)
    (h : fnAppend a [.leaf c] = some R) : ruleNest nestAsis a (ampSuffix c) = R := by
  rw [ruleNest_eq nestAsis a _ ha hroot]
  unfold SelSet.nest ampSuffix
  simp only [List.map_cons, List.map_nil, roundRobin_singleton]
  have hb : (Selector.leaf (c.setBackref true)).hasBackref = true := by
    cases c; simp [Selector.hasBackref, Compound.hasBackref, Compound.setBackref]
  simp only [nestRow, hb, if_true, Selector.resolveRef]
  have hres : Compound.resolveInPseudo nestAsis a (c.setBackref true) = c.setBackref true := by
    cases c with
    | mk b e p cl i at' ps =>
      simp only [Compound.setBackref, Compound.resolveInPseudo]
      rw [Pseudo.resolveRefList_noSel nestAsis a ps (by simpa [Compound.pseudos] using hps)]
  have hbr : (c.setBackref true).backref = true := by cases c; rfl
  rw [hres]
  simp only [resolveCompound, hbr, if_true, Compound.setBackref_roundtrip c hc]
  exact resolveOneList_of_append c a R h

/-- **Refutation** for the code before fix d714329 (`{ ampViaUnify := true }`, not `nestAsis`;
finding C24-amp-via-unify, now fixed — the code today is the `nestAsis` path of
`append_eq_amp_suffix`): `selector.append(".a", ".a")` is `.a.a` but the rule `.a { &.a {…} }`
emits `.a`. -/
theorem append_asis_refuted :
    (fnAppend [.leaf (Compound.ofClass "a")] [.leaf (Compound.ofClass "a")]).map (SelSet.print false)
        = some ".a.a".toList
    ∧ SelSet.print false (ruleNest { ampViaUnify := true } [.leaf (Compound.ofClass "a")] (ampSuffix (Compound.ofClass "a")))
        = ".a".toList := by decide +kernel

end C24
