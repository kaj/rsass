/-
C10 — Numbers are printed as correctly rounded decimals.
Property theorems about `Num.fmtNumber` (model of `impl Display for Formatted<Number>`).
Parametric theorems hold for EVERY `NumOps` carrier, hence for whatever f64 does.
`fmtSpec` is the repaired formatter (the code since `ce6f206`); `fmtAsIs` is the code before
that fix, which still printed one digit when no decimal is allowed.  The statements spell
the number of decimals out as `min (16 - log10ceil (truncAbs s)) p`; the lemmas call the
same term `decimalsOf p s` (equal by definition, so their results are used as they are).
-/
import RsassModel.Num.FormatLemmasShape
namespace C10
open Num NumOps

variable {α : Type} [NumOps α]

/-- The number of fractional digits never exceeds `max 1 (min cap precision)` where
`cap = 16 - ⌈log10 whole⌉` is the significant-digit cap — for every carrier, with or
without the zero-decimals deviation. -/
theorem fmt_frac_len (q : FmtQuirks) (p : Nat) (s : α) :
    (fracDigits q p s).1.length ≤ max 1 (min (16 - log10ceil (truncAbs s)) p) := by
  rcases fracDigits_length q p s with h | ⟨_, _, h⟩
  · exact Nat.le_trans h (Nat.le_max_right _ _)
  · exact Nat.le_trans h (Nat.le_max_left _ _)

/-- FULL STATEMENT (specification model, deviation repaired): at most `precision`
fractional digits, and at most `cap` so that no more than 16 significant digits are
printed — for every carrier and every input. -/
theorem spec_frac_len (p : Nat) (s : α) :
    (fracDigits fmtSpec p s).1.length ≤ min (16 - log10ceil (truncAbs s)) p := by
  rcases fracDigits_length fmtSpec p s with h | ⟨hq, _, _⟩
  · exact h
  · exact absurd hq Bool.false_ne_true

theorem spec_frac_len_le_precision (p : Nat) (s : α) :
    (fracDigits fmtSpec p s).1.length ≤ p :=
  Nat.le_trans (spec_frac_len p s) (Nat.min_le_right _ _)

/-- PARTIAL (`fmtAsIs`): the same bound under the explicit hypothesis that excludes
the deviation, i.e. at least one decimal is allowed. -/
theorem asis_frac_len_partial (p : Nat) (s : α)
    (h : 1 ≤ min (16 - log10ceil (truncAbs s)) p) :
    (fracDigits fmtAsIs p s).1.length ≤ min (16 - log10ceil (truncAbs s)) p := by
  rcases fracDigits_length fmtAsIs p s with h' | ⟨_, h0, _⟩
  · exact h'
  · exact absurd (h0 ▸ h : 1 ≤ 0) (by decide)

/-- `fmtAsIs` treats precision 0 exactly like precision 1 (the deviation of known finding
C10-precision0, witness 0.5 ↦ "0.5"). -/
theorem asis_precision0_eq_precision1 (s : α) :
    fracDigits fmtAsIs 0 s = fracDigits fmtAsIs 1 s := by
  cases h : isZero (fract s)
  · -- with `decimalsOf p s ≤ p` both loop bounds are `0`
    have hn : decimalsOf 0 s - 1 = decimalsOf 1 s - 1 :=
      (Nat.sub_eq_zero_of_le (Nat.le_trans (decimalsOf_le 0 s) (Nat.zero_le 1))).trans
        (Nat.sub_eq_zero_of_le (decimalsOf_le 1 s)).symm
    rw [fracDigits_of_decimals fmtAsIs 0 s h (Or.inl rfl),
      fracDigits_of_decimals fmtAsIs 1 s h (Or.inl rfl), hn]
  · rw [fracDigits_of_int fmtAsIs 0 s h, fracDigits_of_int fmtAsIs 1 s h]

/-- Non-finite numbers print as `NaN`, `infinity`, `-infinity`. -/
theorem fmt_nan (q : FmtQuirks) (c : Bool) (p : Nat) (s : α) (h : isNaN s = true) :
    fmtNumber q c p s = "NaN" := by
  simp [fmtNumber, h]

theorem fmt_inf (q : FmtQuirks) (c : Bool) (p : Nat) (s : α) (h1 : isNaN s = false)
    (h2 : isInf s = true) :
    fmtNumber q c p s = (if signBit s then "-infinity" else "infinity") := by
  simp [fmtNumber, h1, h2]

/-- No negative zero: when the printed integer part is zero and no fractional digit is
printed, no sign is printed (the text is exactly the integer part). -/
theorem fmt_no_neg_zero (q : FmtQuirks) (c : Bool) (p : Nat) (s : α)
    (h1 : isNaN s = false) (h2 : isInf s = false)
    (hd : (fracDigits q p s).1 = []) (hw : isZero (fracDigits q p s).2 = true) :
    fmtNumber q c p s = showDigits (showWhole (fracDigits q p s).2) := by
  rw [fmtNumber_finite q c p s h1 h2, hd, hw]
  simp

/-- The leading zero is dropped only in compressed style: in expanded style the integer
part is always printed. -/
theorem fmt_expanded_keeps_whole (q : FmtQuirks) (p : Nat) (s : α)
    (h1 : isNaN s = false) (h2 : isInf s = false) :
    ∃ sign d, fmtNumber q false p s
      = sign ++ showDigits (showWhole (fracDigits q p s).2) ++ d := by
  have hc : ¬ (isZero (fracDigits q p s).2 = true ∧ false = true ∧
      (!(fracDigits q p s).1.isEmpty) = true) := fun h => Bool.false_ne_true h.2.1
  have h := fmtNumber_finite q false p s h1 h2
  rw [if_neg hc] at h
  exact ⟨_, _, h⟩

/-! ## Exact-rational instance: the rounding clause

`NumOps ℚ` (`Num/RatInst.lean`) gives every operation of the formatter its mathematical
meaning.  `printedAbs (dec, whole) = whole + Σ decᵢ/10^(i+1)` is the magnitude the text
denotes (`fmt_text_shape`, `fmt_whole_denotes`). -/

/-- `fmtAsIs` and `fmtSpec` coincide as soon as one decimal is allowed — for every
carrier. -/
theorem asis_eq_spec_partial (p : Nat) (s : α)
    (h : 1 ≤ min (16 - log10ceil (truncAbs s)) p) :
    fracDigits fmtAsIs p s = fracDigits fmtSpec p s := by
  cases hz : isZero (fract s)
  · rw [fracDigits_of_decimals fmtAsIs p s hz (Or.inr h),
      fracDigits_of_decimals fmtSpec p s hz (Or.inr h)]
  · rw [fracDigits_of_int fmtAsIs p s hz, fracDigits_of_int fmtSpec p s hz]

/-- HEADLINE (specification model, every rational `x`, every precision `p`).  With
`k = min (16 - ⌈log10 ⌊|x|⌋⌉) p` decimals allowed, the printed magnitude is within half a
unit of the `k`-th decimal place of `|x|`, and an exact tie is rounded away from zero. -/
theorem fmt_correctly_rounded (p : Nat) (x : ℚ) :
    |printedAbs (fracDigits fmtSpec p x) - (|x|)|
        ≤ 1 / (2 * 10 ^ (min (16 - log10ceil (truncAbs x)) p)) ∧
      (|printedAbs (fracDigits fmtSpec p x) - (|x|)|
          = 1 / (2 * 10 ^ (min (16 - log10ceil (truncAbs x)) p)) →
        |x| < printedAbs (fracDigits fmtSpec p x)) := by
  obtain ⟨a, b⟩ := (fracDigits_interval fmtSpec p x (Or.inl rfl)).abs
  exact ⟨a, fun he => sub_pos.mp (b he)⟩

/-- CLOSED FORM (specification model): the printed magnitude IS `|x|` rounded half away
from zero at `k` places, `⌊|x|·10^k + ½⌋ / 10^k`.  Together with `spec_frac_len` (at most
`k` digits) this determines the fractional digits completely. -/
theorem fmt_round_exact (p : Nat) (x : ℚ) :
    printedAbs (fracDigits fmtSpec p x)
      = (⌊|x| * 10 ^ (min (16 - log10ceil (truncAbs x)) p) + 1 / 2⌋ : ℤ)
          / 10 ^ (min (16 - log10ceil (truncAbs x)) p) := by
  obtain ⟨m, hm⟩ := printedAbs_scaled fmtSpec p x _ (spec_frac_len p x)
  exact round_exact_of_interval _ _ _ m hm (fracDigits_interval fmtSpec p x (Or.inl rfl))

/-- COMPLETE CHARACTERISATION (specification model).  The output of `fracDigits` is THE
canonical numeral of `|x|` rounded half away from zero at `k` places: any natural integer
part `w` and digit list `ds` (digits `< 10`, no trailing zero) denoting
`⌊|x|·10^k + ½⌋ / 10^k` is exactly what is printed. -/
theorem fmt_spec_determined (p : Nat) (x : ℚ) (w : Nat) (ds : List Nat)
    (h1 : ∀ d ∈ ds, d < 10) (h2 : ds.getLast? ≠ some 0)
    (hv : (w : ℚ) + fracVal ds
      = (⌊|x| * 10 ^ (min (16 - log10ceil (truncAbs x)) p) + 1 / 2⌋ : ℤ)
          / 10 ^ (min (16 - log10ceil (truncAbs x)) p)) :
    fracDigits fmtSpec p x = (ds, (w : ℚ)) := by
  obtain ⟨w0, hw0⟩ := fracDigits_whole_nat fmtSpec p x
  have he := fmt_round_exact p x
  rw [← hv] at he
  unfold printedAbs at he
  rw [hw0] at he
  obtain ⟨e1, e2⟩ := numeral_unique w0 w _ ds (fracDigits_shape fmtSpec p x)
    ⟨(noTrailingZero_iff ds).mpr h2, h1⟩ he
  apply Prod.ext
  · exact e2
  · simp only [hw0, e1]

/-- the characterisation is not vacuous: `2/3` at precision 3 is `0.667`, and `-1/8` at
precision 2 is an exact tie, rounded away from zero to `0.13` -/
example : fracDigits fmtSpec 3 (2 / 3 : ℚ) = ([6, 6, 7], 0) ∧
    fracDigits fmtSpec 2 (-1 / 8 : ℚ) = ([1, 3], 0) ∧
    fracDigits fmtSpec 2 (99999 / 10000 : ℚ) = ([], 10) := by decide +kernel

/-- PARTIAL (`fmtAsIs`): correctly rounded whenever at least one decimal is allowed. -/
theorem asis_correctly_rounded_partial (p : Nat) (x : ℚ)
    (h : 1 ≤ min (16 - log10ceil (truncAbs x)) p) :
    |printedAbs (fracDigits fmtAsIs p x) - (|x|)|
        ≤ 1 / (2 * 10 ^ (min (16 - log10ceil (truncAbs x)) p)) ∧
      (|printedAbs (fracDigits fmtAsIs p x) - (|x|)|
          = 1 / (2 * 10 ^ (min (16 - log10ceil (truncAbs x)) p)) →
        |x| < printedAbs (fracDigits fmtAsIs p x)) := by
  rw [asis_eq_spec_partial p x h]
  exact fmt_correctly_rounded p x

theorem asis_round_exact_partial (p : Nat) (x : ℚ)
    (h : 1 ≤ min (16 - log10ceil (truncAbs x)) p) :
    printedAbs (fracDigits fmtAsIs p x)
      = (⌊|x| * 10 ^ (min (16 - log10ceil (truncAbs x)) p) + 1 / 2⌋ : ℤ)
          / 10 ^ (min (16 - log10ceil (truncAbs x)) p) := by
  rw [asis_eq_spec_partial p x h]
  exact fmt_round_exact p x

/-- the hypothesis of the partial theorems is met by a non-trivial input: `-1234.5678`
at precision 3 has `k = 3`, and the last digit is rounded up (`.5678 → .568`). -/
example : 1 ≤ min (16 - log10ceil (truncAbs (-12345678 / 10000 : ℚ))) 3 ∧
    fracDigits fmtAsIs 3 (-12345678 / 10000 : ℚ) = ([5, 6, 8], 1234) := by decide +kernel

/-- REFUTATION of the full statement for `fmtAsIs` (deviation `precisionZeroOneDigit`,
precision 0): `1/2` must print as `1` (`⌊½ + ½⌋`), `fmtAsIs` prints the digit `5` after an
integer part `0`, i.e. `0.5`. -/
theorem asis_precision0_witness :
    fracDigits fmtAsIs 0 (1 / 2 : ℚ) = ([5], 0) ∧ fracDigits fmtSpec 0 (1 / 2 : ℚ) = ([], 1) := by
  decide +kernel

theorem asis_round_exact_refuted :
    ¬ (printedAbs (fracDigits fmtAsIs 0 (1 / 2 : ℚ))
        = (⌊|(1 / 2 : ℚ)| * 10 ^ (min (16 - log10ceil (truncAbs (1 / 2 : ℚ))) 0) + 1 / 2⌋ : ℤ)
            / 10 ^ (min (16 - log10ceil (truncAbs (1 / 2 : ℚ))) 0)) := by
  rw [asis_precision0_witness.1, Nat.min_zero, pow_zero, mul_one, div_one]
  norm_num [printedAbs, fracVal]

/-- … and the digit-count clause fails on the same witness (one digit where none is allowed). -/
theorem asis_frac_len_refuted :
    ¬ ((fracDigits fmtAsIs 0 (1 / 2 : ℚ)).1.length
        ≤ min (16 - log10ceil (truncAbs (1 / 2 : ℚ))) 0) := by
  decide +kernel

/-! ## Shape of the text (exact instance; `fmtSpec` and `fmtAsIs` alike) -/

/-- No trailing fractional zero: the last fractional digit printed is not `0`. -/
theorem fmt_no_trailing_zero (q : FmtQuirks) (p : Nat) (x : ℚ) :
    (fracDigits q p x).1.getLast? ≠ some 0 :=
  (noTrailingZero_iff _).mp (fracDigits_shape q p x).1

/-- The character list of the text: a leading `-` exactly for a negative `x` whose printed
magnitude is not zero, the decimal digits of the integer part (omitted only for a zero
integer part in compressed style when fractional digits follow), and — only if there are
fractional digits — one `.` followed by them.  Every digit is `< 10`.  Hence plain decimal
notation: no exponent, at most one `.`. -/
theorem fmt_text_shape (q : FmtQuirks) (c : Bool) (p : Nat) (x : ℚ) :
    ∃ ws : List Nat,
      (fmtNumber q c p x).toList =
        numeralChars (x < 0 ∧ printedAbs (fracDigits q p x) ≠ 0) ws (fracDigits q p x).1 ∧
      (ws = showWhole (fracDigits q p x).2 ∨
        (ws = [] ∧ c = true ∧ (fracDigits q p x).2 = 0 ∧ (fracDigits q p x).1 ≠ [])) ∧
      (∀ d ∈ ws, d < 10) ∧ (∀ d ∈ (fracDigits q p x).1, d < 10) := by
  obtain ⟨w, hw⟩ := fracDigits_whole_nat q p x
  have hwd : ∀ d ∈ showWhole (fracDigits q p x).2, d < 10 := by
    rw [hw, showWhole_natCast]
    exact (decDigits_spec w).1
  rw [fmtNumber_toList]
  by_cases h : (fracDigits q p x).2 = 0 ∧ c = true ∧ (fracDigits q p x).1 ≠ []
  · exact ⟨[], by rw [if_pos h], Or.inr ⟨rfl, h.2.1, h.1, h.2.2⟩, by simp,
      (fracDigits_shape q p x).2⟩
  · exact ⟨_, by rw [if_neg h], Or.inl rfl, hwd, (fracDigits_shape q p x).2⟩

/-- CHARSET.  Every printed character is `-`, `.` or a decimal digit. -/
theorem fmt_digits_lt_10 (q : FmtQuirks) (c : Bool) (p : Nat) (x : ℚ) :
    ∀ ch ∈ (fmtNumber q c p x).toList, ch = '-' ∨ ch = '.' ∨ ch.isDigit = true := by
  obtain ⟨ws, htext, _, hws, hds⟩ := fmt_text_shape q c p x
  rw [htext]
  exact numeralChars_charset _ ws _ hws hds

/-- SIGN.  A `-` is printed (and then as the first character) exactly when `x < 0` and
the printed magnitude is not zero: a negative value that rounds to zero prints as `0`,
never `-0`. -/
theorem fmt_sign_iff (q : FmtQuirks) (c : Bool) (p : Nat) (x : ℚ) :
    '-' ∈ (fmtNumber q c p x).toList ↔ x < 0 ∧ printedAbs (fracDigits q p x) ≠ 0 := by
  obtain ⟨ws, htext, _, hws, hds⟩ := fmt_text_shape q c p x
  rw [htext]
  exact minus_mem_numeralChars _ ws _ hws hds

/-- The integer-part digits denote the integer part. -/
theorem fmt_whole_denotes (q : FmtQuirks) (p : Nat) (x : ℚ) :
    ((natVal (showWhole (fracDigits q p x).2) : Nat) : ℚ) = (fracDigits q p x).2 := by
  obtain ⟨w, hw⟩ := fracDigits_whole_nat q p x
  rw [hw, showWhole_natCast, (decDigits_spec w).2.1]

/-- SIGNIFICANT-DIGIT CAP, stated exactly.  When fractional digits are printed the
integer part is `w = ⌊|x|⌋` itself, printed with `numDigits w` digits if `w ≥ 1`
(a zero integer part carries no significant digit: `numDigits 0 = 0`), and
integer digits + fractional digits ≤ 16 — EXCEPT when `w` is an exact power of ten
`10^j`, where the code's cap `16 - ⌈log10 w⌉ = 16 - j` sits beside `j + 1` integer
digits and up to 17 significant digits appear (`fmt_sig_cap_edge`). -/
theorem fmt_sig_cap (p : Nat) (x : ℚ) (hd : (fracDigits fmtSpec p x).1 ≠ []) :
    (fracDigits fmtSpec p x).2 = (ratTruncNat x : ℚ) ∧
      (1 ≤ ratTruncNat x →
        (showWhole (fracDigits fmtSpec p x).2).length = numDigits (ratTruncNat x)) ∧
      numDigits (ratTruncNat x) + (fracDigits fmtSpec p x).1.length ≤ 17 ∧
      ((∀ j, ratTruncNat x ≠ 10 ^ j) →
        numDigits (ratTruncNat x) + (fracDigits fmtSpec p x).1.length ≤ 16) := by
  have hw : (fracDigits fmtSpec p x).2 = (ratTruncNat x : ℚ) :=
    (fracDigits_whole fmtSpec p x).resolve_right fun h => hd h.1
  -- the cap: at least one digit, at most `16 - ⌈log10 w⌉` of them
  have hc : log10ceilNat (ratTruncNat x) + (fracDigits fmtSpec p x).1.length ≤ 16 := by
    have hl := spec_frac_len p x
    have hpos := List.length_pos_iff.mpr hd
    rw [log10ceil_truncAbs] at hl
    omega
  refine ⟨hw, fun h1 => ?_, ?_, fun hp => ?_⟩
  · rw [hw, showWhole_natCast, numDigits, if_neg (Nat.ne_of_gt h1)]
  · refine Nat.le_trans (Nat.add_le_add_right (numDigits_le_log10ceil_succ _) _) ?_
    rw [Nat.add_right_comm]
    exact Nat.succ_le_succ hc
  · rw [numDigits_eq_log10ceil _ hp]
    exact hc

/-- the hypothesis of `fmt_sig_cap` is satisfiable -/
example : (fracDigits fmtSpec 10 (1 / 3 : ℚ)).1 ≠ [] := by decide +kernel

/-- the power-of-ten edge is real: `1000000 + 1/3` at precision 20 prints 7 integer
digits and 10 fractional digits — 17 significant digits (stated for `fmtSpec`; `fmtAsIs`
agrees by `asis_eq_spec_partial`; the Rust code does the same, the Python oracle of the
check uses the code's cap formula). -/
theorem fmt_sig_cap_edge :
    fracDigits fmtSpec 20 (1000000 + 1 / 3 : ℚ) = ([3, 3, 3, 3, 3, 3, 3, 3, 3, 3], 1000000) ∧
      showWhole (1000000 : ℚ) = [1, 0, 0, 0, 0, 0, 0] := by
  decide +kernel

end C10
