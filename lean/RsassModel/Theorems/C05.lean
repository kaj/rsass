/-
C05 — Compilation is deterministic and isolated (PARTIAL: the theorems cover the logical
process-wide state of the model `Glue/Globals.lean`; data races, the allocator and the
scheduler are runtime matters outside it — tied by the history/thread correspondence run
and by the inventory guard over every `static` of rsass/src).
-/
import RsassModel.Glue.GlobalsLemmas
namespace C05
open Glue.Globals

/-- Whatever a stylesheet does — `ns.$x: v` on a built-in module,
`@use "sass:m" with (..)`, `@forward .. with`, `load-css(.., $with:)`, `@use .. as *`,
user functions named like built-ins, successful or failing — the built-in modules and
the global function table are the same afterwards. -/
theorem builtins_immutable (p : Process) (ops : List Op) :
    (compile p ops).1.modules = p.modules ∧ (compile p ops).1.functions = p.functions := by
  have h := runOps_builtins ops p Comp.empty
  unfold compile
  split
  all_goals
    rename_i heq
    rw [heq] at h
    exact h

/-- … and so after any history of compilations. -/
theorem history_builtins_immutable (hist : List (List Op)) : ∀ (p : Process),
    (runHistory p hist).1.modules = p.modules ∧ (runHistory p hist).1.functions = p.functions := by
  induction hist with
  | nil => intro p; exact ⟨rfl, rfl⟩
  | cons ops rest ih =>
    intro p
    simp only [runHistory]
    have h1 := builtins_immutable p ops
    have h2 := ih (compile p ops).1
    exact ⟨h2.1.trans h1.1, h2.2.trans h1.2⟩

/-- The attempts themselves are refused: assigning to a variable of a built-in module. -/
theorem assign_builtin_refused (ms : List (Name × ScopeData)) (fs : List (Name × Nat)) (c : Comp)
    (ns url x : Name) (v w : Val) (m : ScopeData) (d g : Bool)
    (hns : c.uses.lookup ns = some (.builtin url)) (hm : ms.lookup url = some m)
    (hx : m.vars.lookup x = some w) :
    stepPure ms fs c (.assign (some ns) x v d g) = .error .modifiedBuiltin := by
  simp [stepPure, hns, hm, hx]

/-- … configuring one through `@use`, `@forward` or `load-css`. -/
theorem config_builtin_refused (ms : List (Name × ScopeData)) (fs : List (Name × Nat)) (c : Comp)
    (url ns : Name) (k : Name) (v : Val) (cfg : List (Name × Val)) (uv : Option (List (Name × Val))) (e : Bool)
    (hm : (ms.lookup url).isSome = true) :
    stepPure ms fs c (.use url ns ((k, v) :: cfg) uv) = .error .configBuiltin ∧
    stepPure ms fs c (.forward url ((k, v) :: cfg) uv) = .error .configBuiltin ∧
    stepPure ms fs c (.loadCss url ((k, v) :: cfg) e) = .error .configBuiltin := by
  simp [stepPure, hm]

/-- The result of a compilation (CSS or error) is a function of the
stylesheet and of the built-ins only — the rest of the process state (`CALL_ID`, the
`dep_warn` flags) cannot influence it, for stylesheets that do not call `unique-id()`. -/
theorem compile_pure (p q : Process) (ops : List Op)
    (hm : p.modules = q.modules) (hf : p.functions = q.functions)
    (hu : ∀ op ∈ ops, op.usesUid = false) :
    (compile p ops).2 = (compile q ops).2 := by
  rw [← threadResult_runOps, ← threadResult_runOps, runOps_local ops p q Comp.empty ⟨hm, hf⟩ hu]

/-- FULL STATEMENT on the model (sequential part): the same stylesheet gives the same
result whatever was compiled earlier in the same process. -/
theorem history_independent (p : Process) (hist : List (List Op)) (ops : List Op)
    (hu : ∀ op ∈ ops, op.usesUid = false) :
    (compile (runHistory p hist).1 ops).2 = (compile p ops).2 := by
  have h := history_builtins_immutable hist p
  exact compile_pure _ _ ops h.1 h.2 hu

/-- … in particular compiling it twice in a row gives the same result twice. -/
theorem compile_twice_same (p : Process) (ops : List Op) (hu : ∀ op ∈ ops, op.usesUid = false) :
    (compile (compile p ops).1 ops).2 = (compile p ops).2 := by
  have h := builtins_immutable p ops
  exact compile_pure _ _ ops h.1 h.2 hu

/-- The hypothesis `no unique-id()` is needed: with it, the result does depend on the
history (that is C06's subject). -/
theorem uid_depends_on_history :
    (compile ⟨[], [], 0, []⟩ [.uniqueId]).2 ≠ (compile (compile ⟨[], [], 0, []⟩ [.uniqueId]).1 [.uniqueId]).2 := by
  intro h
  simp [compile, runOps, step, Comp.empty] at h

/-- Concurrent compilations, statement-level interleavings: no schedule changes the
built-ins either. -/
theorem sched_builtins_immutable (sched : List Nat) : ∀ (p : Process) (ts : List Thread),
    (runSched p ts sched).1.modules = p.modules ∧ (runSched p ts sched).1.functions = p.functions := by
  induction sched with
  | nil => intro p ts; exact ⟨rfl, rfl⟩
  | cons i rest ih =>
    intro p ts
    rw [runSched_cons]
    split
    · exact ih p ts
    · rename_i t _
      have hstep := stepThread_builtins p t
      have := ih (stepThread p t).1 (setNth ts i (stepThread p t).2)
      exact ⟨this.1.trans hstep.1, this.2.trans hstep.2⟩

/-- Progress under ANY interleaving: after every schedule, compilation `i` is exactly
where the same number of its own steps, run alone, would have taken it — the other
compilations' steps are invisible to it (no `unique-id()`). -/
theorem concurrent_thread_progress (p : Process) (ts : List Thread) (sched : List Nat)
    (hno : ∀ (k : Nat) (t : Thread), ts[k]? = some t → t.noUid)
    (i : Nat) (t : Thread) (hi : ts[i]? = some t) :
    (runSched p ts sched).2[i]? = some (soloN p (sched.count i) t) :=
  runSched_thread p sched p ts (SameBuiltins.refl p) hno i t hi

/-- FULL STATEMENT on the model (concurrent part): for any number of compilations
running concurrently and ANY statement-level interleaving of their steps over the shared
process state, every compilation that has been scheduled to its end finishes with
exactly the result (`ok` output or error) of compiling the same stylesheet alone. -/
theorem concurrent_independent (p : Process) (progs : List (List Op)) (sched : List Nat)
    (hu : ∀ ops ∈ progs, ∀ op ∈ ops, op.usesUid = false)
    (i : Nat) (ops : List Op) (hi : progs[i]? = some ops) (hdone : ops.length ≤ sched.count i) :
    ∃ t, (runSched p (progs.map fun o => ⟨o, .ok Comp.empty⟩) sched).2[i]? = some t ∧
      t.todo = [] ∧ threadResult t = (compile p ops).2 := by
  have hget : (progs.map fun o => (⟨o, .ok Comp.empty⟩ : Thread))[i]? = some ⟨ops, .ok Comp.empty⟩ := by
    rw [List.getElem?_map, hi]; rfl
  have hno : ∀ (k : Nat) (t : Thread), (progs.map fun o => (⟨o, .ok Comp.empty⟩ : Thread))[k]? = some t → t.noUid := by
    intro k t hk
    rw [List.getElem?_map] at hk
    cases hp : progs[k]? with
    | none => rw [hp] at hk; cases hk
    | some o =>
      rw [hp] at hk
      cases hk
      exact hu o (List.mem_of_getElem? hp)
  have hprog := concurrent_thread_progress p _ sched hno i _ hget
  have huo : ∀ op ∈ ops, op.usesUid = false := hu ops (List.mem_of_getElem? hi)
  -- thread `i` has run `ops.length` steps alone (to its end, `soloN_all`) and then `d` idle ones
  obtain ⟨d, hd⟩ : ∃ d, sched.count i = ops.length + d := ⟨sched.count i - ops.length, by omega⟩
  rw [hd, soloN_add, soloN_all p ops Comp.empty huo, soloN_done] at hprog
  exact ⟨_, hprog, rfl, threadResult_runOps p ops⟩

/-- Non-vacuity: two compilations, one of them attacking `math.$pi`, interleaved
statement by statement; the reader still sees the built-in value. -/
example :
    ((runSched ⟨[(['u'], ⟨some ['u'], [(['x'], .num 3)], []⟩)], [], 0, []⟩
        [⟨[.use ['u'] ['m'] [] none, .assign (some ['m']) ['x'] (.num 7) false false], .ok Comp.empty⟩,
         ⟨[.use ['u'] ['m'] [] none, .emitVar (some ['m']) ['x']], .ok Comp.empty⟩]
        [0, 1, 0, 1]).2.map threadResult) =
      [.error .modifiedBuiltin, .ok [.num 3]] := by
  rfl

end C05
