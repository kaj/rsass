/-
C20 — Nested at-rules bubble and @at-root escapes correctly.

Model: `Dest/Css.lean` (cssdest.rs as a frame stack) and `Dest/Emit.lean` (destination half
of `handle_item`).  All theorems hold for EVERY text/selector algebra `ops : Ops σ` and for
enclosing rule chains of ANY depth; `q : Quirks` is universally quantified wherever the
deviation flags play no role, `Quirks.spec`/`Quirks.asis` appear where they do.
-/
import RsassModel.Dest.Lemmas
import RsassModel.Dest.Refine
import RsassModel.Dest.RefineLost
import RsassModel.Dest.LemmasMerge
import RsassModel.Dest.LemmasFlat
import RsassModel.Dest.Text
namespace C20
open Dest
variable {σ : Type}

/-- the selector context does not carry the specification-side "style rule excluded" mark
(or the run reproduces the code, which ignores it) -/
def Plain (q : Quirks) (c : SelCtx σ) : Prop := (c.excluded && !q.atRootKeepsRule) = false

/-- `Dest.deliver_ruleStack`, the mechanism: an item that a chain of rule frames standing on
the root does not keep (a rule, an `@media`, an at-rule with a body) arrives at the TOP LEVEL,
after the non-empty rules of the chain, outermost first; the chain is left empty. -/
theorem bubble_through_rules (q : Quirks) (ops : Ops σ) (rs : Rules σ) (root its : List (Item σ)) :
    deliver q ops (ruleStack rs) root its = .ok (emptied rs, root ++ commitsOf rs ++ its) :=
  deliver_ruleStack q ops rs root its

/-- (FULL, any flags) `@media a { d₁; …; dₙ }` inside a style rule
`s` (itself nested in any chain `rs` of style rules, no at-rule frame below) is emitted as a
top-level item whose body is one copy of the selector `s` around the declarations, in
declaration order.  What the enclosing rules had collected is emitted before it. -/
theorem media_in_rule_bubbles (q : Quirks) (ops : Ops σ) (c : SelCtx σ) (hc : Plain q c)
    (a s : σ) (cur : List (BodyItem σ)) (rs : Rules σ) (root : List (Item σ)) (lost : Nat)
    (l : List (σ × σ)) :
    emitItem q ops c (.media a (declsOf l)) { stack := .rule s cur :: ruleStack rs, root := root, lost := lost }
      = .ok { stack := .rule s [] :: emptied rs,
              root := root ++ commitsOf rs ++ commitItems s cur ++ [.media a (commitItems s (propsOf l))],
              lost := lost } := by
  have hc' : (!c.excluded || q.atRootKeepsRule) = true := by
    unfold Plain at hc
    cases h1 : c.excluded <;> cases h2 : q.atRootKeepsRule <;> simp_all
  simp only [emitItem, startMedia, hc', copySel, Option.map, if_true]
  rw [emitBody_decls_at q ops _ l (by simp)]
  have hit : atResult q (.media a) (some (s, [] ++ propsOf l)) [] = .media a (commitItems s (propsOf l)) := by
    cases hq : q.atRuleHoists <;> simp [atResult, AtKind.toItem, hq]
  show liftInv (close q ops { stack := _ :: ruleStack ((s, cur) :: rs), root := root, lost := lost }) = _
  rw [close_on_rules q ops _ _ root lost rfl]
  simp only [handover, hit, liftInv, emptied, List.map_cons, commitsOf_cons, List.append_assoc]

/-- the same for `@supports` and unknown at-rules (`is_flat_rule` false): `AtRuleDest`
inserts its rule copy even when it is empty (it then prints nothing). -/
theorem atrule_in_rule_bubbles (q : Quirks) (ops : Ops σ) (c : SelCtx σ) (hc : Plain q c)
    (n a s : σ) (hflat : ops.isFlat n = false) (hkf : ops.isKeyframes n = false)
    (cur : List (BodyItem σ)) (rs : Rules σ) (root : List (Item σ)) (lost : Nat) (l : List (σ × σ)) :
    emitItem q ops c (.atrule n a (declsOf l)) { stack := .rule s cur :: ruleStack rs, root := root, lost := lost }
      = .ok { stack := .rule s [] :: emptied rs,
              root := root ++ commitsOf rs ++ commitItems s cur ++ [.atrule n a [.rule s (propsOf l)]],
              lost := lost } := by
  have hc' : (!c.excluded || q.atRootKeepsRule) = true := by
    unfold Plain at hc
    cases h1 : c.excluded <;> cases h2 : q.atRootKeepsRule <;> simp_all
  simp only [emitItem, startAtRule, hc', hflat, hkf, copySel, Option.map, Bool.not_true, Bool.or_false,
    Bool.false_eq_true, if_false]
  rw [emitBody_decls_at q ops _ l (by simp)]
  have hit : atResult q (.atrule n a) (some (s, [] ++ propsOf l)) [] = .atrule n a [.rule s (propsOf l)] := by
    cases hq : q.atRuleHoists <;> simp [atResult, AtKind.toItem, hq]
  show liftInv (close q ops { stack := _ :: ruleStack ((s, cur) :: rs), root := root, lost := lost }) = _
  rw [close_on_rules q ops _ _ root lost rfl]
  simp only [handover, hit, liftInv, emptied, List.map_cons, commitsOf_cons, List.append_assoc]

/-- (FULL, any flags) a `@keyframes` block nested in style rules of
any depth is emitted at the top level, and the selector of a keyframe rule inside it is
`nest` of the ROOT context — no enclosing selector takes part — and no copy of the enclosing
selector is put into the block. -/
theorem keyframes_not_prefixed (q : Quirks) (ops : Ops σ) (c : SelCtx σ)
    (n a s : σ) (hflat : ops.isFlat n = true) (hkf : ops.isKeyframes n = true)
    (cur : List (BodyItem σ)) (rs : Rules σ) (root : List (Item σ)) (lost : Nat)
    (sel : σ) (l : List (σ × σ)) (hl : l ≠ []) :
    emitItem q ops c (.atrule n a [.rule sel (declsOf l)]) { stack := .rule s cur :: ruleStack rs, root := root, lost := lost }
      = .ok { stack := .rule s [] :: emptied rs,
              root := root ++ commitsOf rs ++ commitItems s cur
                        ++ [.atrule n a [.rule (ops.nest none none sel) (propsOf l)]],
              lost := lost } := by
  rw [emitItem_atrule_eq, emitBody_single]
  simp only [startAtRule, hflat, hkf, Bool.true_or, if_true]
  rw [emitItem_rule_decls q ops _ sel l _ _ _ (by intro nm rest h; cases h)]
  -- the keyframe rule is dropped into the copy-less at-rule frame (`deliver_atrule_none`), and that
  -- frame in turn is handed through the rule chain to the top level (`hd`)
  have hd := deliver_ruleStack q ops ((s, cur) :: rs) root [.atrule n a [.rule (ops.nest none none sel) (propsOf l)]]
  rw [show ruleStack ((s, cur) :: rs) = .rule s cur :: ruleStack rs from rfl] at hd
  simp only [close_eq, handover, commitItems, propsOf_isEmpty l hl, List.isEmpty_cons, List.tail_cons,
    Bool.false_eq_true, if_false, deliver_atrule_none, closeResult, List.nil_append, liftInv, atResult,
    AtKind.toItem, hd, emptied, List.map_cons, commitsOf_cons, List.append_assoc]

/-- (FULL, any flags) a rule inside a selector-less `@at-root` is
emitted at the top level with the selector `nest` computes in the ROOT context (the former
parent only remains reachable as `&` through `backref`); the enclosing selectors are not put
in front of it. -/
theorem atroot_drops_parents (q : Quirks) (ops : Ops σ) (c : SelCtx σ)
    (s : σ) (cur : List (BodyItem σ)) (rs : Rules σ) (root : List (Item σ)) (lost : Nat)
    (sel : σ) (l : List (σ × σ)) (hl : l ≠ []) :
    emitItem q ops c (.atroot none [.rule sel (declsOf l)]) { stack := .rule s cur :: ruleStack rs, root := root, lost := lost }
      = .ok { stack := .rule s [] :: emptied rs,
              root := root ++ commitsOf rs ++ commitItems s cur
                        ++ [.rule (ops.nest none c.getBackref sel) (propsOf l)],
              lost := lost } := by
  rw [emitItem_atroot_none_eq, emitBody_single]
  rw [emitItem_rule_decls q ops _ sel l _ _ _ (by intro nm rest h; cases h)]
  have hp : (handover q [Frame.rule (ops.nest none c.getBackref sel) (propsOf l)]).isEmpty = false := by
    simp [handover, commitItems, propsOf_isEmpty l hl]
  show liftInv (close q ops { stack := _ :: ruleStack ((s, cur) :: rs), root := root, lost := lost }) = _
  rw [close_on_rules q ops _ _ root lost hp]
  simp only [handover, commitItems, propsOf_isEmpty l hl, Bool.false_eq_true, if_false, liftInv, emptied,
    List.map_cons, commitsOf_cons, List.append_assoc]

/-- (FULL, any flags) `@at-root sel { … }` emits its declarations at
the top level under `resolve_ref(backref, sel)`, i.e. `&` resolved against the former parent
and nothing else of the parent chain. -/
theorem atroot_with_selector (q : Quirks) (ops : Ops σ) (c : SelCtx σ)
    (s : σ) (cur : List (BodyItem σ)) (rs : Rules σ) (root : List (Item σ)) (lost : Nat)
    (sel : σ) (l : List (σ × σ)) (hl : l ≠ []) :
    emitItem q ops c (.atroot (some sel) (declsOf l)) { stack := .rule s cur :: ruleStack rs, root := root, lost := lost }
      = .ok { stack := .rule s [] :: emptied rs,
              root := root ++ commitsOf rs ++ commitItems s cur
                        ++ [.rule (ops.resolveRef c.getBackref sel) (propsOf l)],
              lost := lost } := by
  have hp : (handover q [Frame.rule (ops.resolveRef c.getBackref sel) (propsOf l)]).isEmpty = false := by
    simp [handover, commitItems, propsOf_isEmpty l hl]
  simp only [emitItem, Option.map, startRule, liftInv]
  rw [emitBody_decls_rule q ops _ l (by simp)]
  show liftInv (close q ops { stack := .rule _ (propsOf l) :: ruleStack ((s, cur) :: rs), root := root, lost := lost }) = _
  rw [close_on_rules q ops _ _ root lost hp]
  simp only [handover, commitItems, propsOf_isEmpty l hl, Bool.false_eq_true, if_false, liftInv,
    emptied, List.map_cons, commitsOf_cons, List.append_assoc]

/-! ### Deviation 1: `@media` in (a rule in) `@media` — `mediaInMediaNested` -/

/-- numeric instance of the text algebra for the concrete witnesses: `nest`/`merge` are
injective pairings so that different results stay different; the name `7` plays `keyframes`
(flat, resets the selector context), `8` plays `supports` -/
def natOps : Ops Nat where
  nest := fun s _ i => match s with | none => i | some p => 1000 * p + i
  resolveRef := fun b i => match b with | none => i | some p => 1000000 * p + i
  nsJoin := fun a b => 100 * a + b
  isFlat := fun n => n == 7
  isKeyframes := fun n => n == 7
  isSupports := fun n => n == 8
  mergeMedia := fun a b => 10000 * a + b
  concat := List.sum
  isHash := fun _ => false
  isSourceMap := fun _ => false

/-- witness: `@media 1 { 2 { @media 3 { 4: 5 } } }` -/
def mediaWitness : List (Core Nat) := [.media 1 [.rule 2 [.media 3 [.decl 4 5]]]]

def rootOf (r : Except Err (St Nat)) : Option (List (Item Nat)) :=
  match r with | .ok st => some st.root | .error _ => none

/-- SPEC: the inner `@media` is emitted at the top level with the merged query (the outer
`@media 1` is left without content; `MediaRule::write` prints nothing for it). -/
theorem media_in_media_spec :
    rootOf (emitTop Quirks.spec natOps mediaWitness)
      = some [.media 10003 [.rule 2 [.prop 4 5]], .media 1 []] := by
  rfl

/-- REFUTATION for the code as it is: the inner `@media` stays nested inside the outer one —
neither top-level nor merged. -/
theorem media_in_media_asis_refutation :
    rootOf (emitTop Quirks.asis natOps mediaWitness) = some [.media 1 [.media 3 [.rule 2 [.prop 4 5]]]] := by
  rfl

/-- the hypothesis of `media_in_rule_bubbles` (only rule frames below) is met by a real
program: `2 { 9: 9; @media 3 { 4: 5 } }` bubbles as stated, under the as-is flags -/
example : rootOf (emitTop Quirks.asis natOps [.rule 2 [.decl 9 9, .media 3 [.decl 4 5]]])
    = some [.rule 2 [.prop 9 9], .media 3 [.rule 2 [.prop 4 5]]] := by rfl

/-- under the AS-IS flags the statement holds whenever no at-rule
frame lies below the bubbling rule (this is `media_in_rule_bubbles` at `Quirks.asis`). -/
theorem media_bubbles_partial (ops : Ops σ) (c : SelCtx σ)
    (a s : σ) (cur : List (BodyItem σ)) (rs : Rules σ) (root : List (Item σ)) (lost : Nat) (l : List (σ × σ)) :
    emitItem Quirks.asis ops c (.media a (declsOf l)) { stack := .rule s cur :: ruleStack rs, root := root, lost := lost }
      = .ok { stack := .rule s [] :: emptied rs,
              root := root ++ commitsOf rs ++ commitItems s cur ++ [.media a (commitItems s (propsOf l))],
              lost := lost } :=
  media_in_rule_bubbles Quirks.asis ops c (by simp [Plain, Quirks.asis]) a s cur rs root lost l

/-! ### Deviation 2: declarations directly in a selector-less `@at-root` — `atRootKeepsRule` -/

/-- SPEC: a declaration whose style rule has been excluded by `@at-root` cannot be emitted
without the parent selector, so the run is an error (for every state and algebra). -/
theorem atroot_decl_spec_rejected (ops : Ops σ) (c : SelCtx σ) (n v : σ) (rest : List (Core σ)) (st : St σ) :
    emitItem Quirks.spec ops c (.atroot none (.decl n v :: rest)) st = .error .declInAtRoot := by
  simp [emitItem, emitBody, Quirks.spec]

/-- REFUTATION for the code as it is: `2 { @at-root { 4: 5 } }` puts the declaration INSIDE
the parent selector. -/
theorem atroot_decl_asis_refutation :
    rootOf (emitTop Quirks.asis natOps [.rule 2 [.atroot none [.decl 4 5]]]) = some [.rule 2 [.prop 4 5]] := by
  rfl

/-! ### Deviation 3: vendor-prefixed keyframes — a property of the driver's `Ops` instance
(`isFlat`/`isKeyframes` compare the exact name).  Seen through the model: with a name that
`ops` does not recognise as keyframes the keyframe selector IS prefixed. -/
theorem unrecognised_keyframes_prefixed :
    rootOf (emitTop Quirks.asis natOps [.rule 2 [.atrule 6 0 [.rule 3 [.decl 4 5]]]])
      = some [.atrule 6 0 [.rule 2 [], .rule 2003 [.prop 4 5]]] := by
  rfl

example : rootOf (emitTop Quirks.asis natOps [.rule 2 [.atrule 7 0 [.rule 3 [.decl 4 5]]]])
      = some [.atrule 7 0 [.rule 3 [.prop 4 5]]] := by
  rfl

/-- for EVERY program (arbitrary nesting of rules, nested-property
blocks, @media, at-rules, @at-root, comments), every selector algebra, in the model with
order-preserving at-rule frames, failed `Drop`s as errors and `@media`-in-`@media` kept nested
(i.e. the specification without query merging): if the compilation succeeds, the flattened
(at-rule path, selector, declaration/comment) sequence of the OUTPUT equals the EVALUATION LOG
`logBody` — nothing lost, nothing added, source order, each entry under the selector and
at-rule path the log assigns (bubbled through rules, `@at-root`/keyframes contexts applied). -/
theorem bubble_preserves_order (q : Quirks) (hh : q.atRuleHoists = false) (hm : q.mediaInMediaNested = true)
    (hs : q.closeSwallows = false) (ops : Ops σ) (p : List (Core σ)) (st : St σ)
    (h : emitTop q ops p = .ok st) :
    flatItems [] st.root = logBody q ops {} p [] ∧ st.stack = [] := by
  simpa only [List.map_id] using
    emitTop_sim hh (keeps_id q hh hm ops) h (((emit_lost q ops).body {} p {} st h).2 hs)

/-- the same for the code after the first fix round (after 242f60b the
at-rule frames keep source order; `Drop` still only prints a failed push): whenever the run
lost nothing (`lost = 0`, i.e. no at-rule was dropped inside a nested-property block), the
flattened output equals the evaluation log.  `_partial`: the hypothesis `lost = 0` excludes
exactly the open finding of C21; media stays nested (open finding `mediaInMediaNested`). -/
theorem bubble_preserves_order_afterRound1 (ops : Ops σ) (p : List (Core σ)) (st : St σ)
    (h : emitTop Quirks.afterRound1 ops p = .ok st) (hl : st.lost = 0) :
    flatItems [] st.root = logBody Quirks.afterRound1 ops {} p [] ∧ st.stack = [] := by
  simpa only [List.map_id] using emitTop_sim rfl (keeps_id Quirks.afterRound1 rfl rfl ops) h hl

/-- the hypothesis is met by real programs (and the order is the source order) -/
example : (match emitTop Quirks.afterRound1 natOps
      [.rule 2 [.decl 9 9, .media 3 [.decl 4 5, .rule 6 [.decl 7 8], .decl 1 1]]] with
    | .ok st => (st.lost, (flatItems [] st.root).map (fun e => (e.sel, e.item))) | .error _ => (1, []))
    = (0, [(some 2, .prop 9 9), (some 2, .prop 4 5), (some 2006, .prop 7 8), (some 2, .prop 1 1)]) := by rfl

/-- THE CODE AS IT IS NOW (after 242f60b, f162538, 34ff818;
`Quirks.now`: only `@media` in `@media` still deviates): for every program, a successful run's
flattened output equals the evaluation log — the three hypotheses of `bubble_preserves_order`
on the flags hold of `Quirks.now`, and `lost = 0` is no longer assumed. -/
theorem bubble_preserves_order_now (ops : Ops σ) (p : List (Core σ)) (st : St σ)
    (h : emitTop Quirks.now ops p = .ok st) :
    flatItems [] st.root = logBody Quirks.now ops {} p [] ∧ st.stack = [] :=
  bubble_preserves_order Quirks.now rfl rfl rfl ops p st h

/-- and a declaration directly in a selector-less `@at-root` is now refused, as specified -/
theorem atroot_decl_now_rejected (ops : Ops σ) (c : SelCtx σ) (n v : σ) (rest : List (Core σ)) (st : St σ) :
    emitItem Quirks.now ops c (.atroot none (.decl n v :: rest)) st = .error .declInAtRoot := by
  simp [emitItem, emitBody, Quirks.now]

/-! ### The FULL specification, media merging included -/

/-- the specification with every deviation off, in particular
`@media` inside (rules inside) `@media` bubbling to the top level with MERGED queries, any depth
of rules and of media nesting, arbitrary programs, every selector algebra whose query conjunction
is associative: a successful run's flattened output equals the evaluation log once adjacent
`@media` steps of each entry's at-rule path are merged (`normPath`): nothing lost, nothing
added, source order, right selector, and the bubbled declarations sit under the merged query. -/
theorem bubble_preserves_order_spec (ops : Ops σ) (hassoc : Assoc ops) (p : List (Core σ)) (st : St σ)
    (h : emitTop Quirks.spec ops p = .ok st) :
    NV ops (flatItems [] st.root) = NV ops (logBody Quirks.spec ops {} p []) ∧ st.stack = [] :=
  emitTop_sim rfl (keeps_nE Quirks.spec rfl ops hassoc) h (((emit_lost Quirks.spec ops).body {} p {} st h).2 rfl)

/-- `Dest.emitBody_merge`: the refinement modulo `normPath` for any flags with order-preserving
at-rule frames and `Drop` errors as errors (so also `Quirks.now`), from any state with any open
frames; `bubble_preserves_order_spec` is the case of a whole run. -/
theorem emit_refines_log_merge (q : Quirks) (hh : q.atRuleHoists = false) (hs : q.closeSwallows = false)
    (ops : Ops σ) (hassoc : Assoc ops) (c : SelCtx σ) (b : List (Core σ)) (st st' : St σ)
    (h : emitBody q ops c b st = .ok st') :
    NV ops (view st'.stack st'.root) = NV ops (view st.stack st.root ++ logBody q ops c b (skel st.stack)) ∧
      skel st'.stack = skel st.stack :=
  emitBody_merge q hh hs ops hassoc c b st st' h

/-- `Dest.deliver_view_merge`: handing items up ANY frame stack, with bubbling and merging,
keeps the view modulo `normPath`. -/
theorem deliver_keeps_order_merge (q : Quirks) (hh : q.atRuleHoists = false) (ops : Ops σ) (hassoc : Assoc ops)
    (stk : List (Frame σ)) (root its : List (Item σ)) (stk' : List (Frame σ)) (root' : List (Item σ))
    (h : deliver q ops stk root its = .ok (stk', root')) :
    NV ops (view stk' root') = NV ops (view stk root ++ flatItems (pathOf stk) its) ∧ skel stk' = skel stk :=
  deliver_view_merge q hh ops hassoc stk root its stk' root' h

/-- FLATNESS under the merging specification, for ARBITRARY programs and
every selector algebra: in the output TREE of a successful run no `@media` item sits directly in
the body of an `@media` item, at any depth (`flatOKs`); together with
`bubble_preserves_order_spec` the bubbled declarations are under ONE `@media` with the merged
query.  (An `@media` inside a `@supports`/unknown at-rule inside an `@media` is not "directly
inside" and stays, as in Sass.) -/
theorem spec_output_is_flat (ops : Ops σ) (p : List (Core σ)) (st : St σ)
    (h : emitTop Quirks.spec ops p = .ok st) : flatOKs st.root = true :=
  (emitBody_flat Quirks.spec rfl rfl ops {} p {} st h ⟨rfl, rfl⟩).2

/-- `Dest.emitBody_flat`: evaluation keeps a flat state (root and open frames, `WF`) flat. -/
theorem emit_keeps_flat (q : Quirks) (hh : q.atRuleHoists = false) (hm : q.mediaInMediaNested = false)
    (ops : Ops σ) (c : SelCtx σ) (b : List (Core σ)) (st st' : St σ)
    (h : emitBody q ops c b st = .ok st') (hw : WF st) : WF st' :=
  emitBody_flat q hh hm ops c b st st' h hw

/-- REFUTATION for the code as it is (`Quirks.now`, open finding `mediaInMediaNested`): the
witness `@media 1 { 2 { @media 3 { 4: 5 } } }` gives a tree that is NOT flat … -/
theorem now_output_not_flat :
    (match emitTop Quirks.now natOps mediaWitness with | .ok st => flatOKs st.root | .error _ => true) = false := by
  rfl

/-- … while the specification's tree for it is. -/
example : (match emitTop Quirks.spec natOps mediaWitness with | .ok st => flatOKs st.root | .error _ => false) = true := by
  rfl

/-- an algebra with associative conjunction for the witnesses -/
def natOpsA : Ops Nat := { natOps with mergeMedia := fun a b => a + b }

theorem natOpsA_assoc : Assoc natOpsA := fun a b c => Nat.add_assoc a b c

/-- the driver's text algebra satisfies the hypothesis (`a ++ " and " ++ b`) -/
theorem strOps_assoc (exact : Bool) : Assoc (strOps exact) := by
  intro a b c
  simp [strOps, String.append_assoc]

/-- non-vacuity on a three-level program `@media 1 { 2 { 8: 8; @media 3 { 4 { @media 5 { 6: 7 } } } 9: 9 } }`:
the output has three TOP-LEVEL media rules, the innermost declaration under the merged query
`1+3+5`, and the normalised sequences coincide -/
example : (match emitTop Quirks.spec natOpsA
      [.media 1 [.rule 2 [.decl 8 8, .media 3 [.rule 4 [.media 5 [.decl 6 7]]], .decl 9 9]]] with
    | .ok st => (flatItems [] st.root).map (fun e => (e.path, e.sel, e.item)) | .error _ => [])
    = [([.media 1], some 2, .prop 8 8), ([.media 9], some 2004, .prop 6 7), ([.media 1], some 2, .prop 9 9)] := by rfl

/-- `Dest.emitBody_refines`: the refinement behind `bubble_preserves_order`, from any state with
any open frames. -/
theorem emit_refines_log (q : Quirks) (hh : q.atRuleHoists = false) (hm : q.mediaInMediaNested = true)
    (hs : q.closeSwallows = false) (ops : Ops σ) (c : SelCtx σ) (b : List (Core σ)) (st st' : St σ)
    (h : emitBody q ops c b st = .ok st') :
    view st'.stack st'.root = view st.stack st.root ++ logBody q ops c b (skel st.stack) ∧
      skel st'.stack = skel st.stack :=
  emitBody_refines q hh hm hs ops c b st st' h

/-- `Dest.deliver_preserves_order`: handing items up ANY frame stack preserves the order of
everything held. -/
theorem deliver_keeps_order (q : Quirks) (hh : q.atRuleHoists = false) (hm : q.mediaInMediaNested = true)
    (ops : Ops σ) (stk : List (Frame σ)) (root its : List (Item σ)) (stk' : List (Frame σ)) (root' : List (Item σ))
    (h : deliver q ops stk root its = .ok (stk', root')) :
    view stk' root' = view stk root ++ flatItems (pathOf stk) its ∧ skel stk' = skel stk :=
  deliver_preserves_order q hh hm ops stk root its stk' root' h

/-- the hypotheses are met by a real configuration, and the conclusion is not vacuous:
`2 { 9: 9; @media 3 { 4: 5; 6 { 7: 8 } 1: 1 } }` -/
example : (match emitTop { mediaInMediaNested := true } natOps
      [.rule 2 [.decl 9 9, .media 3 [.decl 4 5, .rule 6 [.decl 7 8], .decl 1 1]]] with
    | .ok st => (flatItems [] st.root).map (fun e => (e.sel, e.item)) | .error _ => [])
    = [(some 2, .prop 9 9), (some 2, .prop 4 5), (some 2006, .prop 7 8), (some 2, .prop 1 1)] := by rfl

/-- REFUTATION for the flag `atRuleHoists` (code before 242f60b): the same program under that behaviour
emits `1: 1` BEFORE the nested rule `6` (its declarations are hoisted into one rule copy). -/
theorem order_asis_refutation : (match emitTop Quirks.asis natOps
      [.rule 2 [.decl 9 9, .media 3 [.decl 4 5, .rule 6 [.decl 7 8], .decl 1 1]]] with
    | .ok st => (flatItems [] st.root).map (fun e => (e.sel, e.item)) | .error _ => [])
    = [(some 2, .prop 9 9), (some 2, .prop 4 5), (some 2, .prop 1 1), (some 2006, .prop 7 8)] := by rfl

end C20
