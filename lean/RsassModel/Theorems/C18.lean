/-
C18 — Functions, mixins and content blocks bind arguments correctly.

Property theorems about Core/Args.lean (`bindPlan` = the decisions of
`FormalArgs::eval`) and Core/Eval.lean (`callClosure`, `exec`, `@content`).
-/
import RsassModel.Core.LemmasScope
import RsassModel.Core.LemmasArgs
import RsassModel.Core.Eval
import RsassModel.Core.LemmasEval
namespace C18
open Core

/-- Once a prefix of a body has returned `v`, nothing after it
is evaluated or has any effect: the body's result and final state are those of the prefix
(any flags, function and non-function mode). -/
theorem first_return_wins (cfg : Cfg) (fn : Bool) (s : Nat) (rest : List Stmt) :
    ∀ (pre : List Stmt) (fuel : Nat) (st st' : St) (v : V),
      exec fuel cfg fn s pre st = .ok (some v, st') →
      exec fuel cfg fn s (pre ++ rest) st = .ok (some v, st') := by
  intro pre
  induction pre with
  | nil =>
    intro fuel st st' v h
    cases fuel <;> simp [exec] at h
  | cons p pre ih =>
    intro fuel st st' v h
    cases fuel with
    | zero => simp [exec] at h
    | succ f =>
      simp only [List.cons_append, exec] at h ⊢
      cases hp : execStmt f cfg fn s p st with
      | error e => simp [hp] at h
      | ok r =>
        obtain ⟨o, st1⟩ := r
        cases o with
        | some w => simpa [hp] using h
        | none =>
          simp only [hp] at h ⊢
          exact ih f st1 st' v h

theorem return_head (cfg : Cfg) (s : Nat) (e : Expr) (rest : List Stmt) (f : Nat) (st : St) :
    exec (f + 2) cfg true s (.ret e :: rest) st =
      (match evalExpr f cfg s e st with
       | .error e' => .error e'
       | .ok (v, st) => .ok (some v, st)) := by
  simp only [exec, execStmt, if_true]
  cases evalExpr f cfg s e st <;> rfl

/-- a return inside a loop body ends the loop: the remaining values are not visited -/
theorem return_stops_loop (cfg : Cfg) (fn : Bool) (s : Nat) (x : Name) (v : V) (vs : List V)
    (body : List Stmt) (f : Nat) (st st' : St) (r : V)
    (h : exec f cfg fn s body { st with heap := insertLocal st.heap s x v } = .ok (some r, st')) :
    loopSame (f + 1) cfg fn s x (v :: vs) body st = .ok (some r, st') := by
  simp [loopSame, h]

/-- `@content` when the enclosing mixin was included
without a block (`MixinDecl::NoBody`), or outside any mixin: nothing happens — no output,
no state change, the `@content` arguments are not even evaluated. -/
theorem no_content_block_emits_nothing (cfg : Cfg) (t : Nat) (cargs : Args) (f : Nat) (st : St)
    (h : getContent st.heap t = none ∨ getContent st.heap t = some .noBody) :
    execStmt (f + 1) cfg false t (.content cargs) st = .ok (none, st) := by
  rcases h with h | h <;> simp [execStmt, h]

/-- an `@include` without a block stores `NoBody` in the mixin's body scope, so every
`@content` directly in that body finds it (the lookup stops there: it cannot fall through
to a content block of an enclosing include) -/
theorem include_without_block_stores_noBody (h : Heap) (a : Nat) (ha : a < h.size) :
    getContent (setContent h a .noBody) a = some .noBody := by
  have hs : (setContent h a .noBody)[a]? = some { h[a] with content := some .noBody } := by
    simp [setContent, ha, Array.getElem_modify]
  simp [getContent, chain, chainAux, hs]

/-- `@content(args)` with a block: the arguments are
evaluated where `@content` stands (scope `t`), then the block is called as a closure whose
definition scope is the one recorded by the `@include` — see `include_records_site`. -/
theorem content_in_include_scope (cfg : Cfg) (t : Nat) (cargs : Args) (f : Nat) (st : St) (clo : Closure)
    (h : getContent st.heap t = some (.block clo)) :
    execStmt (f + 1) cfg false t (.content cargs) st =
      (match evalNamed f cfg t cargs [] st with
       | .error e => .error e
       | .ok (named, st) =>
         match evalPos f cfg t cargs { pos := [], named := named } st with
         | .error e => .error e
         | .ok (ca, st) =>
           match callClosure f cfg .contentArgs false clo ca none st with
           | .error e => .error e
           | .ok (_, st) => .ok (none, st)) := by
  simp only [execStmt, h, Bool.false_eq_true, if_false]
  rfl

/-- the closure an `@include m(args) using (ps) { block }` at scope `s` hands to the mixin
closes over `s` itself — the include site — and carries the `using` parameters -/
theorem include_records_site (cfg : Cfg) (s : Nat) (m : Name) (args : Args) (usingPs : Params)
    (block : List Stmt) (f : Nat) (st : St) (clo : Closure)
    (hm : lookupMixin st.heap s (normName m) = some clo) :
    execStmt (f + 1) cfg false s (.incl m args true usingPs block) st =
      (match evalNamed f cfg s args [] st with
       | .error e => .error e
       | .ok (named, st) =>
         match evalPos f cfg s args { pos := [], named := named } st with
         | .error e => .error e
         | .ok (ca, st) =>
           match callClosure f cfg .mixinArgs false clo ca
               (some (.block { ps := usingPs, body := block, scope := s })) st with
           | .error e => .error e
           | .ok (_, st) => .ok (none, st)) := by
  simp only [execStmt, hm, Bool.false_eq_true, if_false, if_true]
  rfl

/-- A call (function, mixin or content block) runs its
body in a scope two fresh levels below the closure's *definition* scope; the call site is
not an input of `callClosure` at all.  Before the parameters are bound, the body scope
sees exactly what the definition scope sees — for every name, whatever the caller's
locals are. -/
theorem closure_sees_definition_scope (h : Heap) (wf : h.WF) (d : Nat) (hd : d < h.size)
    (kind : Kind) (x : Name) :
    let (h1, c0) := alloc h d .callee false
    let (h2, a) := alloc h1 c0 kind false
    lookup h2 a x = lookup h d x := by
  simp only
  rw [lookup_alloc (wf_alloc wf hd _ _) (by simp [alloc]), lookup_alloc wf hd]

/-- **bind_errors, soundness.**  Each of the listed conditions — too many positional
arguments, an argument passed by position and by name, a missing argument, an unknown
argument name (the last two names compared with `-`/`_` identified) — makes the
specified binding fail. -/
theorem bind_errors_sound (ps : Params) (c : CallArgs) (h : specArgError ps c = true) :
    bindPlan specArgQuirks ps c = .error .err := by
  simp only [specArgError, Bool.or_eq_true] at h
  rcases h with ((h | h) | h) | h
  · simp only [Bool.and_eq_true, decide_eq_true_eq, Option.isNone_iff_eq_none] at h
    exact bindPlan_tooMany h.1 (by omega)
  · exact bindPlan_dup rfl h
  · exact bindPlan_missing h
  · -- unknown name, no rest parameter
    simp only [Bool.and_eq_true, Option.isNone_iff_eq_none, List.any_eq_true] at h
    obtain ⟨hrest, kv, hkv, hnot⟩ := h
    refine bindPlan_leftover hrest ((hasKey_iff_mem _ _).mpr (List.mem_map.mpr ⟨kv, hkv, rfl⟩)) ?_
    rw [List.any_eq_false]
    intro p hp
    simp only [Bool.not_eq_true', List.any_eq_false] at hnot
    simpa using hnot p (List.mem_of_mem_drop hp)

/-- **bind_errors, completeness + bind_order.**  With pairwise distinct parameter names
and an `OrderMap` of named arguments (distinct keys), if none of the four error
conditions holds the specified binding succeeds, and it binds, in parameter order:
the positional arguments by position; then each remaining parameter to the named argument
of its (normalised) name if there is one, else to its default expression (evaluated later
by `runBinds`, left to right, in the callee scope); the positional extras and the named
arguments not consumed go to the rest parameter as an argument list (whose keywords
`keywords()` reports). -/
theorem bind_order (ps : Params) (c : CallArgs)
    (hp : (ps.ps.map fun p => normName p.1).Nodup) (hn : (c.named.map (·.1)).Nodup)
    (h : specArgError ps c = false) :
    ∃ b2, bindPlan specArgQuirks ps c = .ok
        { binds := ((ps.ps.zip c.pos).map fun (p, v) => (normName p.1, Binding.val v)) ++ b2,
          rest := ps.rest.map fun r => (normName r,
            RestVal.arglist (c.pos.drop ps.ps.length) (eraseAll (ps.ps.drop c.pos.length) c.named)) }
      ∧ b2.map (·.1) = (ps.ps.drop c.pos.length).map (fun p => normName p.1)
      ∧ ∀ i (hi : i < (ps.ps.drop c.pos.length).length), ∃ b,
          b2[i]? = some (normName (ps.ps.drop c.pos.length)[i].1, b) ∧
          (match getAssoc (normName (ps.ps.drop c.pos.length)[i].1) c.named with
           | some v => b = Binding.val v
           | none => ∃ e, (ps.ps.drop c.pos.length)[i].2 = some e ∧ b = Binding.dflt e) := by
  simp only [specArgError, Bool.or_eq_false_iff] at h
  obtain ⟨⟨⟨hmany, hdup⟩, hmiss⟩, hunk⟩ := h
  have hndl : ((ps.ps.drop c.pos.length).map fun p => normName p.1).Nodup := by
    rw [List.map_drop]
    exact hp.sublist (List.drop_sublist _ _)
  obtain ⟨bs, hbs, hnames, hvals⟩ := bindRemaining_ok (ps.ps.drop c.pos.length) c.named hndl hmiss
  refine ⟨bs, ?_, hnames, hvals⟩
  -- keys of the named arguments all name parameters after the positional ones (when there is no rest)
  have hkeys : ps.rest = none → ∀ y ∈ c.named.map (·.1), y ∈ (ps.ps.drop c.pos.length).map (fun p => normName p.1) := by
    intro hr y hy
    obtain ⟨kv, hkv, rfl⟩ := List.mem_map.mp hy
    rw [hr, Option.isNone_none, Bool.true_and, List.any_eq_false] at hunk
    have hany := hunk kv hkv
    rw [Bool.not_eq_true, Bool.not_eq_false'] at hany
    obtain ⟨p, hpm, hpe⟩ := List.any_eq_true.mp hany
    have hpe : normName p.1 = kv.1 := of_decide_eq_true hpe
    rw [← List.take_append_drop c.pos.length ps.ps, List.mem_append] at hpm
    rcases hpm with hpt | hpd
    · rw [List.any_eq_false] at hdup
      have hk : hasKey (normName p.1) c.named = true := by
        rw [hpe]; exact (hasKey_iff_mem _ _).mpr hy
      exact absurd hk (hdup p hpt)
    · exact List.mem_map.mpr ⟨p, hpd, hpe⟩
  have hA : ps.rest = none → c.pos.length + c.named.length ≤ ps.ps.length := by
    intro hr
    have hk : c.pos.length ≤ ps.ps.length := by simpa [hr] using hmany
    have := hn.length_le_of_subset (hkeys hr)
    simp only [List.length_map, List.length_drop] at this
    omega
  rw [bindPlan_of_guards hA (fun _ => hdup), hbs]
  cases hr : ps.rest with
  | some r => simp [specArgQuirks]
  | none =>
    have hempty : eraseAll (ps.ps.drop c.pos.length) c.named = [] := by
      apply eq_nil_of_no_key
      intro y
      rw [hasKey_eraseAll]
      cases hy : hasKey y c.named with
      | false => rfl
      | true =>
        obtain ⟨p, hpd, hpe⟩ := List.mem_map.mp (hkeys hr y ((hasKey_iff_mem _ _).mp hy))
        have : (ps.ps.drop c.pos.length).any (fun p => normName p.1 = y) = true := by
          rw [List.any_eq_true]; exact ⟨p, hpd, by simpa using hpe⟩
        simp [this]
    simp [hempty]

/-- the `hn` hypothesis of `bind_order` holds for every argument list the evaluator builds:
explicit named arguments (`omInsert`) and every kind of `...` argument (`spread`) keep the
named keys pairwise distinct -/
theorem call_args_keys_distinct (acc : CallArgs) (h : (acc.named.map (·.1)).Nodup) :
    (∀ x v, (((omInsert x v acc.named).1).map (·.1)).Nodup)
    ∧ (∀ v acc', spread acc v = .ok acc' → (acc'.named.map (·.1)).Nodup) :=
  ⟨fun x v => nodup_keys_setAssoc x v acc.named h, fun v acc' hs => nodup_keys_spread acc v acc' h hs⟩

/-- **a passed blank value is a passed argument.**  A `$map...` splat contributes *every*
entry as a named argument — whatever its value, `null` included (`css::CallArgs::
add_from_value_map`); together with `bind_order` (a named argument is bound as `.val v`
for whatever `v`, the default is used only when the name is absent) a parameter passed as
`null` is `null`, not its default, and an extra `null` entry is a keyword of the rest. -/
theorem map_splat_keeps_every_entry (acc : CallArgs) (kv : List (List Char × Atom)) (acc' : CallArgs)
    (hs : spread acc (.map kv) = .ok acc') (p : List Char × Atom) (hp : p ∈ kv) :
    hasKey (normName p.1) acc'.named = true ∧ acc'.pos = acc.pos := by
  simp only [spread, Except.ok.injEq] at hs
  subst hs
  exact ⟨hasKey_foldl_mapSplat kv acc.named _ (Or.inr ⟨p, hp, rfl⟩), rfl⟩

example : (spread {} (.map [("b".toList, .null), ("k".toList, .null)])).toOption
    = some { pos := [], named := [("b".toList, V.null), ("k".toList, V.null)] } := by decide +kernel

/-- the hypotheses are met by a real call: `m($a, $b: $a + 1, $r...)` called `m(1, 2, 3, $k-k: 4)` -/
example : specArgError ⟨[("a".toList, none), ("b".toList, some (.add (.var "a".toList) (.num 1)))], some "r".toList⟩
    { pos := [V.num 1, V.num 2, V.num 3], named := [("k_k".toList, V.num 4)] } = false := by decide +kernel

/-- `-` and `_` are the same character in every name comparison the binding makes -/
theorem dash_underscore_identified (n : Name) : normName (showName n) = normName n := by
  simp only [normName, showName, List.map_map]
  apply List.map_congr_left
  intro c _
  by_cases h1 : c = '_'
  · subst h1; decide
  · by_cases h2 : c = '-'
    · subst h2; decide
    · simp [h1, h2]

/-- **defaults see earlier parameters**: `runBinds` evaluates a default in the argscope
`a` after the bindings before it have been inserted there (definitional unfolding of the
`argscope.define(..)` sequence) -/
theorem default_evaluated_in_callee_scope (fuel : Nat) (cfg : Cfg) (a : Nat) (x y : Name) (v : V) (e : Expr)
    (r : List (Name × Binding)) (st : St) :
    runBinds (fuel + 2) cfg a ((x, .val v) :: (y, .dflt e) :: r) st =
      (match evalExpr fuel cfg a e { st with heap := insertLocal st.heap a x v } with
       | .error err' => .error err'
       | .ok (w, st') => runBinds fuel cfg a r { st' with heap := insertLocal st'.heap a y w }) := by
  simp only [runBinds]
  rfl

/-- **defaults read earlier parameters** (evaluator level, arbitrary default expression `e`
of the fragment, any flags).  With the parameters `vs` already bound from arguments (distinct
names) in the argscope `a`, the plan step `(y, .dflt e)` evaluates `e` *in `a`*, in the
state in which all of `vs` are bound there, and then binds `$y` to the result; and in that
state every variable reference `$x` to an earlier parameter — the only way an expression
reads a variable — evaluates to exactly the value bound to it (it is neither shadowed nor
"unspecified"), whatever the caller's or the global scope hold under that name. -/
theorem default_reads_earlier_params (cfg : Cfg) (a : Nat) (vs : List (Name × V)) (y : Name) (e : Expr)
    (r : List (Name × Binding)) (f : Nat) (st : St)
    (wf : st.heap.WF) (ha : a < st.heap.size) (hnd : (vs.map (·.1)).Nodup) :
    let st' : St := { st with heap := bindVals st.heap a vs }
    runBinds (f + 1 + vs.length) cfg a (vs.map (fun b => (b.1, Binding.val b.2)) ++ (y, .dflt e) :: r) st =
      (match evalExpr f cfg a e st' with
       | .error err' => .error err'
       | .ok (w, st'') => runBinds f cfg a r { st'' with heap := insertLocal st''.heap a y w })
    ∧ ∀ b ∈ vs, ∀ (x : Name) (k : Nat), normName x = b.1 →
        evalExpr (k + 1) cfg a (.var x) st' = .ok (b.2, st') := by
  refine ⟨?_, ?_⟩
  · rw [runBinds_vals_prefix, runBinds]
    rfl
  · intro b hb x k hx
    have hsz : a < (bindVals st.heap a vs).size := by rw [size_bindVals]; exact ha
    have hwf := wf_bindVals a vs st.heap wf
    have hd := getAssoc_bindVals_mem a vs st.heap ha hnd b hb
    simp only [evalExpr, readVar, hx]
    rw [ghostRead_of_declared hwf hsz hd, lookup_of_declared hwf hsz hd]
    simp

/-- satisfiable, and the value really is the parameter's, not the global's:
`$a: 100; @mixin m($a, $b: $a + 1) { r{p1: $b} } @include m(4)` prints 5 -/
example :
    (runProgram specCfg 60 [.decl "a".toList (.num 100) false false,
      .mixin "m".toList ⟨[("a".toList, none), ("b".toList, some (.add (.var "a".toList) (.num 1)))], none⟩
        [.emit "p1".toList (.var "b".toList)],
      .incl "m".toList [(.pos, .num 4)] false .none []]).toOption = some [("p1".toList, "5".toList)] := by
  decide +kernel

/-! ## any flags (`asisArgQuirks` = `FormalArgs::eval` before the repairs recorded in notes/C18.md) -/

/-- Without a rest parameter the decision logic with any flags
and the specified one agree on *whether* the call is an error, for every call: the missing
"passed by position and by name" test is subsumed by TooMany / Missing / Unexpected. -/
theorem bind_errors_partial_no_rest (ps : Params) (c : CallArgs) (hrest : ps.rest = none)
    (hp : (ps.ps.map fun p => normName p.1).Nodup) (q : ArgQuirks) :
    (bindPlan q ps c).toOption.isSome = (bindPlan specArgQuirks ps c).toOption.isSome := by
  by_cases hX : ((ps.ps.take c.pos.length).any fun p => hasKey (normName p.1) c.named) = true
  · -- the duplicate is reported by the spec; with `restSwallowsDup` the loop runs on and must fail as well:
    -- the duplicated name survives the loop, no later parameter carries the same name
    obtain ⟨p, hpt, hpk⟩ := List.any_eq_true.mp hX
    have hlate : (ps.ps.drop c.pos.length).any (fun p' => normName p'.1 = normName p.1) = false := by
      rw [List.any_eq_false]
      intro p' hp' heq
      rw [← List.take_append_drop c.pos.length ps.ps, List.map_append, List.nodup_append] at hp
      exact hp.2.2 _ (List.mem_map.mpr ⟨p, hpt, rfl⟩) _ (List.mem_map.mpr ⟨p', hp', rfl⟩)
        (of_decide_eq_true heq).symm
    rw [bindPlan_dup (q := specArgQuirks) rfl hX, bindPlan_leftover hrest hpk hlate]
  · have hX' := eq_false_of_ne_true hX
    by_cases hA : c.pos.length + c.named.length > ps.ps.length
    · rw [bindPlan_tooMany hrest hA, bindPlan_tooMany hrest hA]
    · rw [bindPlan_of_guards (fun _ => Nat.le_of_not_gt hA) (fun _ => hX'),
        bindPlan_of_guards (q := specArgQuirks) (fun _ => Nat.le_of_not_gt hA) (fun _ => hX')]
      simp only [hrest]

/-- one direction needs no distinctness of the parameter names: without a rest parameter, whatever
the specification accepts is bound in exactly the same way (same plan) with any flags -/
theorem bind_partial_same_plan (ps : Params) (c : CallArgs) (hrest : ps.rest = none) (q : ArgQuirks)
    (plan : Plan) (h : bindPlan specArgQuirks ps c = .ok plan) : bindPlan q ps c = .ok plan := by
  have hA : c.pos.length + c.named.length ≤ ps.ps.length :=
    Nat.le_of_not_gt fun hgt => by
      rw [bindPlan_tooMany hrest hgt] at h
      cases h
  have hB : ((ps.ps.take c.pos.length).any fun p => hasKey (normName p.1) c.named) = false := by
    cases hX : (ps.ps.take c.pos.length).any fun p => hasKey (normName p.1) c.named with
    | false => rfl
    | true =>
      rw [bindPlan_dup rfl hX] at h
      cases h
  rw [bindPlan_of_guards (fun _ => hA) (fun _ => hB)] at h ⊢
  simp only [hrest] at h ⊢
  exact h

/-- **refutations** (the witnesses of the registered findings), on the decision function … -/
theorem asis_rest_swallows_duplicate :
    let ps : Params := ⟨[("a".toList, none)], some "r".toList⟩
    let c : CallArgs := { pos := [V.num 1], named := [("a".toList, V.num 2)] }
    specArgError ps c = true
    ∧ (bindPlan asisArgQuirks ps c).toOption.map (·.rest) =
        some (some ("r".toList, RestVal.arglist [] [("a".toList, V.num 2)])) := by
  decide +kernel

theorem asis_only_named_replaces_rest :
    let ps : Params := ⟨[], some "r".toList⟩
    let c : CallArgs := { pos := [], named := [("r".toList, V.num 6)] }
    specArgError ps c = false
    ∧ (bindPlan asisArgQuirks ps c).toOption.map (·.rest) = some (some ("r".toList, RestVal.direct (V.num 6)))
    ∧ (bindPlan specArgQuirks ps c).toOption.map (·.rest) =
        some (some ("r".toList, RestVal.arglist [] [("r".toList, V.num 6)])) := by
  decide +kernel

-- Fuel 60/80 in the runs below: as in Theorems/C16.lean, more than the longest chain of nested calls;
-- the two `none` results are `Err.err` (the binding fails), a run out of fuel would be `Err.fuel`.
def nm (s : String) : Name := s.toList

/-- … and on whole programs: `@mixin m($a, $r...) { r{p1: $a} r{p2: inspect(keywords($r))} } @include m(1, $a: 2)` -/
theorem refute_dup_with_rest :
    let p := [Stmt.mixin (nm "m") ⟨[(nm "a", none)], some (nm "r")⟩
        [.emit (nm "p1") (.var (nm "a")), .emit (nm "p2") (.inspect (.keywords (.var (nm "r"))))],
      .incl (nm "m") [(.pos, .num 1), (.named (nm "a"), .num 2)] false .none []]
    (runProgram specCfg 60 p).toOption = none
    ∧ (runProgram asisCfg 60 p).toOption = some [(nm "p1", "1".toList), (nm "p2", "(a: 2)".toList)] := by
  decide +kernel

theorem refute_only_named_rest :
    let p := [Stmt.mixin (nm "m") ⟨[], some (nm "r")⟩
        [.emit (nm "p1") (.inspect (.var (nm "r"))), .emit (nm "p2") (.inspect (.keywords (.var (nm "r"))))],
      .incl (nm "m") [(.named (nm "r"), .num 6)] false .none []]
    (runProgram specCfg 60 p).toOption = some [(nm "p1", "()".toList), (nm "p2", "(r: 6)".toList)]
    ∧ (runProgram asisCfg 60 p).toOption = none := by
  decide +kernel

/-- closures, content blocks and `using` on whole programs (spec and as-is agree):
`$v: g; @function rd() { @return $v } @mixin w($q) { $v: in-w; @content($q) }
 a { $v: site; @include w(1) using ($x) { r{p1: $v} r{p2: $x} r{p3: rd()} } }` -/
theorem example_closure_and_content :
    let p := [Stmt.decl (nm "v") (.ident (nm "g")) false false,
      .func (nm "rd") .none [.ret (.var (nm "v"))],
      .mixin (nm "w") ⟨[(nm "q", none)], none⟩ [.decl (nm "v") (.ident (nm "in-w")) false false, .content [(.pos, .var (nm "q"))]],
      .rule [.decl (nm "v") (.ident (nm "site")) false false,
        .incl (nm "w") [(.pos, .num 1)] true ⟨[(nm "x", none)], none⟩
          [.emit (nm "p1") (.var (nm "v")), .emit (nm "p2") (.var (nm "x")), .emit (nm "p3") (.call (nm "rd") [])]]]
    (runProgram specCfg 80 p).toOption = some [(nm "p1", nm "site"), (nm "p2", nm "1"), (nm "p3", nm "g")]
    ∧ (runProgram asisCfg 80 p).toOption = some [(nm "p1", nm "site"), (nm "p2", nm "1"), (nm "p3", nm "g")] := by
  decide +kernel

end C18
