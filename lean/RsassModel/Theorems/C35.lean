/-
C35 — Meaning-preserving source rewrites (partial): theorems for the modelled pieces
(`RsassModel/Rewrite/Model.lean`).  The statement over whole programs is tied impl-vs-impl
by `props/C35.py` (original vs. rewritten source through the real compiler).
-/
import RsassModel.Rewrite.Lemmas
import RsassModel.Rewrite.Callables
namespace C35
open Rewrite

/-- **Swapping `-` and `_` does not change the `Name`** (`Name::from`). -/
theorem name_norm_dash_underscore (s : Text) : nameKey (swapDash s) = nameKey s := by
  induction s with
  | nil => rfl
  | cons c cs ih =>
    simp only [swapDash, nameKey, List.map_cons, List.cons.injEq] at ih ⊢
    refine ⟨?_, ih⟩
    by_cases h1 : c = '-'
    · subst h1; decide
    · by_cases h2 : c = '_'
      · subst h2; decide
      · simp [h1, h2]

/-- … nor does any mixture of the two spellings, occurrence by occurrence. -/
theorem name_norm_any_mix (a b : Text) (h : sameUpToDash a b = true) : nameKey a = nameKey b := by
  induction a generalizing b with
  | nil => cases b <;> simp_all [sameUpToDash]
  | cons x xs ih =>
    cases b with
    | nil => simp [sameUpToDash] at h
    | cons y ys =>
      simp only [sameUpToDash, Bool.and_eq_true, decide_eq_true_eq, Bool.decide_or, Bool.or_eq_true,
        Bool.decide_and] at h
      simp only [nameKey, List.map_cons, List.cons.injEq]
      refine ⟨?_, ih ys h.2⟩
      rcases h.1 with rfl | ⟨rfl, rfl⟩ | ⟨rfl, rfl⟩ <;> simp

example : sameUpToDash "main-color_x".toList "main_color-x".toList = true := by decide

theorem name_show_dash_underscore (s : Text) : nameShow (swapDash s) = nameShow s := by
  simp [nameShow, name_norm_dash_underscore]

/-- and names that differ elsewhere stay different: normalisation only identifies `-` and `_` -/
theorem name_norm_injective_up_to_dash (a b : Text) (h : nameKey a = nameKey b) : sameUpToDash a b = true := by
  induction a generalizing b with
  | nil => cases b <;> simp_all [nameKey, sameUpToDash]
  | cons x xs ih =>
    cases b with
    | nil => simp [nameKey] at h
    | cons y ys =>
      simp only [nameKey, List.map_cons, List.cons.injEq] at h
      simp only [sameUpToDash, Bool.and_eq_true, decide_eq_true_eq, Bool.decide_or, Bool.or_eq_true,
        Bool.decide_and]
      refine ⟨?_, ih ys h.2⟩
      have h1 := h.1
      by_cases hx : x = '-'
      · by_cases hy : y = '-'
        · left; rw [hx, hy]
        · simp only [hx, hy, ↓reduceIte] at h1
          right; left; exact ⟨hx, h1.symm⟩
      · by_cases hy : y = '-'
        · simp only [hx, hy, ↓reduceIte] at h1
          right; right; exact ⟨h1, hy⟩
        · simp only [hx, hy, ↓reduceIte] at h1
          left; exact h1

theorem skipLine_body (body r : Text) (h : ∀ c ∈ body, c ≠ '\n') :
    skipLine (body ++ '\n' :: r) = skip r := by
  unfold skipLine skip
  induction body with
  | nil => simp [skipM]
  | cons c cs ih =>
    have hc : c ≠ '\n' := h c (by simp)
    simp only [List.cons_append, skipM, hc, ↓reduceIte]
    exact ih fun d hd => h d (List.mem_cons_of_mem _ hd)

/-- **Extra whitespace / silent comments in front of a token are invisible** to the separator
skipper: for every separator `sep` the rewriter can insert, `opt_spacelike` leaves the same
rest as without it. -/
theorem ws_comment_insensitive (sep rest : Text) (h : Sep sep) : skip (sep ++ rest) = skip rest := by
  induction h with
  | nil => rfl
  | ws c s hc _ ih =>
    have : skip (c :: s ++ rest) = skip (s ++ rest) := by
      unfold skip; simp [skipM, hc]
    rw [this, ih]
  | comment body s hb _ ih =>
    have h1 : ('/' :: '/' :: body ++ '\n' :: s) ++ rest = '/' :: '/' :: (body ++ '\n' :: (s ++ rest)) := by simp
    have h2 : skip ('/' :: '/' :: (body ++ '\n' :: (s ++ rest))) = skipLine (body ++ '\n' :: (s ++ rest)) := by
      unfold skip skipLine
      simp [skipM, isWs]
    rw [h1, h2, skipLine_body body (s ++ rest) hb, ih]

example : Sep " \n// note\n\t".toList :=
  .ws ' ' _ (by decide) (.ws '\n' _ (by decide) (.comment " note".toList _ (by decide) (.ws '\t' _ (by decide) .nil)))

/-- a token that starts with neither a blank nor `/` stops the skipper at once: together with
`ws_comment_insensitive`, `skip (sep ++ tok ++ rest) = tok ++ rest` -/
theorem skip_stops_at_token (c : Char) (rest : Text) (h1 : isWs c = false) (h2 : c ≠ '/') :
    skip (c :: rest) = c :: rest := by
  unfold skip; simp [skipM, h1, h2]

theorem sep_then_token (sep : Text) (c : Char) (rest : Text) (h : Sep sep) (h1 : isWs c = false) (h2 : c ≠ '/') :
    skip (sep ++ c :: rest) = c :: rest := by
  rw [ws_comment_insensitive sep (c :: rest) h, skip_stops_at_token c rest h1 h2]

theorem Env.get_cons_ne (env : Env) (x y : Text) (v : Val) (h : y ≠ x) :
    Env.get ((x, v) :: env) y = Env.get env y := by
  simp [Env.get, Ne.symm h]

theorem eval_fresh (env : Env) (x : Text) (v : Val) (e : Expr) (h : x ∉ e.fv) :
    eval ((x, v) :: env) e = eval env e := by
  induction e with
  | num n => rfl
  | var y =>
    simp only [Expr.fv, List.mem_singleton] at h
    simp only [eval]; exact Env.get_cons_ne env x y v (fun e => h e.symm)
  | add a b iha ihb | mul a b iha ihb | pair a b iha ihb =>
    simp only [Expr.fv, List.mem_append, not_or] at h
    simp only [eval, iha h.1, ihb h.2]

/-- **Substitution lemma**: if `s` evaluates to `v`, then `C[s]` in `env` and `C[$x]` in
`env` extended by `$x: v` (for a fresh `$x`) evaluate alike — wherever the hole is. -/
theorem value_to_variable (env : Env) (c : Ctx) (s : Expr) (x : Text) (v : Val)
    (hs : eval env s = some v) (hx : x ∉ c.fv) :
    eval ((x, v) :: env) (c.plug (.var x)) = eval env (c.plug s) := by
  induction c with
  | hole => simp [Ctx.plug, eval, Env.get, hs]
  | addL c e ih | mulL c e ih | pairL c e ih =>
    simp only [Ctx.fv, List.mem_append, not_or] at hx
    simp only [Ctx.plug, eval, ih hx.1, eval_fresh env x v e hx.2]
  | addR e c ih | mulR e c ih | pairR e c ih =>
    simp only [Ctx.fv, List.mem_append, not_or] at hx
    simp only [Ctx.plug, eval, ih hx.2, eval_fresh env x v e hx.1]

example : eval [] (.add (.num 1) (.num 2)) = some (.num 3) ∧ ("v".toList ∉ (Ctx.mulL .hole (.num 4)).fv) := by
  decide

/-- as statements: `$x: s; p: C[$x];` emits what `p: C[s];` emits -/
theorem value_to_variable_stmt (st : State) (c : Ctx) (s : Expr) (x : Text)
    (hx : x ∉ c.fv) (v : Val) (hs : eval st.env s = some v) :
    (exec st [.assign x s, .emit (c.plug (.var x))]).map (·.out) = (exec st [.emit (c.plug s)]).map (·.out) := by
  simp only [exec, hs, value_to_variable st.env c s x v hs hx]
  cases eval st.env (c.plug s) <;> rfl

/-- **Inserting `@debug`/`@warn` changes nothing**: if the program with them runs, the program
without them runs to the same environment and output. -/
theorem debug_warn_noop (p : List Stmt) (s r : State) (h : exec s p = some r) : exec s (erase p) = some r := by
  induction p generalizing s with
  | nil => exact h
  | cons st rest ih =>
    rw [exec_cons] at h
    cases he : eval s.env st.expr with
    | none => simp [he] at h
    | some v =>
      rw [he] at h
      have hr := ih _ h
      simp only [erase, List.filter_cons]
      cases hd : st.isDiag
      · simp only [Bool.not_false, ↓reduceIte, exec_cons, he]
        exact hr
      · have : st.step s v = s := by cases st <;> simp_all [Stmt.isDiag, Stmt.step]
        rw [this] at hr
        exact hr

/-- conversely, diagnostics whose argument is a literal never make a running program fail -/
theorem debug_literal_insert (s : State) (n : Int) (rest : List Stmt) :
    exec s (.debug (.num n) :: rest) = exec s rest ∧ exec s (.warn (.num n) :: rest) = exec s rest := by
  simp [exec, eval]

/-- **Renaming variables consistently does not change a value**: for an injective renaming `ρ`
(a bijection onto fresh names is one), the renamed expression in the renamed environment
evaluates exactly as before — errors included. -/
theorem rename_invariant_expr (ρ : Text → Text) (hρ : ∀ a b, ρ a = ρ b → a = b) (env : Env) (e : Expr) :
    eval (renEnv ρ env) (e.rename ρ) = eval env e :=
  eval_rename ρ hρ env e

/-- the renamed program, started in the renamed state, fails iff the
original fails and emits the same list of values.  (`exec_rename` says more: it ends in the
renamed final state.) -/
theorem rename_invariant (ρ : Text → Text) (hρ : ∀ a b, ρ a = ρ b → a = b) (p : List Stmt) (s : State) :
    (exec (s.rename ρ) (p.map (Stmt.rename ρ))).map (·.out) = (exec s p).map (·.out) := by
  rw [exec_rename ρ hρ]
  cases exec s p <;> rfl

theorem rename_invariant_program (ρ : Text → Text) (hρ : ∀ a b, ρ a = ρ b → a = b) (p : List Stmt) :
    (exec ⟨[], []⟩ (p.map (Stmt.rename ρ))).map (·.out) = (exec ⟨[], []⟩ p).map (·.out) :=
  rename_invariant ρ hρ p ⟨[], []⟩

/-- the hypothesis of `rename_invariant` can be met by a renaming that changes names.  (Swapping
`-` and `_` needs no such theorem: names are compared by `nameKey`, and
`nameKey ∘ swapDash = nameKey` by `name_norm_dash_underscore`, so the program is the same.) -/
example : ∃ ρ : Text → Text, (∀ a b, ρ a = ρ b → a = b) ∧ ρ "x".toList ≠ "x".toList :=
  ⟨fun t => 'r' :: t, fun a b h => by simpa using h, by decide⟩

/-- injectivity is needed: merging two names changes the output -/
theorem rename_needs_injective :
    let p : List Stmt := [.assign "a".toList (.num 1), .assign "b".toList (.num 2), .emit (.var "a".toList)]
    (exec ⟨[], []⟩ (p.map (Stmt.rename fun _ => "c".toList))).map (·.out) ≠ (exec ⟨[], []⟩ p).map (·.out) := by
  decide

/-- a program whose top level contains `@import`s of partials runs exactly like
the program with every partial written out in place (same final environment, same output, same
failures) — for the specified semantics of `@import` (the imported items run in the importing scope). -/
theorem import_inlines (p : List TStmt) (s : State) : execT s p = exec s (inlineImports p) := by
  induction p generalizing s with
  | nil => rfl
  | cons t rest ih =>
    cases t with
    | plain st =>
      simp only [execT, ih]
      exact (exec_append s [st] _).symm
    | imp frag =>
      simp only [execT, ih]
      exact (exec_append s frag _).symm

/-- the rewrite itself: cutting the run `frag` out of `pre ++ frag ++ post` into a partial -/
theorem move_fragment_into_partial (pre frag post : List Stmt) (s : State) :
    execT s (pre.map .plain ++ [.imp frag] ++ post.map .plain) = exec s (pre ++ frag ++ post) := by
  rw [import_inlines]
  simp [inlineImports_append, inlineImports_map_plain, inlineImports]

/-! ### renaming functions and mixins (small language extended by definitions and calls) -/

/-- **Renaming a function consistently** (definition table and every call, by an injective `ρ`)
does not change any value — wherever the calls are nested. -/
theorem rename_function_invariant (ρ : Text → Text) (hρ : ∀ a b, ρ a = ρ b → a = b) (defs : FunDefs)
    (env : Env) (e : FExpr) : evalF (renKeys ρ defs) env (e.renameFn ρ) = evalF defs env e :=
  evalF_renameFn ρ hρ defs env e

/-- **Renaming functions and mixins consistently** (independent injective renamings of the two name
spaces): the program with `@include`s and function calls runs to the same state and output. -/
theorem rename_callables_invariant (ρf ρm : Text → Text) (hf : ∀ a b, ρf a = ρf b → a = b)
    (hm : ∀ a b, ρm a = ρm b → a = b) (funs : FunDefs) (mixins : MixDefs) (p : List MStmt) (s : State) :
    execM (renKeys ρf funs) (renKeys ρm mixins) s (p.map (MStmt.renameCallables ρf ρm)) = execM funs mixins s p :=
  execM_rename ρf ρm hf hm funs mixins p s

/-- the two name spaces are separate: a function and a mixin may even swap names -/
example : ∃ (funs : FunDefs) (mixins : MixDefs) (p : List MStmt),
    (execM funs mixins ⟨[], []⟩ p).map (·.out) = some [Val.num 7, Val.num 1] :=
  ⟨[("f".toList, ("x".toList, .add (.var "x".toList) (.num 2)))], [("m".toList, [.emit (.num 1)])],
    [.emitF (.call "f".toList (.num 5)), .include_ "m".toList], by decide⟩

/-- a renaming that merges two functions changes the result (injectivity is needed) -/
theorem rename_function_needs_injective :
    let defs : FunDefs := [("f".toList, ("x".toList, .num 1)), ("g".toList, ("x".toList, .num 2))]
    evalF (renKeys (fun _ => "h".toList) defs) [] ((FExpr.call "g".toList (.num 0)).renameFn fun _ => "h".toList)
      ≠ evalF defs [] (.call "g".toList (.num 0)) := by
  decide

end C35
