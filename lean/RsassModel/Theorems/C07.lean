/-
C07 — Output is well framed and correctly encoded.

Property theorems about the writer model `Writer.*` (rsass/src/output/{cssbuf,cssdata}.rs,
rsass/src/css/{item,rule,atrule,mediarule,comment}.rs).  `frame s rev` is the tail of
`CssData::into_buffer` applied to the (reversed) buffer the `write` functions produced;
`intoBuffer q s items = frame s (writeNodes q s … Buf.empty).rev`.

Helper lemmas: Writer/Lemmas{Scan,Balance,Write,Frame,NoNl}.lean.
-/
import RsassModel.Writer.LemmasNoNl
namespace C07
open Writer

/-! ## Clause 1 — empty, or exactly one trailing newline -/

/-- The hypothesis the proof forces: in compressed style, the buffer stripped of its trailing
newlines must not end in `"\n;"` (then `into_buffer` pops the `;` and uncovers a newline). -/
def FrameH (s : Style) (rev : Bytes) : Prop :=
  s = .compressed → ∀ t,
    (if isAscii rev then rev else rev ++ (mark s).reverse).dropWhile (· = 10) ≠ 59 :: 10 :: t

/-- `frame` (the tail of `into_buffer`) on any buffer: the result is empty or is a non-empty
body that does not end in a newline, followed by one newline. -/
theorem intoBuffer_newline (s : Style) (rev : Bytes) (H : FrameH s rev) :
    frame s rev = [] ∨
      ∃ body, frame s rev = body ++ [10] ∧ body ≠ [] ∧ body.getLast? ≠ some 10 := by
  unfold frame
  simp only []
  generalize hr1 : (if isAscii rev = true then rev else rev ++ (mark s).reverse).dropWhile
    (fun x => decide (x = 10)) = r1
  have hh : r1.head? ≠ some 10 := by rw [← hr1]; exact head_dropNl _
  have h2 : (popSemi s r1).head? ≠ some 10 := by
    unfold popSemi
    split
    · next r' =>
      intro hc
      cases r' with
      | nil => simp at hc
      | cons y t =>
        simp at hc; subst hc
        exact H rfl t hr1
    · exact hh
  generalize popSemi s r1 = r2 at h2
  cases r2 with
  | nil => left; rfl
  | cons y t =>
    right
    refine ⟨(y :: t).reverse, by simp, by simp, ?_⟩
    rw [List.getLast?_reverse]; exact h2

/-- The hypothesis is needed: `"a\n;"` in compressed style comes out as `"a\n\n"`. -/
theorem intoBuffer_newline_H_needed :
    ¬ FrameH .compressed [59, 10, 97] ∧ frame .compressed [59, 10, 97] = [97, 10, 10] := by
  exact ⟨fun h => h rfl [97] (by decide), by decide⟩

/-- In expanded style the hypothesis is void. -/
theorem frameH_expanded (rev : Bytes) : FrameH .expanded rev := by
  intro h; cases h

/-- The writer establishes the hypothesis: its compressed output has no line break at all when
no atom has one. -/
theorem writer_establishes_H (q : WQuirks) (ns : Nodes) (h : nodesNoNl q ns = true) :
    FrameH .compressed (writeNodes q .compressed ns Buf.empty).rev := by
  intro _ t hc
  have h2 := noNl_framed (noNl_writeNodes q ns Buf.empty (by rfl) h)
  -- popping the `;` would uncover the line break
  rw [hc] at h2
  simp [popSemi, noNl] at h2

/-- Clause 1 for everything the writer produces. -/
theorem output_newline (q : WQuirks) (s : Style) (items : List Node)
    (h : s = .compressed → nodesNoNl q (Nodes.ofList (hoistImports items)) = true) :
    intoBuffer q s items = [] ∨
      ∃ body, intoBuffer q s items = body ++ [10] ∧ body ≠ [] ∧ body.getLast? ≠ some 10 := by
  unfold intoBuffer
  apply intoBuffer_newline
  cases s
  · exact frameH_expanded _
  · exact writer_establishes_H q _ (h rfl)

/-! ## Clause 3 — encoding marker -/

/-- `frame` on an ASCII buffer: the result is ASCII (and carries no mark). -/
theorem intoBuffer_ascii (s : Style) (rev : Bytes) (h : isAscii rev = true) :
    isAscii (frame s rev) = true := by
  unfold frame
  simp only [h, if_true]
  have := all_popSemi _ s (all_dropWhile _ (fun x => decide (x = 10)) h)
  split
  · rw [isAscii_reverse]; exact this
  · rw [isAscii_reverse]; exact this

/-- `frame` on a non-ASCII buffer: the result begins with `@charset "UTF-8";\n` (expanded) or the
byte-order mark (compressed). -/
theorem intoBuffer_mark (s : Style) (rev : Bytes) (h : isAscii rev = false) :
    mark s <+: frame s rev := by
  unfold frame
  simp only [h]
  obtain ⟨hd, hta⟩ := dropNl_append (m := (mark s).reverse) h
  simp only [Bool.false_eq_true, if_false]
  rw [hd]
  generalize rev.dropWhile (· = 10) = t at hta
  cases t with
  | nil => cases hta
  | cons y t =>
    rw [popSemi_append_cons]
    split
    · simp
    · simp [List.reverse_append]

/-- `frame` on any buffer: the result is pure ASCII unless it begins with the mark … -/
theorem intoBuffer_marker (s : Style) (rev : Bytes) (h : isAscii (frame s rev) = false) :
    mark s <+: frame s rev := by
  cases ha : isAscii rev with
  | true => rw [intoBuffer_ascii s rev ha] at h; cases h
  | false => exact intoBuffer_mark s rev ha

/-- … and a compressed output that begins with the byte-order mark is not ASCII (the expanded
mark is itself ASCII text, so the converse is not claimed there). -/
theorem bom_not_ascii (out : Bytes) (h : mark .compressed <+: out) : isAscii out = false := by
  obtain ⟨t, rfl⟩ := h
  rfl

/-- Clause 3 for everything the writer produces. -/
theorem output_marker (q : WQuirks) (s : Style) (items : List Node) :
    isAscii (intoBuffer q s items) = true ∨ mark s <+: intoBuffer q s items := by
  cases h : isAscii (intoBuffer q s items) with
  | true => left; rfl
  | false => right; exact intoBuffer_marker s _ h

/-! ## Clause 2 — braces and brackets balance outside strings, comments and url() -/

/-- By induction on the tree (`writeNode_bnd`/`writeNodes_bnd`, mutual structural recursion):
if every atom is closed, the output is balanced.  For every setting of the deviation flags. -/
theorem write_braces_balanced (q : WQuirks) (s : Style) (items : List Node)
    (h : nodesOk q s 0 (Nodes.ofList (hoistImports items)) = true) :
    balanced (intoBuffer q s items) = true := by
  unfold intoBuffer
  have := writeNodes_bnd q s _ Buf.empty [] ⟨rfl, fun _ h => by cases h⟩ h
  exact frame_balanced s this.1.1.nrm

/-- Full statement for the specification model: every successful compilation is balanced. -/
theorem spec_output_balanced (s : Style) (items : List Node) (out : Bytes)
    (h : compile WQuirks.spec s items = some out) : balanced out = true := by
  unfold compile at h
  simp only [WQuirks.spec, Bool.false_or] at h
  split at h
  · next hok =>
    cases h
    exact write_braces_balanced _ s items hok
  · cases h

/-- As is (`atomsUnchecked`): balanced under the hypothesis that excludes the deviation. -/
theorem asis_output_balanced_partial (s : Style) (items : List Node)
    (h : nodesOk WQuirks.asis s 0 (Nodes.ofList (hoistImports items)) = true) :
    balanced (intoBuffer WQuirks.asis s items) = true :=
  write_braces_balanced _ s items h

/-- `a { b: "x{" }` with a nested comment and an at-rule: the hypothesis is satisfiable. -/
example : nodesOk WQuirks.asis .expanded 0 (Nodes.ofList (hoistImports
    [.rule (some ⟨[97], [97]⟩) (.cons (.prop [98] ⟨[34, 120, 123, 34], [34, 120, 123, 34]⟩)
      (.cons (.comment [32, 125, 32]) .nil)),
     .atBlock [102] none (.cons (.comment [120]) .nil)])) = true := by decide

/-- Refutation for the code as it is: `a{b: #{"{"}}` — the tree `a { b: { }` — is written
as `a {\n  b: {;\n}\n`, which is not balanced. -/
theorem asis_unbalanced_witness :
    compile WQuirks.asis .expanded [.rule (some ⟨[97], [97]⟩) (.cons (.prop [98] ⟨[123], [123]⟩) .nil)]
      = some [97, 32, 123, 10, 32, 32, 98, 58, 32, 123, 59, 10, 125, 10] ∧
    balanced [97, 32, 123, 10, 32, 32, 98, 58, 32, 123, 59, 10, 125, 10] = false := by
  decide

/-! ## Clause 4 — compressed output has no line break before the final one -/

/-- `Format::get_indent` is empty in compressed style for **every** length — within the 80
preallocated columns and in the fallback branch alike (nesting deeper than 40 blocks).
`compressed_no_newline` below goes through this (`doIndentNoNl_c`, `endBlock_rev_c`). -/
theorem getIndent_compressed_every_depth (len : Nat) : getIndent .compressed len = [] :=
  getIndent_compressed len

/-- in expanded style both branches (table slice / built string) are a newline and `len` spaces -/
theorem getIndent_expanded_every_depth (len : Nat) :
    getIndent .expanded len = 10 :: List.replicate len 32 := getIndent_expanded len

/-- No line break anywhere but at the very end, when no atom has one (custom-property values
count as atoms here: the statement exempts them, the model cannot see inside them). -/
theorem compressed_no_newline (q : WQuirks) (items : List Node)
    (h : nodesNoNl q (Nodes.ofList (hoistImports items)) = true) :
    ∀ x ∈ (intoBuffer q .compressed items).dropLast, x ≠ 10 := by
  unfold intoBuffer frame
  simp only []
  have h2 := noNl_framed (noNl_writeNodes q _ Buf.empty (by rfl) h)
  generalize popSemi .compressed _ = r2 at h2 ⊢
  intro x hx
  simp only [noNl, List.all_eq_true] at h2
  cases r2 with
  | nil => simp at hx
  | cons y t => simpa using h2 x (by simpa [or_comm] using hx)

/-- Clause 4 as stated — "outside custom-property values": whatever the custom-property values
contain (line breaks included, `nodesNoNlX` asks nothing of them), the output with those values
taken out (`blankNode`: the same tree, every custom-property value empty) has no line break
before the final one. -/
theorem compressed_no_newline_outside_custom (q : WQuirks) (items : List Node)
    (h : nodesNoNlX q (Nodes.ofList (hoistImports items)) = true) :
    ∀ x ∈ (intoBuffer q .compressed (items.map blankNode)).dropLast, x ≠ 10 := by
  apply compressed_no_newline
  rw [hoist_map_blank, ofList_map_blank, nodesNoNl_blank]
  exact h

/-- a custom-property value with a line break meets the hypothesis -/
example : nodesNoNlX WQuirks.asis (Nodes.ofList (hoistImports
    [.rule (some ⟨[97], [97]⟩) (.cons (.custom [45, 45, 120] [32, 123, 97, 10, 32, 98, 125] false) .nil)]))
    = true := by decide

/-- Full statement for the specification model: comment text and at-rule arguments need no
hypothesis (their line breaks are replaced by spaces in compressed style). -/
theorem spec_compressed_no_newline (items : List Node)
    (h : nodesNoNl WQuirks.spec (Nodes.ofList (hoistImports items)) = true) :
    ∀ x ∈ (intoBuffer WQuirks.spec .compressed items).dropLast, x ≠ 10 :=
  compressed_no_newline _ items h

/-- for the specification model a multi-line comment and multi-line at-rule arguments meet
the hypothesis -/
example : nodesNoNl WQuirks.spec (Nodes.ofList (hoistImports
    [.comment [32, 97, 10, 32, 32, 32, 98, 32], .atBlock [102] (some ⟨[97, 10, 98], [97, 10, 98]⟩) .nil]))
    = true := by decide

/-- The code as it is since b20c1a1 / b5e4a2e: the same statement, same hypothesis as the
specification model (multi-line comments and at-rule arguments are covered). -/
theorem asis_compressed_no_newline (items : List Node)
    (h : nodesNoNl WQuirks.asis (Nodes.ofList (hoistImports items)) = true) :
    ∀ x ∈ (intoBuffer WQuirks.asis .compressed items).dropLast, x ≠ 10 :=
  compressed_no_newline _ items h

example : nodesNoNl WQuirks.asis (Nodes.ofList (hoistImports
    [.comment [32, 97, 10, 32, 32, 32, 98, 32], .atBlock [102] (some ⟨[97, 10, 98], [97, 10, 98]⟩) .nil]))
    = true := by decide

/-- Before those repairs: under the hypothesis that comment text and at-rule arguments have
no line break. -/
theorem old_compressed_no_newline_partial (items : List Node)
    (h : nodesNoNl WQuirks.old (Nodes.ofList (hoistImports items)) = true) :
    ∀ x ∈ (intoBuffer WQuirks.old .compressed items).dropLast, x ≠ 10 :=
  compressed_no_newline _ items h

example : nodesNoNl WQuirks.old (Nodes.ofList (hoistImports
    [.comment [32, 97, 32], .rule (some ⟨[97], [97]⟩) (.cons (.prop [98] ⟨[99, 10, 100], [99, 10, 100]⟩) .nil)]))
    = true := by decide

/-- Refutation (`commentReindentCompressed`, code before b20c1a1): the plain-CSS comment `/* a\n   b */` in
compressed style: `Comment::write` runs `text.replace("", "\n")`. -/
theorem old_comment_newline_witness :
    intoBuffer WQuirks.old .compressed [.comment [32, 97, 10, 32, 32, 32, 98, 32]] =
      [47, 42, 10, 32, 10, 97, 10, 10, 10, 32, 10, 32, 10, 32, 10, 98, 10, 32, 10, 42, 47, 10] := by
  decide

/-- Refutation (`atArgsRawCompressed`, code before b5e4a2e): `@f a\nb{}` keeps its line break. -/
theorem old_atargs_newline_witness :
    intoBuffer WQuirks.old .compressed [.atBlock [102] (some ⟨[97, 10, 98], [97, 10, 98]⟩) .nil] =
      [64, 102, 32, 97, 10, 98, 123, 125, 10] := by
  decide

end C07
