/-
C39 — Loader failures are reported, never absorbed.

Model: `Load.scan` (the candidate loop of `Context::do_find_file` with `?` on
`Loader::find_file`), `Load.findFile` (`SourceFile::read` failing), the `.fault` arm of
`Load.execItem` and error propagation through `execItems`/`execBody`/`compile`
(RsassModel/Load/*.lean).  The fault oracle `Env.fail : call index → Option Fault` is arbitrary.

A fault *fires* at call `i` when `fail i = lookup`, or `fail i = read` and call `i` returned a
file.  `Clean E calls` says that no fault fired at any call of the log.  The main theorem:
a compilation that returns CSS has a clean log — so any fault that fires makes the result an
error; errors carry no CSS; and a compilation is a function of its input and loader alone.
-/
import RsassModel.Load.LemmasFind
import RsassModel.Load.LemmasGraph
namespace C39
open Load

def Clean (E : Env) (calls : List Call) : Prop :=
  ∀ i (h : i < calls.length), E.fail i ≠ some .lookup ∧ (E.fail i = some .read → calls[i].hit = false)

theorem clean_snoc {E : Env} {calls : List Call} {c : Call} (hc : Clean E calls)
    (h1 : E.fail calls.length ≠ some .lookup) (h2 : E.fail calls.length = some .read → c.hit = false) :
    Clean E (calls ++ [c]) := by
  intro i hi
  by_cases hlt : i < calls.length
  · have := hc i hlt
    simpa [List.getElem_append_left hlt] using this
  · have hi' : i = calls.length := by simp at hi; omega
    subst hi'
    simp [h1]
    exact h2

theorem scan_clean (E : Env) (ps : List Probe) (calls : List Call) (hc : Clean E calls)
    (hnf : (scan E ps calls).isFault = false) : Clean E (scan E ps calls).calls := by
  induction ps generalizing calls with
  | nil => simpa [scan, ScanRes.calls] using hc
  | cons p ps ih =>
    simp only [scan] at hnf ⊢
    split at hnf
    · simp [ScanRes.isFault] at hnf
    · next hl =>
      rw [if_neg hl]
      split at hnf
      · next hmiss =>
        exact ih _ (clean_snoc hc hl (fun _ => rfl)) hnf
      · next phys hhit =>
        split at hnf
        · simp [ScanRes.isFault] at hnf
        · next hr =>
          rw [if_neg hr]
          exact clean_snoc hc hl (fun h => absurd h hr)

/-- a fault that fires during a lookup makes the lookup fail: `find_file` returns a file or
"not found" only with a clean log -/
theorem findFile_clean (q : LoadQuirks) (E : Env) (self : Str) (k : Kind) (url : Str) (calls : List Call)
    (hc : Clean E calls) :
    (∀ n c, findFile q E self k url calls = .found n c → Clean E c) ∧
    (∀ c, findFile q E self k url calls = .missing c → Clean E c) := by
  have key : (findScan q E self k url calls).isFault = false →
      Clean E (findScan q E self k url calls).calls := by
    rw [findScan_eq_scan]; exact scan_clean E _ calls hc
  constructor
  · intro n c h
    obtain ⟨p, hs, -⟩ := findFile_found.mp h
    rw [hs] at key
    exact key rfl
  · intro c h
    rw [findFile_missing.mp h] at key
    exact key rfl

/-- **any injected fault that fires makes the compilation an error**: a compilation that
returns CSS made no loader call at which a fault fired — whatever the file graph, the load
kinds, the deviation flags and the fault oracle -/
theorem fault_is_error (q : LoadQuirks) (W : World) (fuel : Nat) (root : Str) (s : St)
    (h : run q W fuel root = .ok s) : Clean W.env s.calls := by
  obtain ⟨s', hs, rfl⟩ := compile_ok.mp h
  exact execBody_callsPres (Clean W.env) q (fsFinder q W)
    (fun self k url calls hp => findFile_clean q W.env self k url calls hp) fuel root _ s' hs
    (by intro i hi; simp at hi)

/-- contrapositive of `fault_is_error`, with the firing call given by index -/
theorem fired_fault_not_ok (q : LoadQuirks) (W : World) (fuel : Nat) (root : Str) (s : St)
    (i : Nat) (hi : i < s.calls.length)
    (hfire : W.fail i = some .lookup ∨ (W.fail i = some .read ∧ s.calls[i].hit = true)) :
    run q W fuel root ≠ .ok s := by
  intro h
  have := fault_is_error q W fuel root s h i hi
  rcases hfire with h1 | ⟨h2, h3⟩
  · exact this.1 h1
  · have := this.2 h2
    simp [h3] at this

/-- a failing `Loader::find_file` / reader surfaces at the load statement as an error, for all
four load kinds -/
theorem fault_at_load_site (q : LoadQuirks) (F : Finder) (enter : Str → St → Res) (self : Str)
    (j : Nat) (b : Binds) (s : St) (k : Kind) (url : Str) (uq : Bool) (calls : List Call)
    (h : F.find self k url s.calls = .fault calls) :
    (execItem q F enter self j b s (.load k url uq)).1 = .err .fault { s with calls := calls } := by
  simp [execItem, h]

/-- by definition of `Res.markers`, the observation the check compares: an error result shows no
CSS, whatever output its state had collected -/
theorem error_has_no_css (e : Err) (s : St) : (Res.err e s).markers = [] := rfl

/-- **no state leaks into a later compilation**: in a session of compilations the result of the
last one is that of compiling it alone — `Context` is consumed by `transform`, the model has no
other state.  (Process-wide statics of rsass are outside this model; the check compares the
bytes of a later fault-free compilation with an earlier one.) -/
theorem no_state_leak (q : LoadQuirks) (history : List (World × Str)) (W : World) (root : Str) :
    ((history ++ [(W, root)]).map fun p => run q p.1 p.1.fuel p.2).getLast?
      = some (run q W W.fuel root) := by
  simp

/-- non-vacuity: a lookup fault at the third call of a two-file import is an error, and the
same world without faults compiles -/
theorem fault_example :
    let files : List (Str × File) :=
      [([105, 110, 46, 115, 99, 115, 115], ⟨0, [.mark, .load .import [97] false]⟩),
       ([97, 46, 115, 99, 115, 115], ⟨1, [.mark]⟩)]
    (run LoadQuirks.now ⟨files, [[]], fun i => if i = 2 then some .lookup else none⟩ 4
        [105, 110, 46, 115, 99, 115, 115]).errOf = some .fault ∧
    (run LoadQuirks.now ⟨files, [[]], fun i => if i = 2 then some .read else none⟩ 4
        [105, 110, 46, 115, 99, 115, 115]).errOf = some .fault ∧
    (run LoadQuirks.now ⟨files, [[]], fun i => if i = 1 then some .read else none⟩ 4
        [105, 110, 46, 115, 99, 115, 115]).markers = [.file 0, .file 1] ∧
    (run LoadQuirks.now ⟨files, [[]], fun _ => none⟩ 4 [105, 110, 46, 115, 99, 115, 115]).markers
      = [.file 0, .file 1] := by
  decide +kernel

end C39
