/-
C21 — Evaluated content is never silently dropped.

Models: `Dest/Css.lean` (`close` = `Drop` returning what the code `eprintln!`s, `St.lost`
counts what was only printed), `Dest/Emit.lean`, `Dest/Expand.lean` (control half of
`handle_item`, fuel-indexed).  Theorems hold for every text algebra `Ops σ`.
-/
import RsassModel.Dest.Lemmas
import RsassModel.Theorems.C20
namespace C21
open Dest
variable {σ : Type}

/-- the chain of parents, followed through style rules, ends in a nested-property block -/
def endsInNs : List (Frame σ) → Bool
  | [] => false
  | .rule _ _ :: rest => endsInNs rest
  | .ns _ :: _ => true
  | .at _ _ _ :: _ => false

def isOk {ε α} : Except ε α → Bool
  | .ok _ => true
  | .error _ => false

/-- (code as it is: `@media` in `@media` is kept, never passed on)
`push_item` up the parent chain fails exactly when the chain — through style rules —
ends in a `NsRuleDest`; every other destination accepts every item. -/
theorem deliver_fails_iff (q : Quirks) (hm : q.mediaInMediaNested = true) (ops : Ops σ)
    (stk : List (Frame σ)) (root its : List (Item σ)) :
    isOk (deliver q ops stk root its) = !endsInNs stk := by
  induction stk generalizing its with
  | nil => simp [deliver, isOk, endsInNs]
  | cons f rest ih =>
    cases f with
    | rule s cur =>
      have := ih (commitItems s cur ++ its)
      simp only [deliver, endsInNs]
      cases h : deliver q ops rest root (commitItems s cur ++ its) <;> simp_all [isOk]
    | ns nm => simp [deliver, isOk, endsInNs]
    | «at» k r body =>
      cases k <;> cases hh : q.atRuleHoists <;> cases r <;> simp [deliver, isOk, endsInNs, hm, hh]

/-- a nested-property block is open somewhere on the stack -/
def hasNs : List (Frame σ) → Bool
  | [] => false
  | .ns _ :: _ => true
  | _ :: rest => hasNs rest

theorem endsInNs_false_of_noNs (stk : List (Frame σ)) (h : hasNs stk = false) : endsInNs stk = false := by
  induction stk with
  | nil => rfl
  | cons f rest ih =>
    cases f with
    | rule s cur => simp only [endsInNs]; exact ih (by simpa [hasNs] using h)
    | ns nm => simp [hasNs] at h
    | «at» k r body => rfl

/-- without a nested-property block anywhere below nothing is ever refused -/
theorem deliver_ok_of_noNs (q : Quirks) (hm : q.mediaInMediaNested = true) (ops : Ops σ)
    (stk : List (Frame σ)) (root its : List (Item σ))
    (h : hasNs stk = false) : isOk (deliver q ops stk root its) = true := by
  rw [deliver_fails_iff q hm ops stk root its, endsInNs_false_of_noNs stk h]; rfl

/-- the frame on top of the stack has something to hand to its parent when dropped -/
def pending : List (Frame σ) → Bool
  | .rule _ cur :: _ => !cur.isEmpty
  | .at _ _ _ :: _ => true
  | _ => false

theorem pending_eq (q : Quirks) (stk : List (Frame σ)) : pending stk = !(handover q stk).isEmpty := by
  cases stk with
  | nil => rfl
  | cons f rest =>
    cases f with
    | rule s cur => cases cur <;> rfl
    | ns nm => rfl
    | «at» k r body => rfl

/-- (specification: a failed `Drop` is an error)
closing the innermost destination fails exactly when it has something to hand over and the
parent chain through style rules ends in a nested-property block. -/
theorem close_fails_iff_parent_is_nsrule (q : Quirks) (hm : q.mediaInMediaNested = true)
    (hs : q.closeSwallows = false) (ops : Ops σ) (st : St σ) :
    isOk (close q ops st) = !(pending st.stack && endsInNs st.stack.tail) := by
  rw [close_eq, pending_eq q]
  cases (handover q st.stack).isEmpty with
  | true => rfl
  | false =>
    have := deliver_fails_iff q hm ops st.stack.tail st.root (handover q st.stack)
    cases h : deliver q ops st.stack.tail st.root (handover q st.stack) <;>
      simp_all [closeResult, isOk]

def lostOf : Except Invalid (St σ) → Option Nat
  | .ok st => some st.lost
  | .error _ => none

/-- the same event in the code as it is: `Drop` never fails; exactly in that situation it
counts one more lost error (`eprintln!`) and the frame's content is gone -/
theorem close_loses_iff_parent_is_nsrule (q : Quirks) (hm : q.mediaInMediaNested = true)
    (hs : q.closeSwallows = true) (ops : Ops σ) (st : St σ) :
    lostOf (close q ops st)
      = some (st.lost + (if pending st.stack && endsInNs st.stack.tail then 1 else 0)) := by
  rw [close_eq, pending_eq q]
  cases (handover q st.stack).isEmpty with
  | true => rfl
  | false =>
    have := deliver_fails_iff q hm ops st.stack.tail st.root (handover q st.stack)
    cases h : deliver q ops st.stack.tail st.root (handover q st.stack) <;>
      simp_all [closeResult, isOk, lostOf]

/-- when `Drop` errors are errors (specification), a
successful evaluation of ANY statement tree leaves the lost-counter untouched — no push
was refused and forgotten. -/
theorem no_swallow_item (q : Quirks) (hs : q.closeSwallows = false) (ops : Ops σ) (c : SelCtx σ) :
    ∀ (i : Core σ) (st st' : St σ), emitItem q ops c i st = .ok st' → st'.lost = st.lost :=
  fun i st st' h => ((emit_lost q ops).item c i st st' h).2 hs

theorem no_swallow_body (q : Quirks) (hs : q.closeSwallows = false) (ops : Ops σ) (c : SelCtx σ) :
    ∀ (b : List (Core σ)) (st st' : St σ), emitBody q ops c b st = .ok st' → st'.lost = st.lost :=
  fun b st st' h => ((emit_lost q ops).body c b st st' h).2 hs

/-- `no_silent_drop` (specification, the lost-counter): a run that succeeds has lost nothing — every
push that a destination refused made the whole run an error. -/
theorem no_silent_drop_spec (ops : Ops σ) (isCss : σ → Bool) (compressed : Bool) (fuel : Nat)
    (p : List (Stmt σ)) (out : Out σ) (h : run Quirks.spec ops isCss compressed fuel p = .ok out) :
    out.lost = 0 := by
  unfold run at h
  split at h
  · cases h
  · next core env hc =>
    split at h
    · cases h
    · next st he =>
      cases h
      exact no_swallow_body Quirks.spec rfl ops {} core {} st he

/-- (specification without media merging, ARBITRARY programs) when the
compilation succeeds, every entry of the evaluation log — each declaration, comment and
body-less at-rule that evaluation reached, with its selector and at-rule path — is in the
flattened output (indeed the two sequences are equal, `C20.bubble_preserves_order`). -/
theorem no_silent_drop (q : Quirks) (hh : q.atRuleHoists = false) (hm : q.mediaInMediaNested = true)
    (hs : q.closeSwallows = false) (ops : Ops σ) (p : List (Core σ)) (st : St σ)
    (h : emitTop q ops p = .ok st) (e : Entry σ) (he : e ∈ logBody q ops {} p []) :
    e ∈ flatItems [] st.root := by
  rw [(C20.bubble_preserves_order q hh hm hs ops p st h).1]; exact he

/-- the code after the first fix round: a successful run in which no `Drop`
failed (`lost = 0`) has every entry of the evaluation log in its output.  The excluded case
is exactly `close_loses_iff_parent_is_nsrule`. -/
theorem no_silent_drop_afterRound1_partial (ops : Ops σ) (p : List (Core σ)) (st : St σ)
    (h : emitTop Quirks.afterRound1 ops p = .ok st) (hl : st.lost = 0) (e : Entry σ)
    (he : e ∈ logBody Quirks.afterRound1 ops {} p []) : e ∈ flatItems [] st.root := by
  rw [(C20.bubble_preserves_order_afterRound1 ops p st h hl).1]; exact he

/-- for the code after the first fix round the lost-counter never decreases during evaluation -/
theorem lost_monotone_afterRound1 (ops : Ops σ) (c : SelCtx σ) (b : List (Core σ)) (st st' : St σ)
    (h : emitBody Quirks.afterRound1 ops c b st = .ok st') : st.lost ≤ st'.lost :=
  (emitBody_good Quirks.afterRound1 rfl rfl ops c b st st' h).1

/-- THE CODE AS IT IS NOW (`Quirks.now`): for every program, when the
compilation succeeds every entry of the evaluation log is in the output and nothing was lost;
the hypotheses of `no_silent_drop` on the flags hold of `Quirks.now`. -/
theorem no_silent_drop_now (ops : Ops σ) (p : List (Core σ)) (st : St σ)
    (h : emitTop Quirks.now ops p = .ok st) (e : Entry σ)
    (he : e ∈ logBody Quirks.now ops {} p []) : e ∈ flatItems [] st.root ∧ st.lost = 0 := by
  refine ⟨no_silent_drop Quirks.now rfl rfl rfl ops p st h e he, ?_⟩
  exact no_swallow_body Quirks.now rfl ops {} p {} st h

/-- the FULL specification (media merging included), arbitrary
programs: when the compilation succeeds, every entry of the evaluation log is in the flattened
output (paths compared after merging adjacent `@media` steps), and nothing was lost. -/
theorem no_silent_drop_full_spec (ops : Ops σ) (hassoc : Assoc ops) (p : List (Core σ)) (st : St σ)
    (h : emitTop Quirks.spec ops p = .ok st) (e : Entry σ)
    (he : e ∈ logBody Quirks.spec ops {} p []) :
    nE ops e ∈ NV ops (flatItems [] st.root) ∧ st.lost = 0 := by
  refine ⟨?_, no_swallow_body Quirks.spec rfl ops {} p {} st h⟩
  rw [(C20.bubble_preserves_order_spec ops hassoc p st h).1]
  exact List.mem_map_of_mem he

/-! ### The deviation: `closeSwallows` -/

/-- witness `2 { 3: { @media 1 { 4: 5 } } }` (an `@media` inside a nested-property block) -/
def nsWitness : List (Core Nat) := [.rule 2 [.ns 3 none [.media 1 [.decl 4 5]]]]

def outcome (r : Except Err (St Nat)) : Option (List (Item Nat) × Nat) :=
  match r with | .ok st => some (st.root, st.lost) | .error _ => none

/-- SPEC: the run is an error. -/
theorem ns_at_spec_is_error : outcome (emitTop Quirks.spec C20.natOps nsWitness) = none := by rfl

/-- REFUTATION for the code as it is: the run succeeds, the output is EMPTY (declaration
`4: 5` and the `@media` are gone) and one error was only printed. -/
theorem ns_at_asis_refutation : outcome (emitTop Quirks.asis C20.natOps nsWitness) = some ([], 1) := by rfl

/-- … and still so after the first round of repairs (`Quirks.afterRound1`). -/
theorem ns_at_afterRound1_refutation : outcome (emitTop Quirks.afterRound1 C20.natOps nsWitness) = some ([], 1) := by rfl

/-- after 34ff818 the witness is an error -/
theorem ns_at_now_is_error : outcome (emitTop Quirks.now C20.natOps nsWitness) = none := by rfl

/-- (code as it is) under the as-is flags a frame is lost only at a
`close` whose parent chain ends in a nested-property block (`close_loses_iff_parent_is_nsrule`);
on a stack WITHOUT any nested-property block every hand-over succeeds. -/
theorem no_silent_drop_partial (ops : Ops σ) (stk : List (Frame σ)) (root its : List (Item σ))
    (h : hasNs stk = false) : isOk (deliver Quirks.asis ops stk root its) = true :=
  deliver_ok_of_noNs Quirks.asis rfl ops stk root its h

example : hasNs ([.at (.media 1) (some (2, [])) [], .rule 2 []] : List (Frame Nat)) = false := by rfl

/-- "evaluation with fuel `n` reaches an `@error`": an independent inductive description of
the positions an `@error` can be reached in — head of a body, later in a body after the
statements before it evaluated successfully, inside a style rule, nested-property block,
`@media`, at-rule, `@at-root`, the taken branch of `@if`, the first iteration of a loop, a
mixin body, a `@content` block, an imported or used file, or a function called from a
declaration value. -/
inductive Hits (cfg : Cfg σ) : Nat → Content σ → List (Stmt σ) → Env σ → Prop
  | here (n ct rest env) : Hits cfg (n + 1) ct (.error :: rest) env
  | later (n ct s rest env o env1) :
      step cfg n (expand cfg n) ct s env = .ok (o, env1) → Hits cfg n ct rest env1 →
      Hits cfg (n + 1) ct (s :: rest) env
  | inRule (n ct sel b rest env) : checkBody cfg.isCss .rule b = true → Hits cfg n ct b env →
      Hits cfg (n + 1) ct (.rule sel b :: rest) env
  | inNs (n ct name b rest env) : checkBody cfg.isCss .nsRule b = true → Hits cfg n ct b env →
      Hits cfg (n + 1) ct (.ns name none b :: rest) env
  | inMedia (n ct a b rest env) : Hits cfg n ct b env → Hits cfg (n + 1) ct (.media a b :: rest) env
  | inAtRule (n ct nm a b rest env) : Hits cfg n ct b env → Hits cfg (n + 1) ct (.atrule nm a b :: rest) env
  | inAtRoot (n ct sel b rest env) : Hits cfg n ct b env → Hits cfg (n + 1) ct (.atroot sel b :: rest) env
  | inIf (n ct c t e rest env) : checkBody cfg.isCss .control (if c then t else e) = true →
      Hits cfg n ct (if c then t else e) env → Hits cfg (n + 1) ct (.ifS c t e :: rest) env
  | inLoop (n ct k b rest env) : checkBody cfg.isCss .control b = true → Hits cfg n ct b env →
      Hits cfg (n + 1) ct (.loop (k + 1) b :: rest) env
  | inMixin (n ct m hb blk b rest env) : lookup m env.mixins = some b →
      Hits cfg n (if hb then .some blk ct else .none) b env →
      Hits cfg (n + 1) ct (.incl m hb blk :: rest) env
  | inContent (n b outer rest env) : Hits cfg n outer b env →
      Hits cfg (n + 1) (.some b outer) (.content :: rest) env
  | inImport (n ct b rest env) : Hits cfg n .none b env → Hits cfg (n + 1) ct (.imp b :: rest) env
  | inUse (n ct id b rest env) : env.used.contains id = false →
      Hits cfg n .none b { env with used := id :: env.used } →
      Hits cfg (n + 1) ct (.use id b :: rest) env
  | inFunction (n ct name v rest env) : evalVal env n v = .error .atError →
      Hits cfg (n + 1) ct (.decl name v :: rest) env

/-- an `@error` reached in ANY of these positions makes the evaluation
return the error — it is never caught, skipped or turned into output. -/
theorem error_propagates (cfg : Cfg σ) (n : Nat) (ct : Content σ) (p : List (Stmt σ)) (env : Env σ)
    (h : Hits cfg n ct p env) : expand cfg n ct p env = .error .atError := by
  induction h with
  | here n ct rest env => simp [expand, step]
  | later n ct s rest env o env1 hs _ ih => simp [expand, hs, ih]
  | inRule n ct sel b rest env hc _ ih => simp [expand, step, hc, ih]
  | inNs n ct name b rest env hc _ ih => simp [expand, step, hc, ih]
  | inMedia n ct a b rest env _ ih => simp [expand, step, ih]
  | inAtRule n ct nm a b rest env _ ih => simp [expand, step, ih]
  | inAtRoot n ct sel b rest env _ ih => simp [expand, step, ih]
  | inIf n ct c t e rest env hc _ ih => simp [expand, step, hc, ih]
  | inLoop n ct k b rest env hc _ ih => simp [expand, step, hc, iter, ih]
  | inMixin n ct m hb blk b rest env hl _ ih => simp [expand, step, hl, ih]
  | inContent n b outer rest env _ ih => simp [expand, step, ih]
  | inImport n ct b rest env _ ih => simp [expand, step, ih]
  | inUse n ct id b rest env hu _ ih =>
    have hu' : ¬ id ∈ env.used := by simpa using hu
    simp [expand, step, hu', ih]
  | inFunction n ct name v rest env hv => simp [expand, step, hv]

/-- … and therefore the whole compilation fails, whatever the flags, the style and the
destination would have done with the output. -/
theorem error_fails_run (q : Quirks) (ops : Ops σ) (isCss : σ → Bool) (compressed : Bool) (fuel : Nat)
    (p : List (Stmt σ))
    (h : Hits { q := q, compressed := compressed, isCss := isCss, concat := ops.concat } fuel .none p {}) :
    run q ops isCss compressed fuel p = .error .atError := by
  unfold run
  rw [error_propagates _ _ _ _ _ h]

/-- `@error` at the head of a function body is reached by the function evaluator -/
theorem error_in_function_head (env : Env σ) (n : Nat) (rest : List (Stmt σ)) :
    evalFn env (n + 1) (.error :: rest) = .error .atError := by
  simp [evalFn]

/-- the hypotheses are satisfiable: `2 { @media 3 { @error } }` -/
example : Hits (σ := Nat) { q := Quirks.asis, compressed := false, isCss := fun _ => false, concat := List.sum }
    3 .none [.rule 2 [.media 3 [.error]]] {} :=
  .inRule 2 _ _ _ _ _ rfl (.inMedia 1 _ _ _ _ _ (.here 0 _ _ _))

end C21
