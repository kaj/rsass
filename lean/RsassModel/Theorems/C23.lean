/-
C23 — is-superselector is a preorder with the expected monotonicity.

Property theorems about `Sel.SelSet.isSuper` (model of `CssSelectorSet::is_superselector`,
i.e. `selector.is-superselector($super, $sub)`), for ALL selector lists: any number of
complex selectors, any combinators, any nesting depth of selector-argument pseudos.
`q : SuperQuirks` = with or without the known deviations; `superSpec` = the specification,
`superAsis` = both deviations on: the code as it was first checked (`attrQuoteMix` has since been
repaired in css/string.rs, the strict `>` arm `parentStrict` is still in the code), `superStrict` =
the code today.  Helper lemmas: Sel/SuperLemmas, SuperChain, SuperFuel.
-/
import RsassModel.Sel.SuperFuel
namespace C23
open Sel

/-- The fuel used by the model never matters: any unrolling deeper than the nesting depth of
the superselector side gives the same answer (so `SelSet.isSuper` *is* the Rust recursion). -/
theorem super_fuel_independent (q : SuperQuirks) (A B : SelSet) (n : Nat)
    (h : Selector.depthList A < n) : SelSet.isSuper q A B = superN q n A B :=
  isSuper_eq_superN q A B n (Or.inl h)

/-- **Reflexive**: every selector list is a superselector of itself — for every variant. -/
theorem super_refl (q : SuperQuirks) (A : SelSet) : SelSet.isSuper q A A = true :=
  SelSet.isSuper_refl q A

theorem super_trans_of (q : SuperQuirks)
    (hA : ∀ a b c, Attr.isSuper q a b = true → Attr.isSuper q b c = true → Attr.isSuper q a c = true)
    (A B C : SelSet) (h1 : SelSet.isSuper q A B = true) (h2 : SelSet.isSuper q B C = true) :
    SelSet.isSuper q A C = true :=
  SelSet.isSuper_trans_of q hA A B C h1 h2

/-- **Transitive** (full statement, specification model): for all selector lists. -/
theorem super_trans (A B C : SelSet) (h1 : SelSet.isSuper superSpec A B = true)
    (h2 : SelSet.isSuper superSpec B C = true) : SelSet.isSuper superSpec A C = true :=
  super_trans_of superSpec (fun _ _ _ => Attr.isSuper_trans_of rfl) A B C h1 h2

example : SelSet.isSuper superSpec [.leaf (Compound.ofClass "a")]
      [.rel .parent (.leaf (Compound.ofElem "p")) (.mk false none [] ["a".toList, "b".toList] none [] [])] = true
    ∧ SelSet.isSuper superSpec
      [.rel .parent (.leaf (Compound.ofElem "p")) (.mk false none [] ["a".toList, "b".toList] none [] [])]
      [.rel .parent (.rel .ancestor (.leaf (Compound.ofClass "x")) (Compound.ofElem "p"))
        (.mk false none [] ["a".toList, "b".toList] (some "i".toList) [] [])] = true := by decide +kernel

/-- The strictness of the `>` arm (flag `parentStrict`, a C24 matter) does not affect
transitivity: with the transitive attribute comparison every variant is transitive. -/
theorem super_trans_strict (A B C : SelSet) (h1 : SelSet.isSuper superStrict A B = true)
    (h2 : SelSet.isSuper superStrict B C = true) : SelSet.isSuper superStrict A C = true :=
  super_trans_of superStrict (fun _ _ _ => Attr.isSuper_trans_of rfl) A B C h1 h2

/-- On selector lists whose attribute values contain no backslash escape `superAsis` computes
exactly `superStrict`: the transitive attribute comparison of the specification with the strict
`>` arm kept (not `superSpec`, whose `>` arm looks through sibling combinators). -/
theorem asis_eq_spec_on_plain (A B : SelSet) (hA : Selector.plainList A = true)
    (hB : Selector.plainList B = true) : SelSet.isSuper superAsis A B = SelSet.isSuper superStrict A B :=
  superN_asis_eq_spec _ A B hA hB

/-- **Transitive, `superAsis` — partial**: holds when no attribute value in the three lists
contains a backslash escape (`Selector.plainList`, decidable).  The full statement for
`superAsis` is FALSE: see `super_trans_asis_refuted`. -/
theorem super_trans_partial (A B C : SelSet) (hA : Selector.plainList A = true)
    (hB : Selector.plainList B = true) (hC : Selector.plainList C = true)
    (h1 : SelSet.isSuper superAsis A B = true) (h2 : SelSet.isSuper superAsis B C = true) :
    SelSet.isSuper superAsis A C = true := by
  rw [asis_eq_spec_on_plain A B hA hB] at h1
  rw [asis_eq_spec_on_plain B C hB hC] at h2
  rw [asis_eq_spec_on_plain A C hA hC]
  exact super_trans_strict A B C h1 h2

/-- `[x="v"]`-style selector used in the examples below -/
def attrSel (val : String) (q : Quote) : SelSet :=
  [.leaf (.mk false none [] [] none [⟨"a".toList, "=".toList, val.toList, q, none⟩] [])]

-- the hypothesis of `super_trans_partial` is met by non-trivial inputs (mixed quote kinds)
example : Selector.plainList (attrSel "v" .dbl) = true ∧ Selector.plainList (attrSel "v" .none) = true
    ∧ Selector.plainList (attrSel "v" .sgl) = true
    ∧ SelSet.isSuper superAsis (attrSel "v" .dbl) (attrSel "v" .none) = true
    ∧ SelSet.isSuper superAsis (attrSel "v" .none) (attrSel "v" .sgl) = true := by decide +kernel

/-- **Refutation** of transitivity for `superAsis`, i.e. for the string comparison of
css/string.rs before its repair (known finding C23-attr-quote-mix; the triple runs against the
code as a regression case): `[a="\-"] ⊒ [a='-'] ⊒ [a="-"]` but `[a="\-"] ⋣ [a="-"]`. -/
theorem super_trans_asis_refuted :
    SelSet.isSuper superAsis (attrSel "\\-" .dbl) (attrSel "-" .sgl) = true
    ∧ SelSet.isSuper superAsis (attrSel "-" .sgl) (attrSel "-" .dbl) = true
    ∧ SelSet.isSuper superAsis (attrSel "\\-" .dbl) (attrSel "-" .dbl) = false := by decide +kernel

/-- **List ⊒ member**: a selector list is a superselector of each complex selector it contains. -/
theorem set_super_member (q : SuperQuirks) (A : SelSet) (x : Selector) (hx : x ∈ A) :
    SelSet.isSuper q A [x] = true :=
  SelSet.isSuper_of_mem hx (Selector.isSuperW_self_refl q x)

/-- **Adding simple selectors**: a list is a superselector of any selector obtained from one
of its members by adding simple selectors (type selector where there is none, classes,
placeholders, id where there is none, attributes, pseudo-classes — `Compound.Extends`) to any
of its compounds, and by inserting further ancestors at descendant combinators
(`s c` → `s x c` / `s > x c`, constructor `Selector.AddsSimple.insAnc`). -/
theorem super_add_simple (q : SuperQuirks) (A : SelSet) (x x' : Selector) (hx : x ∈ A)
    (h : Selector.AddsSimple x x') : SelSet.isSuper q A [x'] = true :=
  SelSet.isSuper_of_mem hx (Selector.isSuperW_of_addsSimple q h)

-- `Selector.AddsSimple` is inhabited by the concrete edits: `.c` / `#i` / `[x]` / `:hover` added
example (c : Compound) (s : Selector) (k : Rel) :
    Selector.AddsSimple (.rel k s c) (.rel k s (c.addClass "c".toList)) :=
  .rel (Compound.extends_addClass _ c) (Selector.AddsSimple.refl s)

/-- **Adding ancestors or parents**: a list is a superselector of any of its members prefixed
by an ancestor (`p x`), a parent (`p > x`) — or indeed any relation. -/
theorem super_add_ancestor (q : SuperQuirks) (A : SelSet) (x : Selector) (hx : x ∈ A)
    (k : Rel) (p : Selector) : SelSet.isSuper q A [Selector.prepend k p x] = true :=
  SelSet.isSuper_of_mem hx
    (isSuperC_prepend _ _ k p x fun c _ => Compound.isSuperW_self_refl q c)

/-- monotonicity composes with transitivity: anything below a member (in the specification
order) is below the list -/
theorem super_of_member_super (A : SelSet) (x : Selector) (hx : x ∈ A) (B : SelSet)
    (h : SelSet.isSuper superSpec [x] B = true) : SelSet.isSuper superSpec A B = true :=
  super_trans A [x] B (set_super_member superSpec A x hx) h

end C23
