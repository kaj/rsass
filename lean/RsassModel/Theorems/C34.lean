/-
C34 — Global and module function forms agree.

* `Generated/FnRegistry.lean` is rewritten on every run from the running code (T1);
  the table theorems below are re-decided by the kernel against it.
* `Glue/FnDocPairs.lean`: the documented pairs and the justified exception list.
* `Glue/FnRegistry.lean`: model of dispatch (`resolve`, `callDirect`, `getFunction`,
  `metaCall`) and of `FormalArgs::eval` (`bind`).
* `Glue/FnMinMax.lean`: `min`/`max`, the pair whose two forms differ by design.
-/
import RsassModel.Glue.FnRegistryLemmas
import RsassModel.Glue.FnDocPairs
import RsassModel.Generated.FnRegistry
import RsassModel.Glue.FnMinMax
namespace C34
open Glue.FnReg Generated.FnRegistry

/-! ## the table (complete finite domain: `decide`) -/

/-- Every documented global/module pair is ONE shared function object in the running
code, except the listed separately defined ones. -/
theorem documented_pairs_shared : docPairsOk table = true := by decide +kernel

theorem documented_pairs_shared_forall :
    ∀ p ∈ documentedPairs, p ∈ separatelyDefined ∨ table.shared p.g p.m p.f = true := by
  intro p hp
  simpa only [Bool.or_eq_true, List.contains_iff_mem] using
    List.all_eq_true.1 documented_pairs_shared p hp

/-- The exception list is tight: each listed pair is documented, exists in both forms
and really is two different objects (so a new sharing or a removal is noticed). -/
theorem separately_defined_tight : exceptionsTight table = true := by decide +kernel

/-! ## dispatch -/

section
variable {V C E : Type}

/-- Same object ⇒ same result, for ALL argument lists and calling scopes: if the table
says global `g` and `m.f` are one object, no user function shadows `g`, and `ns` is
bound to module `m`, then `g(args)` and `ns.f(args)` evaluate identically. -/
theorem shared_same_result (r : Registry V C E) (s : CallScope V C E) (g m f ns : Name)
    (hu : s.user.lookup g = none) (hns : s.uses.lookup ns = some m)
    (h : r.table.shared g m f = true) (a : CallArgs V) (c : C) :
    callDirect r s none g a c = callDirect r s (some ns) f a c := by
  have hr := resolve_shared r s g m f ns hu hns h
  unfold callDirect
  rw [hr]

/-- Instantiated with the extracted table: for every documented pair outside the
exception list, whatever the function bodies are (`store`), both forms agree. -/
theorem documented_pairs_same_result (store : Nat → Fn V C E) (s : CallScope V C E)
    (p : DocPair) (hp : p ∈ documentedPairs) (hx : p ∉ separatelyDefined) (ns : Name)
    (hu : s.user.lookup p.g = none) (hns : s.uses.lookup ns = some p.m)
    (a : CallArgs V) (c : C) :
    callDirect ⟨table, store⟩ s none p.g a c = callDirect ⟨table, store⟩ s (some ns) p.f a c := by
  rcases documented_pairs_shared_forall p hp with h | h
  · exact absurd h hx
  · exact shared_same_result ⟨table, store⟩ s p.g p.m p.f ns hu hns h a c

example : (⟨['n','t','h'], ['l','i','s','t'], ['n','t','h']⟩ : DocPair) ∈ documentedPairs ∧
    (⟨['n','t','h'], ['l','i','s','t'], ['n','t','h']⟩ : DocPair) ∉ separatelyDefined := by decide +kernel

/-- `meta.call(meta.get-function(name [, $module: ns]), args...)` gives exactly what the
direct call `name(args)` / `ns.name(args)` gives, whenever the name resolves to a
function. -/
theorem meta_call_eq_direct (r : Registry V C E) (s : CallScope V C E) (ns : Option Name) (f : Name)
    (fv : Fn V C E) (h : getFunction r s ns f = .ok fv) (a : CallArgs V) (c : C) :
    callDirect r s ns f a c = .value (metaCall fv a c) := by
  unfold getFunction at h
  unfold callDirect metaCall
  -- `get-function` succeeds only where `resolve` gives a function, and there both sides call it
  split at h <;> simp_all

/-- … and `get-function` fails exactly when the direct call is not a Sass function call. -/
theorem get_function_fails_iff (r : Registry V C E) (s : CallScope V C E) (ns : Option Name) (f : Name) :
    (∃ e, getFunction r s ns f = .error e) ↔ ¬ ∃ fn, resolve r s ns f = .fn fn := by
  unfold getFunction
  cases resolve r s ns f <;> simp

/-! ## argument passing (`FormalArgs::eval`) -/

/-- Positional = named = mixed: for EVERY list of formals, every list of at most that
many values and every split point `j`, passing the first `j` values by position and the
rest by name (in formal order) binds exactly as passing all of them by position. -/
theorem positional_eq_named (ps : List (Name × Option V)) (vs : List V) (j : Nat)
    (hl : vs.length ≤ ps.length) (hj : j ≤ vs.length) :
    bind ⟨ps, none⟩ ⟨vs.take j, ((ps.drop j).map (·.1)).zip (vs.drop j)⟩ = bind ⟨ps, none⟩ ⟨vs, []⟩ := by
  unfold Glue.FnReg.bind
  simp only [mixed_count ps vs j hl hj, bindParams_mixed ps vs j hl hj, List.length_nil, Nat.add_zero]

/-- The same for functions with a rest parameter (as long as no value reaches it). -/
theorem positional_eq_named_va (ps : List (Name × Option V)) (va : Name) (vs : List V) (j : Nat)
    (hl : vs.length ≤ ps.length) (hj : j ≤ vs.length) :
    bind ⟨ps, some va⟩ ⟨vs.take j, ((ps.drop j).map (·.1)).zip (vs.drop j)⟩ = bind ⟨ps, some va⟩ ⟨vs, []⟩ := by
  unfold Glue.FnReg.bind
  simp only [bindParams_mixed ps vs j hl hj, Option.isNone_some, Bool.false_and]

/-- The ORDER in which named arguments are written does not matter: for every formal list
without rest parameter, every positional prefix and any two permutations of the same named
arguments (distinct names), `bind` succeeds on both or on neither, with identical
bindings.  (On failure the `unexpected` error names the first left-over key, which does
depend on the order — hence `toOption`.) -/
theorem named_order_irrelevant (ps : List (Name × Option V)) (pos : List V) (n1 n2 : List (Name × V))
    (h : n1.Perm n2) (hn : (n1.map (·.1)).Nodup) :
    (bind ⟨ps, none⟩ ⟨pos, n1⟩).toOption = (bind ⟨ps, none⟩ ⟨pos, n2⟩).toOption := by
  have hb := bindParams_perm ps pos n1 n2 h hn
  unfold Glue.FnReg.bind
  simp only [h.length_eq]
  split
  · rfl
  · revert hb
    rcases bindParams ps pos n1 with e1 | ⟨b1, p1, r1⟩ <;>
      rcases bindParams ps pos n2 with e2 | ⟨b2, p2, r2⟩ <;> intro hb
    -- in order: error/error, error/ok, ok/error (both excluded by `hb`), ok/ok
    · rfl
    · exact hb.elim
    · exact hb.elim
    · obtain ⟨rfl, -, hr⟩ := hb
      rcases r1 with _ | ⟨k1, t1⟩ <;> rcases r2 with _ | ⟨k2, t2⟩
      -- left-over named values: none/none, none/some, some/none (a permutation keeps the
      -- length), some/some (both `unexpected`, erased by `toOption`)
      · rfl
      · exact nomatch hr.nil_eq
      · exact nomatch hr.symm.nil_eq
      · rfl

/-- Hence any mixed call — a positional prefix and the remaining arguments by name in ANY
order — binds like the all-positional call. -/
theorem positional_eq_named_any_order (ps : List (Name × Option V)) (vs : List V) (j : Nat)
    (named : List (Name × V)) (hl : vs.length ≤ ps.length) (hj : j ≤ vs.length)
    (hp : named.Perm (((ps.drop j).map (·.1)).zip (vs.drop j))) (hn : (named.map (·.1)).Nodup) :
    (bind ⟨ps, none⟩ ⟨vs.take j, named⟩).toOption = (bind ⟨ps, none⟩ ⟨vs, []⟩).toOption := by
  rw [named_order_irrelevant ps (vs.take j) named _ hp hn, positional_eq_named ps vs j hl hj]

example : (bind (V := Nat) ⟨[(['a'], none), (['b'], none), (['c'], some 9)], none⟩ ⟨[1], [(['c'], 3), (['b'], 2)]⟩).toOption =
          (bind ⟨[(['a'], none), (['b'], none), (['c'], some 9)], none⟩ ⟨[1, 2, 3], []⟩).toOption :=
  positional_eq_named_any_order (V := Nat) _ [1, 2, 3] 1 _ (by decide) (by decide)
    (List.Perm.swap _ _ _) (by decide)

/-- All-named special case (`j = 0`). -/
theorem all_named_eq_positional (ps : List (Name × Option V)) (vs : List V) (hl : vs.length ≤ ps.length) :
    bind ⟨ps, none⟩ ⟨[], (ps.map (·.1)).zip vs⟩ = bind ⟨ps, none⟩ ⟨vs, []⟩ := by
  have := positional_eq_named ps vs 0 hl (Nat.zero_le _)
  simpa using this

/-- Consequently the call results agree too. -/
theorem call_positional_eq_named (f : Fn V C E) (hrest : f.formals.rest = none) (vs : List V) (j : Nat)
    (hl : vs.length ≤ f.formals.params.length) (hj : j ≤ vs.length) (c : C) :
    f.call ⟨vs.take j, ((f.formals.params.drop j).map (·.1)).zip (vs.drop j)⟩ c = f.call ⟨vs, []⟩ c := by
  unfold Fn.call
  have : f.formals = ⟨f.formals.params, none⟩ := by
    cases hf : f.formals with
    | mk p r => simp only [hf] at hrest; subst hrest; rfl
  rw [this, positional_eq_named _ vs j hl hj]

/-- Non-vacuity + a concrete run of the binding model: `f($a, $b: 9)` called as
`f(1, $b: 2)`, `f($a: 1, $b: 2)` and `f(1, 2)`. -/
example : bind (V := Nat) ⟨[(['a'], none), (['b'], some 9)], none⟩ ⟨[1], [(['b'], 2)]⟩ =
          bind ⟨[(['a'], none), (['b'], some 9)], none⟩ ⟨[1, 2], []⟩ :=
  positional_eq_named (V := Nat) [(['a'], none), (['b'], some 9)] [1, 2] 1 (by decide) (by decide)

/-- What the code rejects: a value passed both by position and by name, an unknown name,
too many values, a missing required value. -/
theorem bind_errors :
    bind (V := Nat) ⟨[(['a'], none)], none⟩ ⟨[1], [(['a'], 2)]⟩ = .error .tooMany ∧
    bind (V := Nat) ⟨[(['a'], none), (['b'], some 9)], none⟩ ⟨[1], [(['z'], 2)]⟩ = .error (.unexpected ['z']) ∧
    bind (V := Nat) ⟨[(['a'], none)], none⟩ ⟨[1, 2], []⟩ = .error .tooMany ∧
    bind (V := Nat) ⟨[(['a'], none), (['b'], none)], none⟩ ⟨[1], []⟩ = .error (.missing ['b']) := by
  refine ⟨rfl, rfl, rfl, rfl⟩

end

/-! ## min / max: the pair that disagrees by design (known finding C34-minmax-css-fallback) -/

section
open Glue.FnReg.MinMax

/-- FULL STATEMENT (spec model: both forms strict): `max`/`min` and `math.max`/`math.min`
agree on every argument list. -/
theorem minmax_spec_agree (pref : Ordering) (l : List Num) :
    globalExt mmSpec pref l = moduleExt pref l := rfl

/-- PARTIAL (code as it is: the global form keeps incomparable numbers as a CSS call):
the forms agree on every argument list whose numbers are pairwise comparable by Sass
(same dimension, or unitless) — the explicit hypothesis that excludes the deviation. -/
theorem minmax_asis_agree_partial (pref : Ordering) (l : List Num) (h : AllComparable l) :
    globalExt mmAsIs pref l = moduleExt pref l := by
  cases l with
  | nil => rfl
  | cons a r => exact walk_strict_irrelevant pref r a h

/-- the hypothesis is satisfiable by a non-trivial list: `max(14cm, -63788, 2cm)` -/
example : AllComparable [⟨14, 1, some 1⟩, ⟨-63788, 0, none⟩, ⟨2, 1, some 1⟩] := by
  intro a ha b hb
  simp only [List.mem_cons, List.mem_nil_iff, or_false] at ha hb
  rcases ha with rfl | rfl | rfl <;> rcases hb with rfl | rfl | rfl <;> decide

/-- REFUTATION of the full statement for the code as it is, on the registered witness
`max(14cm, -63788, 403241%)`: the global form is kept as plain CSS, the module form is
an incompatible-units error. -/
theorem minmax_asis_disagree :
    globalExt mmAsIs .gt [⟨14, 1, some 1⟩, ⟨-63788, 0, none⟩, ⟨403241, 2, none⟩] = .css ∧
    moduleExt .gt [⟨14, 1, some 1⟩, ⟨-63788, 0, none⟩, ⟨403241, 2, none⟩] = .incompatible := by
  decide

/-- Numbers whose css dimensions are both known and different are an error in BOTH forms
(`max(1px, 1s)`): the fallback is limited to what CSS itself might be able to compare. -/
theorem minmax_known_css_dims_error :
    globalExt mmAsIs .gt [⟨1, 1, some 1⟩, ⟨1, 2, some 2⟩] = .incompatible ∧
    moduleExt .gt [⟨1, 1, some 1⟩, ⟨1, 2, some 2⟩] = .incompatible := by
  decide

end
end C34
