/-
C14 — `not`, `and`, `or` follow Sass truthiness.

  "`not x` is true exactly when x is false or null.  `a and b` yields a when a is false or null
   and b otherwise, and `a or b` yields a when a is truthy and b otherwise.  The right operand is
   evaluated only when its value is needed."

Model: `Value/Logic.lean` (`V.isTrue`, `notV` = the `UnaryOp`/`Not` arm of
`sass::Value::do_evaluate`, `evalL` = `BinOp::eval` And/Or over operands that may be thunks with
an identity; forcing a thunk appends its id to the evaluation log).  `logicSpec` = all flags off;
`logicOld` = the code before 6864d75; `logicAsis` = the code when the property was checked:
`notMapUnevaluated` (open) and `parenNullTruthy` (repaired since by 810445f).
-/
import RsassModel.Value.LogicLemmas
import RsassModel.Num.XRat
namespace C14
open Val Num

variable {ν : Type}

/-! ## truthiness -/

/-- only `false` and `null` are falsey -/
theorem isTrue_false_iff (v : V ν) : v.isTrue = false ↔ (v = .ff ∨ v = .null) := by
  cases v <;> simp [V.isTrue]

/-! ## not -/

/-- `not x` is a boolean, `true` exactly when x is `false` or `null`. -/
theorem not_spec (v : V ν) :
    (notV logicSpec v = .tt ↔ (v = .ff ∨ v = .null)) ∧
    (notV logicSpec v = .ff ↔ ¬ (v = .ff ∨ v = .null)) ∧
    (notV logicSpec v = .tt ∨ notV logicSpec v = .ff) := by
  have e : notV logicSpec v = V.ofBool (!v.isTrue) := rfl
  rw [e, ← isTrue_false_iff]
  cases v.isTrue <;> simp [V.ofBool]

/-- PARTIAL (the code today, flag `notMapUnevaluated`): every operand that is not a map. -/
theorem not_partial (v : V ν) (h : ∀ kv, v ≠ .map kv) : notV logicAsis v = notV logicSpec v := by
  fun_cases notV logicAsis v
  all_goals first | rfl | contradiction | exact absurd rfl (h _)

/-- the hypothesis is met by non-trivial operands: `null`, a string, a list -/
example : (∀ kv, (V.null : V XRat) ≠ .map kv) ∧ (∀ kv, (V.str [120] .dbl : V XRat) ≠ .map kv)
    ∧ (∀ kv, (V.list [] .undecided false : V XRat) ≠ .map kv) := by
  refine ⟨?_, ?_, ?_⟩ <;> intro kv h <;> cases h

/-- REFUTATION (flag `notMapUnevaluated`, the code since commit 6864d75): `not (a: 1)` is not a
boolean but the unevaluated `not (a: 1)`; the specification says `false`. -/
theorem not_map_unevaluated (kv : List (V ν × V ν)) :
    notV logicAsis (.map kv) = .notOf (.map kv) ∧ notV logicSpec (.map kv) = .ff
    ∧ (notV logicAsis (.map kv)).typeName = "unknown" :=
  ⟨rfl, rfl, rfl⟩

/-- REFUTATION (flag `notOnlyOnBool`, the code before commit 6864d75): `not null` stays `not null`
(printed `not `), `not "x"` stays `not "x"`, `not foo` becomes the string `notfoo`, `not (1 2)`
stays unevaluated; the specification gives `true, false, false, false`. -/
theorem not_old_fallthrough :
    notV logicOld (.null : V ν) = .notOf .null
    ∧ notV logicOld (.str [120] .dbl : V ν) = .notOf (.str [120] .dbl)
    ∧ notV logicOld (.str [102, 111, 111] .none : V ν) = .str [110, 111, 116, 102, 111, 111] .none
    ∧ notV logicSpec (.null : V ν) = .tt
    ∧ notV logicSpec (.str [120] .dbl : V ν) = .ff
    ∧ notV logicSpec (.str [102, 111, 111] .none : V ν) = .ff :=
  ⟨rfl, rfl, rfl, rfl, rfl, rfl⟩

/-- PARTIAL (old code): booleans were handled. -/
theorem not_old_partial (b : Bool) : notV logicOld (V.ofBool b : V ν) = notV logicSpec (V.ofBool b) := by
  cases b <;> rfl

/-! ## parentheses -/

/-- specification: parentheses change nothing -/
theorem paren_spec (e : LExpr ν) (log : List Nat) :
    evalL logicSpec (.paren e) log = evalL logicSpec e log := by
  simp only [evalL, logicSpec]
  split <;> simp_all

/-- PARTIAL (`logicAsis`, flag `parenNullTruthy`: the code before 810445f): parentheses change nothing unless the
parenthesised expression evaluates to `null`. -/
theorem paren_partial (e : LExpr ν) (log : List Nat) (h : (evalL logicAsis e log).1 ≠ some .null) :
    evalL logicAsis (.paren e) log = evalL logicAsis e log := by
  simp only [evalL]
  split
  · rename_i l' heq; rw [heq] at h; simp at h
  · rfl

/-- REFUTATION (flag `parenNullTruthy`): `(null) and 5` yields `5`, `not (null)` yields `false`,
and a right operand is evaluated although the left one is null: `(null) and <thunk 7>` forces 7.
The specification gives `null`, `true`, and forces nothing. -/
theorem paren_null_truthy :
    (evalL logicAsis (.and (.paren (.lit (.null : V XRat))) (.lit (.num ⟨5, 1⟩ 0))) []).1.map V.typeName = some "number"
    ∧ (evalL logicSpec (.and (.paren (.lit (.null : V XRat))) (.lit (.num ⟨5, 1⟩ 0))) []).1.map V.typeName = some "null"
    ∧ (evalL logicAsis (.not (.paren (.lit (.null : V XRat)))) []).1.map V.typeName = some "bool"
    ∧ (evalL logicAsis (.and (.paren (.lit (.null : V XRat))) (.thunk 7 none)) []).2 = [7]
    ∧ (evalL logicSpec (.and (.paren (.lit (.null : V XRat))) (.thunk 7 none)) []).2 = [] :=
  ⟨rfl, rfl, rfl, rfl, rfl⟩

/-! ## and / or on values -/

/-- the value of `a and b` -/
def andV (va vb : V ν) : V ν := if va.isTrue then vb else va
/-- the value of `a or b` -/
def orV (va vb : V ν) : V ν := if va.isTrue then va else vb

/-- `a and b` yields a when a is false or null and b otherwise -/
theorem andV_spec (va vb : V ν) :
    ((va = .ff ∨ va = .null) → andV va vb = va) ∧ (¬ (va = .ff ∨ va = .null) → andV va vb = vb) := by
  rw [← isTrue_false_iff, andV]
  cases va.isTrue <;> simp

/-- `a or b` yields a when a is truthy and b otherwise -/
theorem orV_spec (va vb : V ν) :
    (¬ (va = .ff ∨ va = .null) → orV va vb = va) ∧ ((va = .ff ∨ va = .null) → orV va vb = vb) := by
  rw [← isTrue_false_iff, orV]
  cases va.isTrue <;> simp

/-- if both operands evaluate, `a and b` evaluates to `andV` of their values
(for every flag setting: the flags only concern `not`). -/
theorem and_spec (q : LogicQuirks) (a b : LExpr ν) (log l1 l2 : List Nat) (va vb : V ν)
    (ha : evalL q a log = (some va, l1)) (hb : evalL q b l1 = (some vb, l2)) :
    (evalL q (.and a b) log).1 = some (andV va vb) := by
  simp only [evalL, ha, andV]
  split <;> simp [hb]

theorem or_spec (q : LogicQuirks) (a b : LExpr ν) (log l1 l2 : List Nat) (va vb : V ν)
    (ha : evalL q a log = (some va, l1)) (hb : evalL q b l1 = (some vb, l2)) :
    (evalL q (.or a b) log).1 = some (orV va vb) := by
  simp only [evalL, ha, orV]
  split <;> simp [hb]

/-! ## laziness, on the evaluation log -/

/-- when the left operand is falsey the right operand is not evaluated at all — the
result AND the log are those of the left operand, whatever `b` is (it may be a failing thunk). -/
theorem and_lazy (q : LogicQuirks) (a b : LExpr ν) (log l1 : List Nat) (va : V ν)
    (ha : evalL q a log = (some va, l1)) (hf : va.isTrue = false) :
    evalL q (.and a b) log = (some va, l1) := by
  simp [evalL, ha, hf]

/-- … and when it is truthy the right operand is evaluated exactly once, after the left one. -/
theorem and_forces_right (q : LogicQuirks) (a b : LExpr ν) (log l1 : List Nat) (va : V ν)
    (ha : evalL q a log = (some va, l1)) (ht : va.isTrue = true) :
    evalL q (.and a b) log = evalL q b l1 := by
  simp [evalL, ha, ht]

theorem or_lazy (q : LogicQuirks) (a b : LExpr ν) (log l1 : List Nat) (va : V ν)
    (ha : evalL q a log = (some va, l1)) (ht : va.isTrue = true) :
    evalL q (.or a b) log = (some va, l1) := by
  simp [evalL, ha, ht]

theorem or_forces_right (q : LogicQuirks) (a b : LExpr ν) (log l1 : List Nat) (va : V ν)
    (ha : evalL q a log = (some va, l1)) (hf : va.isTrue = false) :
    evalL q (.or a b) log = evalL q b l1 := by
  simp [evalL, ha, hf]

/-- a failing left operand fails the whole expression, without touching the right one -/
theorem left_error_propagates (q : LogicQuirks) (a b : LExpr ν) (log l1 : List Nat)
    (ha : evalL q a log = (none, l1)) :
    evalL q (.and a b) log = (none, l1) ∧ evalL q (.or a b) log = (none, l1) := by
  simp [evalL, ha]

/-- the thunks occurring in an expression -/
def thunkIds : LExpr ν → List Nat
  | .lit _ => []
  | .thunk id _ => [id]
  | .not e => thunkIds e
  | .paren e => thunkIds e
  | .and a b => thunkIds a ++ thunkIds b
  | .or a b => thunkIds a ++ thunkIds b

/-- Evaluation only appends to the log, and only ids of thunks of the expression: nothing else is
ever forced. -/
theorem forced_subset (q : LogicQuirks) (e : LExpr ν) (log : List Nat) :
    ∃ suffix, (evalL q e log).2 = log ++ suffix ∧ ∀ i ∈ suffix, i ∈ thunkIds e := by
  induction e generalizing log with
  | lit v => exact ⟨[], by simp [evalL], by simp⟩
  | thunk id v => exact ⟨[id], by simp [evalL], by simp [thunkIds]⟩
  | not e ih =>
    have h1 := ih log
    simp only [evalL, thunkIds]
    rcases h : evalL q e log with ⟨_ | v, l⟩ <;> simpa only [h] using h1
  | paren e ih =>
    have h1 := ih log
    simp only [evalL, thunkIds]
    split
    · rename_i l' h
      simpa only [h] using h1
    · exact h1
  | and a b iha ihb =>
    have h1 := iha log
    simp only [evalL, thunkIds]
    rcases h : evalL q a log with ⟨_ | va, l1⟩ <;> simp only [h] at h1 ⊢
    · exact suffix_step h1 (Or.inl rfl)
    · split
      · exact suffix_step h1 (Or.inr (ihb l1))
      · exact suffix_step h1 (Or.inl rfl)
  | or a b iha ihb =>
    have h1 := iha log
    simp only [evalL, thunkIds]
    rcases h : evalL q a log with ⟨_ | va, l1⟩ <;> simp only [h] at h1 ⊢
    · exact suffix_step h1 (Or.inl rfl)
    · split
      · exact suffix_step h1 (Or.inl rfl)
      · exact suffix_step h1 (Or.inr (ihb l1))

/-- Laziness as the property states it: with a falsey left operand, `a and b` forces only thunks
of `a` — in particular a right operand that would `@error` or write a global is not run. -/
theorem and_right_not_forced (q : LogicQuirks) (a b : LExpr ν) (va : V ν) (l1 : List Nat)
    (ha : evalL q a [] = (some va, l1)) (hf : va.isTrue = false) :
    ∀ i ∈ (evalL q (.and a b) []).2, i ∈ thunkIds a := by
  rw [and_lazy q a b [] l1 va ha hf]
  obtain ⟨s, hs, hm⟩ := forced_subset q a []
  simp only [ha, List.nil_append] at hs
  intro i hi
  exact hm i (by simpa [hs] using hi)

theorem or_right_not_forced (q : LogicQuirks) (a b : LExpr ν) (va : V ν) (l1 : List Nat)
    (ha : evalL q a [] = (some va, l1)) (ht : va.isTrue = true) :
    ∀ i ∈ (evalL q (.or a b) []).2, i ∈ thunkIds a := by
  rw [or_lazy q a b [] l1 va ha ht]
  obtain ⟨s, hs, hm⟩ := forced_subset q a []
  simp only [ha, List.nil_append] at hs
  intro i hi
  exact hm i (by simpa [hs] using hi)

/-- the hypotheses are met: `null and <failing thunk 7>` is `null`, nothing forced;
`1 or <failing thunk 7>` is `1`; `true and <thunk 7>` forces 7. -/
example : evalL logicAsis (.and (.lit (.null : V XRat)) (.thunk 7 none)) [] = (some .null, [])
    ∧ (evalL logicAsis (.or (.lit (.num (⟨1, 1⟩ : XRat) 0)) (.thunk 7 none)) []).2 = []
    ∧ (evalL logicAsis (.and (.lit (.tt : V XRat)) (.thunk 7 (some .ff))) []).2 = [7] :=
  ⟨rfl, rfl, rfl⟩

end C14
