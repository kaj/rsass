/-
C33 — Emitted color text denotes the computed color.
Property theorems over the printer model `RsassModel/Color/Fmt.lean` and the colour-name table
`RsassModel/Generated/ColorNames.lean`, which is regenerated from the RUNNING code on every
run of the check; `Color.cssNames` is the committed CSS reference list.
-/
import RsassModel.Color.Eval
import RsassModel.Color.LemmasFmt
namespace C33
open Color

/-- every name `Rgba::from_name` accepts (among the probed names) has its CSS value -/
theorem colorNames_match_css_n2v :
    Generated.n2v.all (fun p => cssNames.lookup p.1 == some p.2) = true := by decide +kernel

/-- every CSS colour keyword is accepted by `Rgba::from_name`, with its CSS value -/
theorem colorNames_match_css_complete :
    cssNames.all (fun p => Generated.n2v.lookup p.1 == some p.2) = true := by
  have h := colorNames_match_css_n2v
  rw [n2v_eq_cssNames] at h ⊢
  exact h

/-- every name the code can emit (`Rgba::name`, enumerated over ALL 2^24 byte colours) is a
CSS colour keyword whose CSS value is exactly the byte colour it is emitted for -/
theorem colorNames_match_css_v2n :
    Generated.v2n.all (fun p => cssNames.lookup p.2 == some p.1 && decide (p.1 < 16777216)) = true := by
  decide +kernel

/-- every CSS colour value has a name in the code's value → name table -/
theorem colorNames_match_css_v2n_complete :
    cssNames.all (fun p => (Generated.v2n.lookup p.2).isSome) = true := by decide +kernel

/-- `transparent` is the only probed non-byte name -/
theorem colorNames_special :
    Generated.special = [['t','r','a','n','s','p','a','r','e','n','t']] := by decide +kernel

/-- FULL STATEMENT (both directions): the extracted table and the CSS list agree -/
theorem colorNames_match_css :
    (∀ n v, Generated.n2v.lookup n = some v → cssNames.lookup n = some v) ∧
    (∀ n v, cssNames.lookup n = some v → Generated.n2v.lookup n = some v) ∧
    (∀ v n, Generated.v2n.lookup v = some n → cssNames.lookup n = some v ∧ v < 16777216) := by
  refine ⟨fun n v h => ?_, fun n v h => ?_, fun v n h => ?_⟩
  · have := lookup_all _ _ colorNames_match_css_n2v n v h
    simpa using this
  · have := lookup_all _ _ colorNames_match_css_complete n v h
    simpa using this
  · have := lookup_all _ _ colorNames_match_css_v2n v n h
    simpa using this

/-- FULL STATEMENT: `#rrggbb` as written by `{:02x}` reads back to the same three bytes -/
theorem hex_roundtrip (num : Rat → List Char) (comp : Bool) (r g b : Nat)
    (hr : r < 256) (hg : g < 256) (hb : b < 256) :
    readHex (renderTok num comp (.hex6 r g b)) = some (r, g, b) := by
  show readHex ['#', hexDigitChar (r / 16 % 16), hexDigitChar (r % 16), hexDigitChar (g / 16 % 16),
    hexDigitChar (g % 16), hexDigitChar (b / 16 % 16), hexDigitChar (b % 16)] = some (r, g, b)
  rw [readHex6 _ _ _ _ _ _ _ _ _ _ _ _ (hexVal_hi r hr) (hexVal_lo r) (hexVal_hi g hg) (hexVal_lo g)
    (hexVal_hi b hb) (hexVal_lo b)]
  have e : ∀ n : Nat, n / 16 * 16 + n % 16 = n := by intro n; omega
  rw [e, e, e]

/-- FULL STATEMENT: `#rgb` as written by `{:x}` of `byte / 0x11` reads back to the same bytes
whenever the short form is chosen (every byte a multiple of 0x11) -/
theorem short_hex_roundtrip (num : Rat → List Char) (comp : Bool) (r g b : Nat)
    (hr : r < 256) (hg : g < 256) (hb : b < 256)
    (sr : r % 17 = 0) (sg : g % 17 = 0) (sb : b % 17 = 0) :
    readHex (renderTok num comp (.hex3 (r / 17) (g / 17) (b / 17))) = some (r, g, b) := by
  show readHex ['#', hexDigitChar (r / 17 % 16), hexDigitChar (g / 17 % 16),
    hexDigitChar (b / 17 % 16)] = some (r, g, b)
  rw [readHex3 _ _ _ _ _ _ (hexVal_lo _) (hexVal_lo _) (hexVal_lo _)]
  have e : ∀ n : Nat, n < 256 → n % 17 = 0 → n / 17 % 16 * 17 = n := by intro n h1 h2; omega
  rw [e r hr sr, e g hg sg, e b hb sb]

example : (255 : Nat) % 17 = 0 ∧ (0x33 : Nat) % 17 = 0 := by decide

/-- the colour a decoded token denotes agrees with `c` channel by channel (rsass's own
equality tolerance `cmp_chan`, 1e-7) -/
def denotes (d : Rat × Rat × Rat × Rat) (c : Rgba Rat) : Prop :=
  chanEq d.1 c.r = true ∧ chanEq d.2.1 c.g = true ∧ chanEq d.2.2.1 c.b = true ∧ chanEq d.2.2.2 c.a = true

/-- FULL STATEMENT for rgba-stored colours, both styles, every source format the parser or a
function produces: the notation `impl Display for Formatted<Rgba>` chooses — a name, `#rgb`,
`#rrggbb`, `rgb(r, g, b)`, `transparent`, `rgb()/rgba()` with numbers — reads back (names through
the CSS list) to the colour's rgba within the byte tolerance. -/
theorem fmt_decode_rgba (c : Rgba Rat) (h : c.WF) (hs : c.src ≠ .shortHex) (comp : Bool) :
    ∃ d, decodeTok (c.tok comp) = some d ∧ denotes d c := by
  obtain ⟨⟨r0, r1⟩, ⟨g0, g1⟩, ⟨b0, b1⟩, ⟨a0, a1⟩⟩ := h
  unfold Rgba.tok
  cases hb : c.tryBytes with
  | some t =>
    obtain ⟨r, g, b⟩ := t
    obtain ⟨ha, hr, hg, hb'⟩ := Rgba.tryBytes_some c r g b hb
    have ea : c.a = 1 := le_antisymm a1 ha
    have cr := tryByte_close c.r r r0 r1 hr
    have cg := tryByte_close c.g g g0 g1 hg
    have cb := tryByte_close c.b b b0 b1 hb'
    refine ⟨_, bytesTok_decode comp c.src hs r g b (by omega) (by omega) (by omega)
      colorNames_match_css_v2n, ?_⟩
    unfold denotes chanEq
    simp only [cr.1, cg.1, cb.1, decide_true, ea, sub_self, small_pos, and_self]
  | none =>
    simp only []
    split
    · rename_i hz
      simp only [Bool.and_eq_true, Rgba.allZero, beq_iff_eq] at hz
      obtain ⟨_, ⟨⟨za, zr⟩, zg⟩, zb⟩ := hz
      refine ⟨_, rfl, ?_⟩
      unfold denotes
      simp only [zr, zg, zb, za, chanEq_self, and_self]
    · by_cases ha : 1 ≤ c.a
      · refine ⟨(c.r, c.g, c.b, 1), by simp only [decodeTok, if_pos ha], ?_⟩
        exact ⟨chanEq_self _, chanEq_self _, chanEq_self _, le_antisymm a1 ha ▸ chanEq_self _⟩
      · refine ⟨(c.r, c.g, c.b, c.a), by simp only [decodeTok, if_neg ha], ?_⟩
        exact ⟨chanEq_self _, chanEq_self _, chanEq_self _, chanEq_self _⟩

/-- FULL STATEMENT for the `hsl()/hsla()` notation (hsla-stored colours with `hsla_format`, and
hwba-stored colours through `Hsla::from`): away from the hue printed as 0 (`hue + 1e-7 > 360`),
the three printed numbers and alpha convert (CSS hsl→rgb) to exactly the colour's rgba. -/
theorem fmt_decode_hsl (c : Hsla Rat) (h : c.WF) (hh : ¬ (360 < c.h + (CExtra.small : Rat))) :
    ∃ d, decodeTok c.tok = some d ∧ denotes d c.toRgba := by
  obtain ⟨_, _, _, ⟨a0, a1⟩⟩ := h
  have hx : ∀ a' : Rat, a' = c.a →
      (Hsla.toRgba ⟨c.h, c.s * 100 / 100, c.l * 100 / 100, a', true⟩ : Rgba Rat) = c.toRgba := by
    intro a' e
    rw [e, mul_div_cancel_right₀ _ (by norm_num), mul_div_cancel_right₀ _ (by norm_num)]
    exact Hsla.toRgba_fmt c true
  refine ⟨(c.toRgba.r, c.toRgba.g, c.toRgba.b, c.toRgba.a), ?_,
    chanEq_self _, chanEq_self _, chanEq_self _, chanEq_self _⟩
  by_cases ha : 1 ≤ c.a
  · simp only [Hsla.tok, hh, if_false, ha, if_true, decodeTok, hx 1 (le_antisymm a1 ha).symm]
  · simp only [Hsla.tok, hh, if_false, ha, decodeTok, hx c.a rfl]

/-- no constructor expression yields an rgba value with the `ShortHex` source format (the
variant is never constructed by rsass), so `fmt_decode_rgba` applies to every constructed colour -/
theorem ctor_src_not_shortHex (e : CExpr Rat) (c : Rgba Rat) (he : e.isCtor = true)
    (h : e.eval CQuirks.spec = some (.rgba c)) : c.src ≠ .shortHex := by
  cases e with
  | hex ds =>
    simp only [CExpr.eval, Option.map_eq_some_iff] at h
    obtain ⟨r, hr, hc⟩ := h
    cases hc
    rw [fromHex_src ds c hr]
    decide
  | name s =>
    simp only [CExpr.eval, Option.map_eq_some_iff] at h
    obtain ⟨r, hr, hc⟩ := h
    cases hc
    obtain ⟨_, _, _, _, rfl⟩ := fromName_some s c hr
    exact RgbFormat.noConfusion
  | rgb r g b a =>
    obtain ⟨_, _, _, _, hc⟩ := mkRgb_some r g b a _ h
    cases hc
    exact RgbFormat.noConfusion
  | rgbaOf c0 a =>
    simp only [CExpr.eval] at h
    split at h
    · rw [Col.resetSource_rgba_src _ c (Option.some.inj h)]
      decide
    · cases h
  | hsl hh s l a =>
    obtain ⟨_, _, _, _, hc⟩ := mkHsl_some _ hh s l a _ h
    cases hc
  | hwb hh w b a =>
    obtain ⟨_, _, _, _, hc | hc⟩ := mkHwb_some _ hh w b a _ h
    · cases hc
      show (Hsla.toRgba _).src ≠ .shortHex
      rw [Hsla.toRgba_src]
      exact RgbFormat.noConfusion
    · cases hc
  | call f c0 args => simp [CExpr.isCtor] at he
  | mix a b w => simp [CExpr.isCtor] at he

end C33
