/-
C17 — Control-flow directives run the specified iterations.
Theorems about the abstract machine `Flow.exec` (model of handle_item's
IfStatement / Each / For / While) and its pure parts (`forRange` = ValueRange,
`evalRange` = SrcRange::evaluate, `items` = iter_items, `bindNames` = define_multi).
No deviation of the code from this property is known: `asis = spec`.
-/
import RsassModel.Flow.Basic
import RsassModel.Flow.Lemmas
namespace C17
open Flow
open Units (KU)

/-- one step of an `@if`: the condition is evaluated once and exactly one branch is put
in front of the work list -/
theorem if_step (n : Nat) (c : Expr) (t e k : List Stmt) (st : St) (v : V)
    (hc : eval st.env c = .ok v) :
    exec (n + 1) (Stmt.ifs c t e :: k) st = exec n ((if truthy v then t else e) ++ k) st := by
  simp only [exec, hc]

theorem ifChain_append (pre rest : List (Expr × List Stmt)) (els : List Stmt) :
    ifChain (pre ++ rest) els = ifChain pre (ifChain rest els) := by
  induction pre with
  | nil => rfl
  | cons p pre ih => simp [ifChain, ih]

/-- when every condition of a chain is falsey the `@else` body runs (nothing, if there is none) -/
theorem if_chain_all_falsey (n : Nat) (br : List (Expr × List Stmt)) (els k : List Stmt) (st : St)
    (hbr : ∀ p ∈ br, ∃ w, eval st.env p.1 = .ok w ∧ truthy w = false) :
    exec (n + br.length) (ifChain br els ++ k) st = exec n (els ++ k) st := by
  induction br generalizing n with
  | nil => simp [ifChain]
  | cons p br ih =>
    obtain ⟨w, hw, hf⟩ := hbr p (by simp)
    obtain ⟨pc, pb⟩ := p
    simp only [ifChain, List.length_cons, List.cons_append, List.nil_append]
    have : n + (br.length + 1) = (n + br.length) + 1 := by omega
    rw [this, if_step _ pc pb _ k st w hw, hf]
    simp only [Bool.false_eq_true, if_false]
    exact ih n (fun q hq => hbr q (by simp [hq]))

/-- in a chain whose first `pre.length` conditions evaluate to
falsey values and whose next condition `c` is truthy, exactly the body `b` of that branch
runs (then the rest `k` of the program); later conditions and bodies (`post`, `els`) are
neither evaluated nor run. -/
theorem if_chain_first_truthy (n : Nat) (pre : List (Expr × List Stmt)) (c : Expr) (b : List Stmt)
    (post : List (Expr × List Stmt)) (els k : List Stmt) (st : St) (v : V)
    (hpre : ∀ p ∈ pre, ∃ w, eval st.env p.1 = .ok w ∧ truthy w = false)
    (hc : eval st.env c = .ok v) (hv : truthy v = true) :
    exec (n + pre.length + 1) (ifChain (pre ++ (c, b) :: post) els ++ k) st = exec n (b ++ k) st := by
  rw [ifChain_append, show n + pre.length + 1 = (n + 1) + pre.length by omega,
    if_chain_all_falsey (n + 1) pre _ k st hpre]
  simp only [ifChain, List.cons_append, List.nil_append]
  rw [if_step n c b _ k st v hc, hv]
  rfl

/-- only `false` and `null` are falsey (the statement characterises `truthy v = false`) -/
theorem truthy_iff (v : V) : truthy v = false ↔ v = V.null ∨ v = V.bool false := by
  cases v with
  | bool b => cases b <;> simp [truthy]
  | _ => simp [truthy]

/-- the hypotheses are satisfiable: `@if null {..} @else if 0 {p1: a}` -/
example : exec 5 (ifChain [(Expr.lit V.null, [Stmt.decl 0 (Expr.lit V.null)]),
      (Expr.lit (V.num 0 KU.none), [Stmt.decl 1 (Expr.lit (V.str ['a']))])] []) ⟨[[]], []⟩
    = .ok ⟨[[]], [(1, V.str ['a'])]⟩ := by rfl

/-- `from a through b`, `a ≤ b`: a, a+1, …, b. -/
theorem forRange_through (a b : Int) (h : a ≤ b) :
    forRange a b true = countUp (b - a + 1).toNat a := by
  simp only [forRange, ge_iff_le, h, if_true]
  rw [rangeList_up _ a (b + 1) (by omega), show b + 1 - a = b - a + 1 by omega]

/-- `from a to b`, `a ≤ b`: a, …, b-1 (nothing when a = b). -/
theorem forRange_to (a b : Int) (h : a ≤ b) :
    forRange a b false = countUp (b - a).toNat a := by
  simp only [forRange, ge_iff_le, h, if_true, Bool.false_eq_true, if_false]
  exact rangeList_up _ a b (by omega)

/-- descending `through`: `b < a`: a, a-1, …, b. -/
theorem forRange_through_desc (a b : Int) (h : b < a) :
    forRange a b true = countDown (a - b + 1).toNat a := by
  simp only [forRange, ge_iff_le, Int.not_le.mpr h, if_false, if_true]
  rw [rangeList_down _ a (b + -1) (by omega), show a - (b + -1) = a - b + 1 by omega]

/-- descending `to`: `b < a`: a, a-1, …, b+1. -/
theorem forRange_to_desc (a b : Int) (h : b < a) :
    forRange a b false = countDown (a - b).toNat a := by
  simp only [forRange, ge_iff_le, Int.not_le.mpr h, if_false, Bool.false_eq_true]
  exact rangeList_down _ a b (by omega)

/-- "visits every integer from a to b inclusive", in either direction, each exactly once
(the list has no more elements than the interval) -/
theorem mem_forRange_through (a b i : Int) :
    i ∈ forRange a b true ↔ (a ≤ i ∧ i ≤ b) ∨ (b ≤ i ∧ i ≤ a) := by
  by_cases h : a ≤ b
  · rw [forRange_through a b h, mem_countUp]; omega
  · rw [forRange_through_desc a b (by omega), mem_countDown]; omega

/-- "`to b` stops before b" -/
theorem mem_forRange_to (a b i : Int) :
    i ∈ forRange a b false ↔ (a ≤ i ∧ i < b) ∨ (b < i ∧ i ≤ a) := by
  by_cases h : a ≤ b
  · rw [forRange_to a b h, mem_countUp]; omega
  · rw [forRange_to_desc a b (by omega), mem_countDown]; omega

theorem forRange_through_length (a b : Int) : (forRange a b true).length = (b - a).natAbs + 1 := by
  by_cases h : a ≤ b
  · rw [forRange_through a b h, countUp_length]; omega
  · rw [forRange_through_desc a b (by omega), countDown_length]; omega

theorem forRange_through_get (a b : Int) (i : Nat) (hi : i < (b - a).natAbs + 1) :
    (forRange a b true)[i]? = some (if a ≤ b then a + i else a - i) := by
  by_cases h : a ≤ b
  · rw [forRange_through a b h, countUp_getElem?]
    simp [h]
    omega
  · rw [forRange_through_desc a b (by omega), countDown_getElem?]
    simp [h]
    omega

example : forRange 3 1 true = [3, 2, 1] := by decide +kernel
example : forRange (-1) 2 false = [-1, 0, 1] := by decide +kernel
example : forRange 2 2 false = [] := by decide +kernel
example : forRange 2 2 true = [2] := by decide +kernel

/-- every value `$i` takes carries the unit of `from`, and the integers
are those of the range ending at the converted bound. -/
theorem forRange_unit (x y : Int) (u v : KU) (incl : Bool) (l : List V)
    (h : evalRange (.num x u) (.num y v) incl = .ok l) :
    ∃ y', l = (forRange x y' incl).map (fun i => V.num i u)
      ∧ (if u = KU.none ∨ v = KU.none then y' = y else convertInt y v u = .ok y') := by
  unfold evalRange at h
  by_cases hu : u = KU.none ∨ v = KU.none
  · simp only [hu, if_true] at h
    injection h with h
    exact ⟨y, h.symm, by simp [hu]⟩
  · simp only [hu, if_false] at h
    cases hc : convertInt y v u with
    | error e => simp [hc] at h
    | ok y' =>
      simp only [hc] at h
      injection h with h
      exact ⟨y', h.symm, by simp [hu]⟩

/-- a unitless bound is taken as it is; the loop variable has `from`'s unit -/
theorem evalRange_unitless_to (x y : Int) (u : KU) (incl : Bool) :
    evalRange (.num x u) (.num y KU.none) incl = .ok ((forRange x y incl).map fun i => V.num i u) := by
  simp [evalRange]

theorem evalRange_same_unit (x y : Int) (u : KU) (incl : Bool) :
    evalRange (.num x u) (.num y u) incl = .ok ((forRange x y incl).map fun i => V.num i u) := by
  unfold evalRange
  by_cases hu : u = KU.none
  · simp [hu]
  · simp [hu, convertInt]

/-- a compatible unit on `b` is converted with the CSS ratio: 8mm through 1cm is 8mm 9mm 10mm;
a bound that is not an integer after conversion, or an incompatible unit, is an error -/
example : evalRange (.num 8 .mm) (.num 1 .cm) true = .ok [.num 8 .mm, .num 9 .mm, .num 10 .mm] := by rfl
example : evalRange (.num 1 .cm) (.num 25 .mm) true = .error .notInt := by rfl
example : evalRange (.num 1 .px) (.num 3 .s) true = .error .incompatible := by rfl
example : convertInt 1 .inch .px = .ok 96 := by rfl

/-- both bounds carry a unit, the units differ, and the conversion of `to` fails (no CSS
ratio, or the converted bound is not an integer): the range is an error, no value is
visited. -/
theorem evalRange_conversion_error (x y : Int) (u v : KU) (incl : Bool) (e : Err)
    (hu : u ≠ KU.none) (hv : v ≠ KU.none) (hc : convertInt y v u = .error e) :
    evalRange (.num x u) (.num y v) incl = .error e := by
  simp [evalRange, hu, hv, hc]

/-- units of different CSS groups (or without any fixed ratio) never convert -/
theorem convertInt_incompatible (y : Int) (v u : KU) (hne : v ≠ u)
    (h : ∀ fv fu, Units.cssFactor v = some fv → Units.cssFactor u = some fu → fv.grp ≠ fu.grp) :
    convertInt y v u = .error .incompatible := by
  unfold convertInt
  rw [if_neg hne]
  cases hfv : Units.cssFactor v with
  | none => rfl
  | some fv =>
    cases hfu : Units.cssFactor u with
    | none => rfl
    | some fu =>
      have := h fv fu hfv hfu
      simp [this]

/-- a bound whose converted value is not an integer is an error (`1cm to 25mm` is 2.5cm) -/
theorem convertInt_not_integer (y : Int) (v u : KU) (fv fu : Units.CssF) (hne : v ≠ u)
    (hfv : Units.cssFactor v = some fv) (hfu : Units.cssFactor u = some fu)
    (hg : fv.grp = fu.grp) (hpv : fv.invPi = false) (hpu : fu.invPi = false)
    (hnd : (y * ((fv.num * fu.den : Nat) : Int)) % ((fv.den * fu.num : Nat) : Int) ≠ 0) :
    convertInt y v u = .error .notInt := by
  unfold convertInt
  rw [if_neg hne]
  simp only [hfv, hfu, hg, hpv, hpu, and_self, if_true]
  rw [if_neg hnd]

theorem evalRange_not_number (a b : V) (incl : Bool)
    (h : (∀ x u, a ≠ .num x u) ∨ (∀ y v, b ≠ .num y v)) :
    evalRange a b incl = .error .notNumber := by
  unfold evalRange
  split
  · next x u y v =>
    cases h with
    | inl h => exact absurd rfl (h x u)
    | inr h => exact absurd rfl (h y v)
  · rfl

/-- the machine: a `@for` whose range is an error stops the whole program with that error —
no iteration runs and nothing after it is emitted -/
theorem for_range_error (n : Nat) (x : Nat) (a b : Expr) (incl : Bool) (body k : List Stmt) (st : St)
    (va vb : V) (e : Err) (ha : eval st.env a = .ok va) (hb : eval st.env b = .ok vb)
    (hr : evalRange va vb incl = .error e) :
    exec (n + 1) (Stmt.forr x a b incl body :: k) st = .error e := by
  simp only [exec, ha, hb, hr]

example : evalRange (.num 1 .px) (.num 3 .em) true = .error .incompatible :=
  evalRange_conversion_error 1 3 .px .em true _ (by decide) (by decide) (by rfl)

/-- the `@for` statement evaluates both bounds once and hands the values to the iteration -/
theorem for_step (n : Nat) (x : Nat) (a b : Expr) (incl : Bool) (body k : List Stmt) (st : St)
    (va vb : V) (vs : List V) (ha : eval st.env a = .ok va) (hb : eval st.env b = .ok vb)
    (hr : evalRange va vb incl = .ok vs) :
    exec (n + 1) (Stmt.forr x a b incl body :: k) st = exec n (Stmt.forNext x vs body :: k) st := by
  simp only [exec, ha, hb, hr]

/-- each iteration runs the body in a fresh sub-scope holding only the loop variable, and
leaves that scope before the next value -/
theorem forNext_step (n : Nat) (x : Nat) (v : V) (vs : List V) (body k : List Stmt) (st : St) :
    exec (n + 1) (Stmt.forNext x (v :: vs) body :: k) st
      = exec n (body ++ Stmt.pop :: Stmt.forNext x vs body :: k) { st with env := [(x, v)] :: st.env } := rfl

theorem forNext_done (n : Nat) (x : Nat) (body k : List Stmt) (st : St) :
    exec (n + 1) (Stmt.forNext x [] body :: k) st = exec n k st := rfl

/-- map entries are visited as key/value pairs (two-element space separated lists) -/
theorem items_map (kv : List (V × V)) :
    items (.map kv) = kv.map fun e => V.list [e.1, e.2] Sep.space := rfl

theorem items_list (xs : List V) (s : Sep) : items (.list xs s) = xs := rfl

/-- `each_binds`, one variable: it is bound to the item itself (a map entry: the pair) -/
theorem each_binds_single (x : Nat) (v : V) : bindNames [x] v = [(x, v)] := rfl

/-- `each_binds`, several variables: the i-th variable is bound to the i-th item of the
element, `null` when the element has fewer items; excess items are ignored. -/
theorem bindNames_multi (names : List Nat) (v : V) (h : names.length ≠ 1) :
    bindNames names v = names.zipIdx.map fun p => (p.1, (items v).getD p.2 V.null) := by
  unfold bindNames
  split
  · simp at h
  · rfl

theorem each_binds (names : List Nat) (v : V) (h : names.length ≠ 1) (i : Nat) (hi : i < names.length) :
    (bindNames names v)[i]? = some (names[i], (items v).getD i V.null) := by
  rw [bindNames_multi names v h]
  simp [hi]

theorem each_binds_length (names : List Nat) (v : V) : (bindNames names v).length = names.length := by
  by_cases h : names.length = 1
  · match names, h with
    | [_], _ => rfl
  · rw [bindNames_multi names v h]; simp

/-- destructuring a map entry binds key and value -/
example (k v : V) : bindNames [0, 1] (V.list [k, v] Sep.space) = [(0, k), (1, v)] := rfl
/-- missing ↦ null; a scalar element is its own single item -/
example : bindNames [0, 1, 2] (V.list [V.num 1 KU.none] Sep.space) = [(0, V.num 1 KU.none), (1, V.null), (2, V.null)] := rfl
example : bindNames [0, 1] (V.str ['a']) = [(0, V.str ['a']), (1, V.null)] := rfl

/-- the `@each` statement: the items of the value, in order -/
theorem each_step (n : Nat) (names : List Nat) (e : Expr) (body k : List Stmt) (st : St) (v : V)
    (he : eval st.env e = .ok v) :
    exec (n + 1) (Stmt.each names e body :: k) st
      = exec n (Stmt.eachNext names (items v) body :: k) st := by
  simp only [exec, he]

/-- each round runs the body in a fresh sub-scope holding the destructured variables, and
leaves it before the next item (so the variables are local to the loop) -/
theorem eachNext_step (n : Nat) (names : List Nat) (v : V) (vs : List V) (body k : List Stmt) (st : St) :
    exec (n + 1) (Stmt.eachNext names (v :: vs) body :: k) st
      = exec n (body ++ Stmt.pop :: Stmt.eachNext names vs body :: k)
          { st with env := Env.defineAll ([] :: st.env) (bindNames names v) } := rfl

theorem eachNext_done (n : Nat) (names : List Nat) (body k : List Stmt) (st : St) :
    exec (n + 1) (Stmt.eachNext names [] body :: k) st = exec n k st := rfl

/-- an assignment inside a loop body updates the variable of the enclosing scope that
declares it (it is still there after the loop's scope is left) -/
example : run 50 [Stmt.assign 0 (.lit (.num 0 KU.none)),
      Stmt.forr 1 (.lit (.num 1 KU.none)) (.lit (.num 3 KU.none)) true [Stmt.assign 0 (.add (.var 0) 2)],
      Stmt.decl 0 (.var 0)]
    = .ok [(0, .num 6 KU.none)] := by rfl

/-- the loop is `if c { body; loop }` — the body runs while the condition
is truthy and the loop ends the first time it is not. -/
theorem while_unfold (n : Nat) (c : Expr) (body k : List Stmt) (st : St) (v : V)
    (hc : eval st.env c = .ok v) :
    exec (n + 1) (Stmt.whileNext c body :: k) st
      = if truthy v then exec n (body ++ Stmt.whileNext c body :: k) st else exec n k st := by
  simp only [exec, hc]

/-- the `@while` statement opens one sub-scope for the whole loop and leaves it at the end -/
theorem while_step (n : Nat) (c : Expr) (body k : List Stmt) (st : St) :
    exec (n + 1) (Stmt.whil c body :: k) st
      = exec n (Stmt.whileNext c body :: Stmt.pop :: k) { st with env := [] :: st.env } := rfl

/-- a loop whose condition is falsey at the start emits nothing and changes no variable -/
theorem while_false (n : Nat) (c : Expr) (body : List Stmt) (st : St) (v : V)
    (hc : eval ([] :: st.env) c = .ok v) (hv : truthy v = false) :
    exec (n + 3) [Stmt.whil c body] st = .ok st := by
  rw [while_step, while_unfold (n + 1) c body _ _ v hc, hv]
  simp [exec]

/-- FUEL MONOTONICITY of the whole machine: a run that ends with some fuel ends in the same
state with any larger fuel (running out of fuel is the separate error `Err.fuel`, never a
result). -/
theorem exec_mono_succ : ∀ (n : Nat) (k : List Stmt) (st r : St),
    exec n k st = .ok r → exec (n + 1) k st = .ok r := by
  intro n
  induction n with
  | zero =>
    intro k st r h
    cases k with
    | nil => simpa [exec] using h
    | cons s k => simp [exec] at h
  | succ n ih =>
    intro k st r h
    cases k with
    | nil => simpa [exec] using h
    | cons s k =>
      rw [exec.eq_def] at h ⊢
      simp only at h ⊢
      cases s with
      | decl _ e | assign _ e | ifs e _ _ | each _ e _ =>
        simp only at h ⊢
        cases he : eval st.env e with
        | ok v => simp only [he] at h ⊢; exact ih _ _ _ h
        | error er => simp [he] at h
      | forr x a b incl body =>
        simp only at h ⊢
        cases ha : eval st.env a with
        | error er => simp [ha] at h
        | ok va =>
          cases hb : eval st.env b with
          | error er => simp [ha, hb] at h
          | ok vb =>
            cases hr : evalRange va vb incl with
            | error er => simp [ha, hb, hr] at h
            | ok vs => simp only [ha, hb, hr] at h ⊢; exact ih _ _ _ h
      | whil _ _ | pop => exact ih _ _ _ h
      | forNext _ vs _ | eachNext _ vs _ =>
        cases vs <;> exact ih _ _ _ h
      | whileNext c body =>
        simp only at h ⊢
        cases he : eval st.env c with
        | error er => simp [he] at h
        | ok v =>
          simp only [he] at h ⊢
          by_cases hv : truthy v = true
          · simp only [hv, if_true] at h ⊢; exact ih _ _ _ h
          · simp only [hv] at h ⊢; exact ih _ _ _ h

theorem exec_mono (n m : Nat) (k : List Stmt) (st r : St) (hnm : n ≤ m)
    (h : exec n k st = .ok r) : exec m k st = .ok r := by
  induction hnm with
  | refl => exact h
  | step _ ih => exact exec_mono_succ _ _ _ _ ih

/-- hence the result of a program does not depend on the fuel, once there is enough -/
theorem run_fuel_independent (n m : Nat) (prog : List Stmt) (o1 o2 : List (Nat × V))
    (h1 : run n prog = .ok o1) (h2 : run m prog = .ok o2) : o1 = o2 := by
  unfold run at h1 h2
  cases e1 : exec n prog ⟨[[]], []⟩ with
  | error e => simp [e1] at h1
  | ok s1 =>
    cases e2 : exec m prog ⟨[[]], []⟩ with
    | error e => simp [e2] at h2
    | ok s2 =>
      simp only [e1, e2, Except.ok.injEq] at h1 h2
      have hs : s1 = s2 := by
        rcases Nat.le_total n m with hle | hle
        · exact Except.ok.inj ((exec_mono n m prog _ _ hle e1).symm.trans e2)
        · exact (Except.ok.inj ((exec_mono m n prog _ _ hle e2).symm.trans e1)).symm
      rw [← h1, ← h2, hs]

/-- a complete loop, executed: `$c: 0; @while $c < 2 { p0: inspect($c); $c: $c + 1 }` -/
example : run 50 [Stmt.assign 0 (.lit (.num 0 KU.none)),
      Stmt.whil (.lt (.var 0) 2) [Stmt.decl 0 (.var 0), Stmt.assign 0 (.add (.var 0) 1)]]
    = .ok [(0, .num 0 KU.none), (0, .num 1 KU.none)] := by rfl

/-- `@each $a, $b in (k: v)`-style destructuring, executed -/
example : run 50 [Stmt.each [0, 1] (.lit (.map [(.str ['k'], .num 1 KU.none)])) [Stmt.decl 0 (.var 0), Stmt.decl 1 (.var 1)]]
    = .ok [(0, .str ['k']), (1, .num 1 KU.none)] := by rfl

end C17
