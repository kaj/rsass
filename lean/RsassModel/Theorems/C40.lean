/-
C40 — The command-line tool mirrors the library.
Theorems about the model of `rsass-cli/src/main.rs` in `RsassModel/Glue/Cli.lean`; the
library call per input is a parameter, so they hold for whatever the library does.
-/
import RsassModel.Glue.CliLemmas
namespace C40
open GlueE

abbrev Lib := List Text → Format → Text → Except Text Text

/-- concatenation of the outputs of the inputs that compile, up to the first failure -/
def outsUntilFail (compile : Text → Except Text Text) : List Text → Text
  | [] => []
  | f :: rest =>
    match compile f with
    | .ok css => css ++ outsUntilFail compile rest
    | .error _ => []

theorem outsUntilFail_cons (compile : Text → Except Text Text) (f : Text) (rest : List Text) :
    outsUntilFail compile (f :: rest) =
      match compile f with
      | .ok css => css ++ outsUntilFail compile rest
      | .error _ => [] := rfl

/-- the loop in general: stdout is the accumulated prefix plus the outputs up to the first
failing input -/
theorem runLoop_stdout (compile : Text → Except Text Text) (files : List Text) (acc : Text) :
    (runLoop compile files acc).stdout = acc ++ outsUntilFail compile files := by
  induction files generalizing acc with
  | nil => simp [runLoop, outsUntilFail]
  | cons f rest ih =>
    rw [runLoop_cons, outsUntilFail_cons]
    cases compile f with
    | ok css => simp [ih]
    | error e => simp

theorem runLoop_all_ok (compile : Text → Except Text Text) (files : List Text) (acc : Text)
    (outs : List Text) (h : files.map compile = outs.map Except.ok) :
    runLoop compile files acc = ⟨acc ++ outs.flatten, [], 0⟩ := by
  induction files generalizing acc outs with
  | nil =>
    cases outs with
    | nil => simp [runLoop]
    | cons _ _ => simp at h
  | cons f rest ih =>
    cases outs with
    | nil => simp at h
    | cons o os =>
      simp only [List.map_cons, List.cons.injEq] at h
      rw [runLoop_cons, h.1]
      dsimp only
      rw [ih (acc ++ o) os h.2]
      simp

/-- **All inputs compile**: stdout is the concatenation of the library's outputs in input
order, stderr is empty, exit status 0. -/
theorem cli_all_ok (lib : Lib) (argv : List Text) (a : CliArgs) (outs : List Text)
    (hp : parseArgs argv = some a)
    (h : a.inputs.map (cliCompile lib a) = outs.map Except.ok) :
    runCli lib argv = ⟨outs.flatten, [], 0⟩ := by
  simp [runCli, hp, runLoop_all_ok _ _ _ _ h]

example : ∃ (lib : Lib) (a : CliArgs) (outs : List Text),
    parseArgs [['a']] = some a ∧ a.inputs.map (cliCompile lib a) = outs.map Except.ok :=
  ⟨fun _ _ f => .ok f, { inputs := [['a']] }, [['a']], by decide, rfl⟩

theorem runLoop_any_fail (compile : Text → Except Text Text) (files : List Text) (acc : Text)
    (h : ∃ f ∈ files, ∃ e, compile f = .error e) :
    ∃ e, (runLoop compile files acc).exit = 1 ∧
      (runLoop compile files acc).stderr = ['E', 'r', 'r', 'o', 'r', ':', ' '] ++ e ++ ['\n'] ∧
      ∃ f ∈ files, compile f = .error e := by
  rcases runLoop_exit compile files acc with ⟨-, -, hall⟩ | ⟨f, hf, e, he, h1, h2⟩
  · obtain ⟨g, hg, e, he⟩ := h
    obtain ⟨css, hc⟩ := hall g hg
    exact nomatch hc.symm.trans he
  · exact ⟨e, h1, h2, f, hf, he⟩

/-- **Some input fails**: exit status non-zero, stderr is `Error: ` + the library's error text
of the first failing input, stdout holds exactly the outputs of the inputs before it. -/
theorem cli_any_fail (lib : Lib) (argv : List Text) (a : CliArgs)
    (hp : parseArgs argv = some a)
    (h : ∃ f ∈ a.inputs, ∃ e, cliCompile lib a f = .error e) :
    (runCli lib argv).exit ≠ 0 ∧
      ['E', 'r', 'r', 'o', 'r', ':'].isPrefixOf (runCli lib argv).stderr = true ∧
      (runCli lib argv).stdout = outsUntilFail (cliCompile lib a) a.inputs := by
  obtain ⟨e, h1, h2, _⟩ := runLoop_any_fail (cliCompile lib a) a.inputs [] h
  unfold runCli
  rw [hp]
  exact ⟨h1 ▸ Nat.one_ne_zero, h2 ▸ rfl,
    (runLoop_stdout (cliCompile lib a) a.inputs []).trans (List.nil_append _)⟩

example : ∃ (lib : Lib) (a : CliArgs), parseArgs [['a'], ['b']] = some a ∧
    ∃ f ∈ a.inputs, ∃ e, cliCompile lib a f = .error e :=
  ⟨fun _ _ f => if f = ['b'] then .error ['x'] else .ok f, { inputs := [['a'], ['b']] },
    by decide, ['b'], by simp, ['x'], by simp [cliCompile]⟩

/-- exit status 0 exactly when every input compiled -/
theorem cli_exit_zero_iff (lib : Lib) (argv : List Text) (a : CliArgs) (hp : parseArgs argv = some a) :
    (runCli lib argv).exit = 0 ↔ ∀ f ∈ a.inputs, ∃ css, cliCompile lib a f = .ok css := by
  unfold runCli
  rw [hp]
  rcases runLoop_exit (cliCompile lib a) a.inputs [] with ⟨h0, -, hall⟩ | ⟨f, hf, e, he, h1, -⟩
  · exact iff_of_true h0 hall
  · refine iff_of_false (h1 ▸ Nat.one_ne_zero) fun hall => ?_
    obtain ⟨css, hc⟩ := hall f hf
    exact nomatch hc.symm.trans he

/-- **Format pass-through**: every input is compiled by the library with exactly the style and
precision given on the command line (defaults: expanded, 5) … -/
theorem cli_format_passthrough (lib : Lib) (a : CliArgs) (f : Text) :
    cliCompile lib a f = lib (parentDir f :: a.loadPath.toList) ⟨a.style.getD false, a.precision.getD 5⟩ f :=
  rfl

/-- … and the parser hands the options through unchanged: the three long spellings, each with
its value as the next argument, in this one order (`n`, `lp`, `f` arbitrary).  The fuel starts at
`argv.length + 1 = 8`; each option uses one unit for its two arguments, hence 7, 6, 5, then 4 for
the input. -/
theorem parse_long_forms (ds lp f : Text) (n : Nat) (hn : natOfDigits ds = some n)
    (hlp : lp.head? ≠ some '-') (hf : f.head? ≠ some '-') (hds : ds.head? ≠ some '-') :
    parseArgs [['-', '-', 'p', 'r', 'e', 'c', 'i', 's', 'i', 'o', 'n'], ds,
               ['-', '-', 's', 't', 'y', 'l', 'e'], ['c', 'o', 'm', 'p', 'r', 'e', 's', 's', 'e', 'd'],
               ['-', '-', 'l', 'o', 'a', 'd', '-', 'p', 'a', 't', 'h'], lp, f]
      = some { precision := some n, style := some true, loadPath := some lp, inputs := [f] } := by
  have h1 : setOpt {} .precision ds = some { precision := some n } := by
    rw [setOpt, hn]
    rfl
  exact (parseLoop_long .precision 7 ds _ hds h1).trans
    ((parseLoop_long .style 6 _ _ (by decide) rfl).trans
      ((parseLoop_long .loadPath 5 lp _ hlp rfl).trans (parseLoop_input 4 f [] _ hf)))

/-- no options: expanded style, precision 5 -/
theorem parse_defaults (f : Text) (hf : f.head? ≠ some '-') :
    (parseArgs [f]).map CliArgs.format = some ⟨false, 5⟩ :=
  congrArg (Option.map CliArgs.format) (parseLoop_input 1 f [] {} hf)

/-- a repeated option is a usage error (clap: "cannot be used multiple times") -/
theorem parse_duplicate_rejected (a : CliArgs) (o : Opt) (v : Text)
    (h : match o with
      | .precision => a.precision.isSome
      | .style => a.style.isSome
      | .loadPath => a.loadPath.isSome) : setOpt a o v = none := by
  cases o <;> simp_all [setOpt]

/-- usage errors: nothing on stdout, exit status 2 -/
theorem cli_usage_error (lib : Lib) (argv : List Text) (hp : parseArgs argv = none) :
    (runCli lib argv).stdout = [] ∧ (runCli lib argv).exit = 2 := by
  simp [runCli, hp]

/-- **Load order**: a url is looked up in the input file's directory first and in
`--load-path` second. -/
theorem cli_load_order (fs : Text → Option Text) (a : CliArgs) (file url : Text) :
    fsFind fs (cliPaths a file) url =
      match fs (joinPath (parentDir file) url) with
      | some d => some d
      | none => a.loadPath.bind fun lp => fs (joinPath lp url) := by
  unfold fsFind cliPaths
  cases h : fs (joinPath (parentDir file) url) with
  | some d => simp [List.findSome?, h]
  | none =>
    cases a.loadPath with
    | none => simp [List.findSome?, h]
    | some lp =>
      simp only [Option.toList, List.findSome?, h, Option.bind]
      cases fs (joinPath lp url) <;> rfl

/-- in general: `FsLoader::find_file` returns the file of the first base directory that has it -/
theorem fsFind_first (fs : Text → Option Text) (pre post : List Text) (b url : Text) (d : Text)
    (hpre : ∀ p ∈ pre, fs (joinPath p url) = none) (hb : fs (joinPath b url) = some d) :
    fsFind fs (pre ++ b :: post) url = some d := by
  unfold fsFind
  induction pre with
  | nil => simp [hb]
  | cons p ps ih =>
    simp only [List.cons_append, List.findSome?, hpre p (by simp)]
    exact ih fun q hq => hpre q (List.mem_cons_of_mem _ hq)

/-! ### Which candidate file a load resolves to -/

/-- **Load order over candidate files (spec model)**: if any candidate of the url exists in the
input file's directory, the load resolves to a file in that directory — whatever `--load-path`
holds. -/
theorem cli_load_prefers_input_dir (fs : Text → Bool) (a : CliArgs) (file : Text) (names : List Text)
    (h : ∃ n ∈ names, fs (joinPath (parentDir file) n) = true) :
    ∃ n ∈ names, resolveLoad cliSpec fs (cliPaths a file) names = some (joinPath (parentDir file) n) := by
  have hsome : (firstIn fs names (parentDir file)).isSome = true := by
    obtain ⟨n, hn, hfs⟩ := h
    simp only [firstIn, List.findSome?_isSome_iff]
    exact ⟨n, hn, by simp [inBase, hfs]⟩
  obtain ⟨r, hr⟩ := Option.isSome_iff_exists.mp hsome
  have hres : resolveLoad cliSpec fs (cliPaths a file) names = some r := by
    simp [resolveLoad, cliSpec, cliPaths, hr]
  obtain ⟨n, hn, hin⟩ := List.exists_of_findSome?_eq_some hr
  refine ⟨n, hn, ?_⟩
  rw [hres]
  unfold inBase at hin
  split at hin <;> simp_all

/-- … and otherwise to the first candidate in `--load-path`. -/
theorem cli_load_falls_back_to_load_path (fs : Text → Bool) (a : CliArgs) (file : Text) (names : List Text)
    (h : ∀ n ∈ names, fs (joinPath (parentDir file) n) = false) :
    resolveLoad cliSpec fs (cliPaths a file) names = a.loadPath.bind (firstIn fs names) := by
  have hnone : firstIn fs names (parentDir file) = none := by
    simp only [firstIn, List.findSome?_eq_none_iff]
    intro n hn
    simp [inBase, h n hn]
  cases hl : a.loadPath with
  | none => simp [resolveLoad, cliSpec, cliPaths, hl, hnone]
  | some lp =>
    simp only [resolveLoad, cliSpec, cliPaths, hl, Option.toList, List.findSome?_cons, hnone,
      List.findSome?_nil, Option.bind]
    cases firstIn fs names lp <;> simp

/-- **As-is model (name-major loops), partial**: it agrees with the specification whenever the
load path holds no candidate of the url, or the input's directory holds none. -/
theorem cli_load_order_partial (fs : Text → Bool) (a : CliArgs) (file : Text) (names : List Text)
    (h : (∀ lp ∈ a.loadPath, ∀ n ∈ names, fs (joinPath lp n) = false) ∨
         (∀ n ∈ names, fs (joinPath (parentDir file) n) = false)) :
    resolveLoad cliAsIs fs (cliPaths a file) names = resolveLoad cliSpec fs (cliPaths a file) names := by
  simp only [resolveLoad, cliAsIs, cliSpec, cliPaths, reduceIte, Bool.false_eq_true]
  cases hl : a.loadPath with
  | none => exact nameMajor_single fs (parentDir file) names
  | some lp =>
    rcases h with h | h
    · exact nameMajor_second_none fs _ lp names fun n hn => by
        simp [inBase, h lp (by simp [hl]) n hn]
    · exact nameMajor_first_none fs _ lp names fun n hn => by simp [inBase, h n hn]

example : ∃ (fs : Text → Bool) (a : CliArgs) (file : Text) (names : List Text),
    (∀ lp ∈ a.loadPath, ∀ n ∈ names, fs (joinPath lp n) = false) ∧
    (∃ n ∈ names, fs (joinPath (parentDir file) n) = true) :=
  ⟨fun p => p = ['d', '/', 'x'], { loadPath := some ['l'] }, ['d', '/', 'i'], [['x']], by decide, by decide⟩

/-- **Refutation for the as-is model**: `_dep.scss` next to the input and `dep.scss` in the load
path — `@use "dep"` takes the one from the load path. -/
theorem cli_load_order_refuted :
    let fs : Text → Bool := fun p => p = "d/_dep.scss".toList ∨ p = "lp/dep.scss".toList
    let a : CliArgs := { loadPath := some "lp".toList }
    resolveLoad cliAsIs fs (cliPaths a "d/in.scss".toList) (candidates false "dep".toList) = some "lp/dep.scss".toList ∧
    resolveLoad cliSpec fs (cliPaths a "d/in.scss".toList) (candidates false "dep".toList) = some "d/_dep.scss".toList := by
  decide +kernel

end C40
