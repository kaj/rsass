/-
C37 — @use/@forward configuration and visibility rules (partial: the modelled mechanism is
the scope/module layer of `variablescope.rs` and the `with` loops of `output/transform.rs`;
values are abstract, the evaluator around it is tied by the correspondence run only).

`modSpec` is what the property demands.  `modAsIs` is the code the checks were written against;
every deviation it records has been repaired since (notes/C37.md).  "As is" below means that
record.
-/
import RsassModel.Mod.Lemmas
namespace C37
open Mod

/-- **`with` names only `!default` variables (spec model)**: a successful configuration mentions
only variables the module declares with `!default`. -/
theorem with_sets_only_default_vars (withs : List (Name × Nat)) (decls : List Decl) (ms : Members)
    (h : configure false withs decls = .ok ms) : ∀ w ∈ withs, declares decls w.1 = true := by
  unfold configure at h
  split at h
  · cases h
  · split at h
    · cases h
    · next hc =>
      intro w hw
      simp only [Bool.not_false, true_and, List.any_eq_true, not_exists, not_and, Bool.not_eq_true',
        Bool.not_eq_false] at hc
      simpa using hc w hw

/-- … the configured value is what a variable declared only with `!default` ends up with … -/
theorem with_value_reaches_default_var (acceptUnknown : Bool) (withs : List (Name × Nat))
    (decls : List Decl) (ms pre : Members) (n : Name) (v : Nat)
    (hpre : preload withs [] = .ok pre) (hv : lookup pre .var n = some v)
    (hall : ∀ d ∈ decls, d.kind = .var → d.name = n → d.dflt = true)
    (h : configure acceptUnknown withs decls = .ok ms) : lookup ms .var n = some v := by
  unfold configure at h
  rw [hpre] at h
  simp only at h
  split at h
  · cases h
  · cases h; exact runDecls_default_keeps decls pre n v hall hv

/-- … and a variable whose (last) declaration is not `!default` keeps the module's own value:
configuration never overrides it. -/
theorem with_does_not_override_plain_var (d : Decl) (rest : List Decl) (acc : Members)
    (hk : d.kind = .var) (hd : d.dflt = false)
    (hno : ∀ d' ∈ rest, ¬(d'.kind = .var ∧ d'.name = d.name)) :
    lookup (runDecls (d :: rest) acc) .var d.name = some d.val := by
  simp only [runDecls, hd, Bool.false_eq_true, false_and, and_false, ↓reduceIte]
  rw [runDecls_untouched rest _ .var d.name hno]
  simp [lookup_insert, hk]

/-- **Configuring an unknown variable is an error (spec model).** -/
theorem with_unknown_is_error (withs : List (Name × Nat)) (decls : List Decl)
    (h : ∃ w ∈ withs, declares decls w.1 = false) : ∀ ms, configure false withs decls ≠ .ok ms := by
  intro ms hc
  obtain ⟨w, hw, hd⟩ := h
  have := with_sets_only_default_vars withs decls ms hc w hw
  rw [hd] at this; cases this

example : ∃ w ∈ [(['z', 'z'], 3)], declares [⟨.var, ['a'], 1, true⟩] w.1 = false := by decide

/-- As-is model, partial: when every configured variable is declared by the module the two
models agree. -/
theorem with_unknown_partial (withs : List (Name × Nat)) (decls : List Decl)
    (h : ∀ w ∈ withs, declares decls w.1 = true) :
    configure true withs decls = configure false withs decls := by
  unfold configure
  cases preload withs [] with
  | error e => rfl
  | ok pre =>
    have : withs.any (fun w => !declares decls w.1) = false := by
      simp only [List.any_eq_false, Bool.not_eq_true', Bool.not_eq_false]
      intro w hw; simpa using h w hw
    simp [this]

example : ∀ w ∈ [(['a'], 3)], declares [⟨.var, ['a'], 1, true⟩] w.1 = true := by decide

/-- Refutation (as-is): `@use "und" with ($zz: 3)` on a module that declares only `$a` succeeds,
and `$zz` even becomes a member of the module. -/
theorem with_unknown_refuted :
    (configure true [(['z', 'z'], 3)] [⟨.var, ['a'], 1, true⟩]).toOption.bind
      (fun ms => lookup ms .var ['z', 'z']) = some 3 := by decide

/-- **Configuring the same variable twice is an error** (both models, every module). -/
theorem configure_twice_error (acceptUnknown : Bool) (withs : List (Name × Nat)) (decls : List Decl)
    (h : ¬(withs.map Prod.fst).Nodup) : configure acceptUnknown withs decls = .error .configuredTwice := by
  unfold configure
  rw [preload_dup withs [] h]

example : ¬([(['a'], 3), (['a'], 4)].map Prod.fst).Nodup := by decide

/-- **Configuring a module that was already loaded is an error (spec model)** … -/
theorem reconfigure_is_error (first again : List (Name × Nat)) (decls : List Decl) (au : Bool)
    (h : again ≠ []) : reload modSpec first again decls au = .error .alreadyLoaded := by
  cases again with
  | nil => exact absurd rfl h
  | cons a as => simp [reload, modSpec]

/-- … as is, the second configuration is dropped silently (refutation). -/
theorem reconfigure_refuted :
    (reload modAsIs [(['a'], 3)] [(['a'], 4)] [⟨.var, ['a'], 1, true⟩] true).toOption
      = some [⟨.var, ['a'], 3⟩] := by decide

theorem reconfigure_partial (first : List (Name × Nat)) (decls : List Decl) (au : Bool) :
    reload modAsIs first [] decls au = reload modSpec first [] decls au := by
  simp [reload]

/-- `@use url as name with (…)` is accepted (spec model); as is, the parser only knows the
order `with … as …` (partial + refutation). -/
theorem use_as_with_accepted (as_ : UseAs) (hasWith : Bool) : useParses modSpec as_ hasWith = true := by
  simp [useParses, modSpec]

theorem use_as_with_partial (as_ : UseAs) (hasWith : Bool) (h : as_ = .keepName ∨ hasWith = false) :
    useParses modAsIs as_ hasWith = true := by
  rcases h with rfl | rfl <;> simp [useParses]

theorem use_as_with_refuted : useParses modAsIs (.name ['q']) true = false := by decide

/-- **The namespace is the last url segment without leading underscore and extension** (spec). -/
theorem namespace_spec (dir base ext : Name)
    (hb : ∀ c ∈ base, c ≠ '/' ∧ c ≠ ':' ∧ c ≠ '.') (he : ∀ c ∈ ext, c ≠ '/' ∧ c ≠ ':') :
    namespaceOf modSpec (dir ++ '/' :: '_' :: base ++ '.' :: ext) = norm base := by
  have hseg : lastSegment (dir ++ '/' :: ('_' :: base ++ '.' :: ext)) = '_' :: base ++ '.' :: ext := by
    apply lastSegment_slash
    intro c hc
    simp only [List.mem_cons, List.mem_append] at hc
    rcases hc with (rfl | hc) | (rfl | hc)
    · decide
    · exact ⟨(hb c hc).1, (hb c hc).2.1⟩
    · decide
    · exact he c hc
  have hl : dir ++ '/' :: '_' :: base ++ '.' :: ext = dir ++ '/' :: ('_' :: base ++ '.' :: ext) := by simp
  unfold namespaceOf
  rw [hl, hseg]
  simp only [modSpec, Bool.false_eq_true, ↓reduceIte, List.head?_cons, List.tail_cons, List.cons_append]
  rw [List.takeWhile_append_of_pos (by intro x hx; simp [(hb x hx).2.2])]
  simp

example : namespaceOf modSpec "lib/_my_mod.import.scss".toList = "my_mod".toList := by decide
example : namespaceOf modSpec "sass:math".toList = "math".toList := by decide

/-- As-is, partial: for a last segment without `.` and without leading `_` the code is right. -/
theorem namespace_partial (url : Name) (h1 : (lastSegment url).head? ≠ some '_')
    (h2 : ∀ c ∈ lastSegment url, c ≠ '.') : namespaceOf modAsIs url = namespaceOf modSpec url := by
  unfold namespaceOf
  simp only [modAsIs, modSpec, ↓reduceIte, Bool.false_eq_true, h1]
  -- the core lemma with nothing appended: `takeWhile` of a predicate that holds throughout
  rw [show (lastSegment url).takeWhile (· ≠ '.') = lastSegment url by
    simpa using List.takeWhile_append_of_pos (l₂ := []) fun x hx => by simp [h2 x hx]]

example : (lastSegment "d/my_mod".toList).head? ≠ some '_' ∧ ∀ c ∈ lastSegment "d/my_mod".toList, c ≠ '.' := by
  decide

/-- Refutation (as-is): `@use "_m"` gets the namespace `-m`, `@use "m.scss"` the namespace `m.scss`. -/
theorem namespace_refuted :
    namespaceOf modAsIs "_m".toList = norm "-m".toList ∧ namespaceOf modSpec "_m".toList = "m".toList ∧
    namespaceOf modAsIs "m.scss".toList = "m.scss".toList ∧ namespaceOf modSpec "m.scss".toList = "m".toList := by
  decide

/-- **Members are reachable only through the namespace**: after `@use … as ns` (or the derived
name) a member of the module resolves as `ns.member`, and a bare reference sees only what the
using scope had itself. -/
theorem members_only_via_namespace (q : ModQuirks) (s s' : Scope) (url ns : Name) (m : Module)
    (k : Kind) (n : Name) (h : useModule q s url (.name ns) false m = .ok s') :
    s'.resolve (some ns) k n = (match lookup m.members k (norm n) with
        | some v => .ok v | none => .error .undefined) ∧
    s'.resolve none k n = s.resolve none k n := by
  simp only [useModule, Bool.false_eq_true, and_false, ↓reduceIte, Except.ok.injEq] at h
  subst h
  constructor
  · simp only [Scope.resolve, Scope.getModule, List.find?_cons, decide_true, Option.map_some]
    cases lookup m.members k (norm n) <;> rfl
  · simp [Scope.resolve]

/-- the same for the derived namespace.  `hnorm` always holds: `namespaceOf` returns a `norm`,
and `norm` is idempotent (`norm_norm`). -/
theorem members_via_derived_namespace (q : ModQuirks) (s s' : Scope) (url : Name) (m : Module)
    (k : Kind) (n : Name) (h : useModule q s url .keepName false m = .ok s')
    (hnorm : norm (namespaceOf q url) = namespaceOf q url) :
    s'.resolve (some (namespaceOf q url)) k n = (match lookup m.members k (norm n) with
        | some v => .ok v | none => .error .undefined) ∧
    s'.resolve none k n = s.resolve none k n :=
  members_only_via_namespace q s s' url _ m k n (by simpa [useModule, hnorm] using h)

/-- **`as *` merges the members into the current scope**: a bare reference finds the module's
member, and otherwise what the scope had before; no namespace is created. -/
theorem as_star_merges (q : ModQuirks) (s s' : Scope) (url : Name) (m : Module) (k : Kind) (n : Name)
    (h : useModule q s url .star false m = .ok s') :
    s'.resolve none k n = (match lookup m.members k (norm n) with
        | some v => .ok v
        | none => s.resolve none k n) ∧ s'.modules = s.modules := by
  simp only [useModule, Bool.false_eq_true, and_false, ↓reduceIte, Except.ok.injEq] at h
  subst h
  simp only [Scope.resolve, lookup_exposeStar, and_true]
  cases lookup m.members k (norm n) <;> rfl

/-- **@forward filters and renames exactly the listed members (spec model)**: a member is
visible downstream iff it is a member of the module, renamed with the prefix, whose *new* name
passes the filter (variables against the `$` names, functions and mixins against the others). -/
theorem forward_show_hide_prefix_exact (p : Name) (e : Expose) (m : Members) (x' : Member) :
    x' ∈ forwardMembers modSpec (some p) e m ↔
      ∃ x ∈ m, e.allows x.kind (norm p ++ x.name) = true ∧ x' = { x with name := norm p ++ x.name } := by
  simp only [forwardMembers, prefixAllows, modSpec, Bool.false_eq_true, ↓reduceIte, List.mem_map,
    List.mem_filter]
  constructor
  · rintro ⟨x, ⟨hx, ha⟩, rfl⟩; exact ⟨x, hx, ha, rfl⟩
  · rintro ⟨x, hx, ha, rfl⟩; exact ⟨x, ⟨hx, ha⟩, rfl⟩

theorem forward_show_hide_exact (q : ModQuirks) (e : Expose) (m : Members) (x : Member) :
    x ∈ forwardMembers q none e m ↔ x ∈ m ∧ e.allows x.kind x.name = true := by
  simp [forwardMembers, List.mem_filter]

/-- As-is, partial: without a filter the prefix branch is right. -/
theorem forward_prefix_partial (p : Name) (m : Members) :
    forwardMembers modAsIs (some p) .all m = forwardMembers modSpec (some p) .all m := by
  simp only [forwardMembers, prefixAllows, modAsIs, modSpec, ↓reduceIte, Bool.false_eq_true]
  congr 1
  apply List.filter_congr
  intro x _
  cases x.kind <;> rfl

/-- Refutation (as-is): `@forward "m" as p-* show p-f` hides the function `p-f`
(its name is looked up among the variables). -/
theorem forward_prefix_refuted :
    forwardMembers modAsIs (some ['p', '-']) (.show_ [['p', '_', 'f']] []) [⟨.fn, ['f'], 1⟩] = [] ∧
    forwardMembers modSpec (some ['p', '-']) (.show_ [['p', '_', 'f']] []) [⟨.fn, ['f'], 1⟩]
      = [⟨.fn, ['p', '_', 'f'], 1⟩] := by decide

/-- **Built-in modules cannot be configured.** -/
theorem builtin_not_configurable (q : ModQuirks) (s : Scope) (url : Name) (as_ : UseAs) (m : Module)
    (hb : m.builtin = true) : useModule q s url as_ true m = .error .configBuiltin := by
  simp [useModule, hb]

/-- **Built-in modules cannot be assigned to**: `ns.$x: v` on a built-in module is an error for
every name and value, and nothing changes. -/
theorem builtin_not_assignable (s : Scope) (ns n : Name) (v : Nat) (m : Module)
    (hm : s.getModule ns = some m) (hb : m.builtin = true) :
    s.assign ns n v = .error .modifiedBuiltin ∨ s.assign ns n v = .error .undefined := by
  unfold Scope.assign
  simp only [hm]
  cases lookup m.members .var (norm n) with
  | none => right; rfl
  | some _ => left; simp [hb]

/-- **… through every indirection (spec model)**: a built-in module seen through
`@forward "sass:…"` — plain, prefixed, with show or hide — is still marked built-in (the marker is
what `builtin_not_assignable` / `builtin_not_configurable` ask for; the composition is not
stated as a theorem). -/
theorem builtin_through_forward (pre : Option Name) (e : Expose) : markerSurvives modSpec pre e = true := by
  simp [markerSurvives, modSpec]

/-- as is: only without prefix and when the filter lets the marker variable through, i.e. not with
`show` (partial + refutations) -/
theorem builtin_through_forward_partial (e : Expose)
    (h : e.allowVar ['@', 's', 'c', 'o', 'p', 'e', '_', 'n', 'a', 'm', 'e', '@'] = true) :
    markerSurvives modAsIs none e = true := by
  simp [markerSurvives, modAsIs, h]

example : (Expose.hide [['f']] [['e']]).allowVar ['@', 's', 'c', 'o', 'p', 'e', '_', 'n', 'a', 'm', 'e', '@'] = true := by
  decide

theorem builtin_through_forward_refuted :
    markerSurvives modAsIs (some ['p', '-']) .all = false ∧
    markerSurvives modAsIs none (.show_ [] [['p', 'i']]) = false := by decide

/-- assignment through a namespace cannot create a variable -/
theorem assign_needs_existing (s : Scope) (ns n : Name) (v : Nat) (m : Module)
    (hm : s.getModule ns = some m) (hn : lookup m.members .var (norm n) = none) :
    s.assign ns n v = .error .undefined := by
  unfold Scope.assign
  simp only [hm, hn]

/-- **Nested @forward, both with a prefix (spec model)**: seen through `@forward "f" as p2* e2` of a
file that itself has `@forward "m" as p1* e1`, a member is visible iff it is a member of `m`
whose name passes `e1` with the first prefix and `e2` with both, renamed `p2 ++ p1 ++ name` —
for all three member kinds. -/
theorem forward_nested_prefix_exact (p1 p2 : Name) (e1 e2 : Expose) (m : Members) (x'' : Member) :
    x'' ∈ forwardMembers modSpec (some p2) e2 (forwardMembers modSpec (some p1) e1 m) ↔
      ∃ x ∈ m, e1.allows x.kind (norm p1 ++ x.name) = true ∧
        e2.allows x.kind (norm p2 ++ (norm p1 ++ x.name)) = true ∧
        x'' = { x with name := norm p2 ++ (norm p1 ++ x.name) } := by
  simp only [forward_show_hide_prefix_exact]
  constructor
  · rintro ⟨_, ⟨x, hx, h1, rfl⟩, h2, rfl⟩
    exact ⟨x, hx, h1, h2, rfl⟩
  · rintro ⟨x, hx, h1, h2, rfl⟩
    exact ⟨_, ⟨x, hx, h1, rfl⟩, h2, rfl⟩

/-- nested forwards without prefix (either model): both filters apply, nothing is renamed -/
theorem forward_nested_exact (q : ModQuirks) (e1 e2 : Expose) (m : Members) (x : Member) :
    x ∈ forwardMembers q none e2 (forwardMembers q none e1 m) ↔
      x ∈ m ∧ e1.allows x.kind x.name = true ∧ e2.allows x.kind x.name = true := by
  rw [forward_show_hide_exact, forward_show_hide_exact]
  exact and_assoc

/-- a prefix on the outer forward only: the inner filter sees the plain name, the outer one the
prefixed name -/
theorem forward_nested_outer_prefix_exact (p2 : Name) (e1 e2 : Expose) (m : Members) (x'' : Member) :
    x'' ∈ forwardMembers modSpec (some p2) e2 (forwardMembers modSpec none e1 m) ↔
      ∃ x ∈ m, e1.allows x.kind x.name = true ∧ e2.allows x.kind (norm p2 ++ x.name) = true ∧
        x'' = { x with name := norm p2 ++ x.name } := by
  simp only [forward_show_hide_prefix_exact, forward_show_hide_exact, and_assoc]

/-- **A prefixed forward renames**: through `@forward "m" as p*` (no filter) the member `name` of
`m` is found as `p ++ name` — for variables, functions and mixins alike. -/
theorem lookup_through_prefix (p : Name) (m : Members) (k : Kind) (n : Name) :
    lookup (forwardMembers modSpec (some p) .all m) k (norm p ++ n) = lookup m k n := by
  have hm : forwardMembers modSpec (some p) .all m = m.map fun x => { x with name := norm p ++ x.name } := by
    simp only [forwardMembers, prefixAllows, modSpec, Bool.false_eq_true, ↓reduceIte]
    congr 1
    apply List.filter_eq_self.mpr
    intro x _; cases x.kind <;> rfl
  rw [hm]
  clear hm
  induction m with
  | nil => rfl
  | cons x xs ih =>
    simp only [List.map_cons, lookup_cons, ih]
    by_cases h : x.kind = k ∧ x.name = n
    · simp [h]
    · simp [h]

/-- … and together with `members_only_via_namespace`: `@use "f" as ns` of such a forwarder makes
the member reachable as `ns.(p ++ name)` and only so -/
theorem forwarded_member_via_namespace (q : ModQuirks) (s s' : Scope) (url ns p : Name) (m : Members)
    (k : Kind) (n : Name) (hn : norm n = n)
    (h : useModule q s url (.name ns) false ⟨forwardMembers modSpec (some p) .all m, false⟩ = .ok s') :
    s'.resolve (some ns) k (norm p ++ n) = (match lookup m k n with
        | some v => .ok v | none => .error .undefined) := by
  have hnorm : norm (norm p ++ n) = norm p ++ n := by
    have hpp := norm_norm p
    simp only [norm, List.map_append] at hpp hn ⊢
    rw [hpp, hn]
  have := (members_only_via_namespace q s s' url ns ⟨forwardMembers modSpec (some p) .all m, false⟩ k
    (norm p ++ n) h).1
  rw [this, hnorm, lookup_through_prefix]

end C37
