/-
C06 — unique-id() is unique and random() stays in range.

Model: `RsassModel/Glue/Uid.lean` (string.rs `unique_id`, math.rs `random`,
functions/mod.rs `check::{int,positive_int}`, number.rs `into_integer`).
External behaviour as explicit parameters/hypotheses (DESIGN 4.5):
  * `Mutex` atomicity: a concurrent execution is a *schedule*, the total order in which
    the threads acquire `CALL_ID`'s lock (`runSched`);
  * `fastrand`: `rng bound ∈ [0, bound)`, unit draw `a / b` with `a < b`.
-/
import RsassModel.Glue.UidLemmas
namespace C06
open Glue.Uid

/-! ## identifiers -/

/-- `format!("{v:x}")` of two different `u64` values differs (the digits read back). -/
theorem hex_injective (a b : Nat) (h : toHex a = toHex b) : a = b := toHex_injective h

/-- … and so does the whole identifier `x` + digits. -/
theorem uid_text_injective (a b : Nat) (h : idText a = idText b) : a = b := idText_injective h

/-- Every identifier has the shape `x[0-9a-f]+` … -/
theorem uid_is_xhex (v : Nat) : isXHex (idText v) = true := by
  have hne := toHex_ne_nil v
  have hall := toHex_all_lower v
  unfold idText
  cases hx : toHex v with
  | nil => exact absurd hx hne
  | cons d r =>
    rw [hx] at hall
    simpa [isXHex] using hall

/-- … and hence is a valid CSS identifier (ident-token grammar), for every counter value. -/
theorem uid_is_ident (v : Nat) : isCssIdent (idText v) = true := by
  have hall := toHex_all_lower v
  unfold idText
  have hx : isNmStart 'x' = true := by decide
  have : (toHex v).all isNmChar = true := by
    rw [List.all_eq_true] at hall ⊢
    exact fun c hc => isLowerHex_nmChar c (hall c hc)
  unfold isCssIdent
  split
  · rename_i heq; exact absurd (List.cons.inj heq).1 (by decide)
  · rename_i heq; exact absurd (List.cons.inj heq).1 (by decide)
  · rename_i c r _ _ heq
    obtain ⟨rfl, rfl⟩ := List.cons.inj heq
    simp [hx, this]
  · rename_i heq; exact absurd heq (by simp)

/-! ## sequential history (one total order of lock acquisitions) -/

/-- FULL STATEMENT, any number of calls: identifiers come out strictly increasing in
the order of lock acquisition, as long as no u64 wrap happens (`NoWrap`: the build has
overflow checks, or `counter + n < 2^64`). -/
theorem uid_strictly_increasing (oc : Bool) (s : St) (n : Nat) (h : NoWrap oc s n) :
    (idsOf (run oc s n).2).Pairwise idLt := by
  obtain ⟨k, hk, -⟩ := run_ids_range oc n s h
  rw [hk]
  exact range_ids_pairwise _ k

/-- … hence pairwise distinct. -/
theorem uid_pairwise_distinct (oc : Bool) (s : St) (n : Nat) (h : NoWrap oc s n) :
    (idsOf (run oc s n).2).Nodup :=
  (uid_strictly_increasing oc s n h).imp idLt_ne

/-- In a build with overflow checks (the profile rsass's tests and this harness use)
distinctness holds for EVERY number of calls and every state, without any bound: at
the boundary the call panics (and poisons the mutex) instead of repeating an id. -/
theorem uid_distinct_checked_build (s : St) (n : Nat) : (idsOf (run true s n).2).Nodup :=
  uid_pairwise_distinct true s n (Or.inl rfl)

/-- Below the wrap bound the identifiers are exactly `counter+1 … counter+n`, in order,
and no call fails.  (This is what the correspondence run compares with.) -/
theorem uid_contiguous (oc : Bool) (c n : Nat) (h : c + n < two64) :
    (run oc ⟨c, false⟩ n).2 = (List.range' (c + 1) n).map (fun v => Outcome.id (idText v)) := by
  rw [run_contiguous oc n c h]

theorem uid_contiguous_ids (oc : Bool) (c n : Nat) (h : c + n < two64) :
    idsOf (run oc ⟨c, false⟩ n).2 = (List.range' (c + 1) n).map idText := by
  obtain ⟨k, hk, hkn⟩ := run_ids_range oc n ⟨c, false⟩ (.inr h)
  rw [hk, hkn rfl h]

/-- The first call in a process with id `pid` returns `x` + hex(pid·0xa01 + 1): `0xa01` is the
factor in `CALL_ID`'s initialiser, `4294967296 = 2^32` bounds a `u32` pid. -/
theorem uid_first_call (oc : Bool) (pid : Nat) (h : pid < 4294967296) :
    (step oc ⟨initCounter pid, false⟩).2 = .id (idText (pid * 0xa01 + 1)) := by
  have : pid * 0xa01 + 1 < two64 := by
    unfold two64
    omega
  simp [step, initCounter, this]

/-- From the initial state the wrap bound is out of reach: `2^32 · 0xa01 + 2^63 < 2^64`, so
`9223372036854775808 = 2^63` calls do not wrap. -/
theorem init_no_wrap (oc : Bool) (pid n : Nat) (h : pid < 4294967296) (hn : n ≤ 9223372036854775808) :
    NoWrap oc ⟨initCounter pid, false⟩ n := by
  right
  show initCounter pid + n < two64
  unfold initCounter two64
  omega

example : NoWrap false ⟨initCounter 4194304, false⟩ 1600000 :=
  init_no_wrap false _ _ (by decide) (by decide)

/-! ## concurrent histories: every schedule -/

/-- The identifiers handed out do not depend on WHICH thread acquires the lock when —
only on how many acquisitions there were. -/
theorem sched_same_ids (oc : Bool) (s : St) (sched : List Nat) :
    (runSched oc s sched).2.map (·.2) = (run oc s sched.length).2 :=
  (runSched_eq_run oc sched s).2

/-- FULL STATEMENT over schedules: for every interleaving of any number of threads,
all identifiers returned in the process are pairwise distinct (no wrap). -/
theorem uid_concurrent_distinct (oc : Bool) (s : St) (sched : List Nat)
    (h : NoWrap oc s sched.length) :
    (idsOf ((runSched oc s sched).2.map (·.2))).Nodup := by
  rw [sched_same_ids]; exact uid_pairwise_distinct oc s _ h

/-- For every interleaving the set of identifiers is the contiguous range (no lost
update is possible in the model; the correspondence run checks this on the real code). -/
theorem uid_concurrent_contiguous (oc : Bool) (c : Nat) (sched : List Nat)
    (h : c + sched.length < two64) :
    idsOf ((runSched oc ⟨c, false⟩ sched).2.map (·.2)) =
      (List.range' (c + 1) sched.length).map idText := by
  rw [sched_same_ids]; exact uid_contiguous_ids oc c _ h

/-- Each thread sees its own identifiers strictly increasing. -/
theorem uid_thread_monotone (oc : Bool) (s : St) (sched : List Nat) (t : Nat)
    (h : NoWrap oc s sched.length) :
    (idsOf (threadView t (runSched oc s sched).2)).Pairwise idLt := by
  have hs := threadView_sublist t (runSched oc s sched).2
  rw [sched_same_ids] at hs
  exact (uid_strictly_increasing oc s _ h).sublist hs

/-- The bound is needed for release builds (no overflow checks): the one call made at counter
`2^64 - 1` wraps and returns `x0`, smaller than every identifier issued before it. -/
theorem uid_release_wrap_not_increasing :
    (run false ⟨two64 - 1, false⟩ 1) = (⟨0, false⟩, [.id ['x', '0']]) := by
  simp [run, step, two64, idText, toHex, hexRev, hexChar]

/-! ## random -/

/-- Contract assumed of `fastrand::i64(0..bound)`. -/
def RngOk (rng : Int → Int) : Prop := ∀ b, 0 < b → 0 ≤ rng b ∧ rng b < b

example : RngOk (fun b => b - 1) := fun b hb => by
  show 0 ≤ b - 1 ∧ b - 1 < b
  constructor <;> omega

/-- `random($limit)`: whenever a number comes back it is an integer in `[1, bound]`
where `bound` is the integer the limit was accepted as — for both the spec and the
as-is tolerance, every limit and every generator meeting its contract. -/
theorem random_int_range (q : RandQuirks) (u : Nat × Nat) (rng : Int → Int) (l : Limit) (v : Int)
    (hr : RngOk rng) (h : random q u rng l = .ok (.int v)) :
    ∃ bound, positiveInt q l = .ok bound ∧ 1 ≤ v ∧ v ≤ bound := by
  obtain ⟨bound, hb, rfl⟩ := random_int h
  have := hr bound (positiveInt_pos hb)
  exact ⟨bound, hb, by omega, by omega⟩

theorem intoInteger_exact (q : RandQuirks) (n : Int) (h1 : i64Min ≤ n) (h2 : n < i64Max) :
    intoInteger q n 1 = some n := by
  have hr : roundHalfAway n 1 = n := by
    unfold roundHalfAway
    split <;> omega
  have hs : satI64 n = n := by
    unfold satI64 i64Max i64Min at *
    split
    · omega
    · split
      · omega
      · rfl
  have hb : backToF64 n = n := by
    unfold backToF64
    split
    · omega
    · rfl
  unfold intoInteger
  simp only [hr, hs, hb]
  cases q.intTolF32Eps <;> simp

/-- FULL STATEMENT for integer limits (the property's quantifier: limits 1 … 2^53, and
beyond up to i64): `random(n)` succeeds and returns an integer in `[1, n]`. Holds for the
code as it is and for the spec alike. -/
theorem random_exact_int_limit (q : RandQuirks) (u : Nat × Nat) (rng : Int → Int) (n : Int)
    (hr : RngOk rng) (hn : 0 < n) (hmax : n < i64Max) :
    ∃ v, random q u rng (.num n 1) = .ok (.int v) ∧ 1 ≤ v ∧ v ≤ n := by
  have hi := intoInteger_exact q n (by unfold i64Min; omega) hmax
  have hp : positiveInt q (.num n 1) = .ok n := by simp [positiveInt, hi, hn]
  refine ⟨rng n + 1, by simp [random, hp], ?_, ?_⟩ <;> have := hr n hn <;> omega

example : ∃ v, random randAsIs (0, 1) (fun b => b - 1) (.num 9007199254740992 1) = .ok (.int v)
    ∧ 1 ≤ v ∧ v ≤ 9007199254740992 :=
  random_exact_int_limit _ _ _ _ (fun b hb => by
    show 0 ≤ b - 1 ∧ b - 1 < b
    constructor <;> omega) (by decide) (by decide)

/-- `random()` / `random(null)`: the unit draw `a / b` is returned as is. The range part only
restates the generator's contract `a < b` (as `0 ≤ a / b < 1`, cleared of the division): the
function adds nothing to it. -/
theorem random_unit_range (q : RandQuirks) (u : Nat × Nat) (rng : Int → Int) (hu : u.1 < u.2) :
    random q u rng .null = .ok (.unit u.1 u.2) ∧ 0 ≤ u.1 ∧ u.1 < 1 * u.2 := by
  simp [random, hu]

/-- Guard: zero and negative integer limits are errors. -/
theorem random_limit_guard_nonpositive (q : RandQuirks) (u : Nat × Nat) (rng : Int → Int) (n : Int)
    (hn : n ≤ 0) (hmin : i64Min ≤ n) :
    random q u rng (.num n 1) = .error .notPositive := by
  have hi := intoInteger_exact q n hmin (by unfold i64Max; omega)
  have : ¬ n > 0 := by omega
  simp [random, positiveInt, hi, this]

/-- Guard: non-numbers, NaN and infinities are errors. -/
theorem random_limit_guard_nonnumber (q : RandQuirks) (u : Nat × Nat) (rng : Int → Int) :
    random q u rng .notNumber = .error .notNumber ∧ random q u rng .nan = .error .notInt ∧
    ∀ b, random q u rng (.inf b) = .error .notInt := by
  simp [random, positiveInt]

/-- Whatever is accepted as an integer is within the tolerance of the limit: `8388608 = 2^23`
(`f32::EPSILON = 2^-23`) for the code, `100000000000 = 10^11` (Sass's `1e-11`) for the spec;
both sides are multiplied by the denominator `d`. -/
theorem intoInteger_close (q : RandQuirks) (n : Int) (d : Nat) (i : Int)
    (h : intoInteger q n d = some i) :
    if q.intTolF32Eps then 8388608 * (backToF64 i * d - n).natAbs ≤ d
    else 100000000000 * (backToF64 i * d - n).natAbs < d := by
  unfold intoInteger at h
  simp only [] at h
  cases hq : q.intTolF32Eps <;> simp only [hq, if_true, Bool.false_eq_true, if_false] at h ⊢
  all_goals
    split at h
    · rename_i hc
      cases h
      exact hc
    · cases h

/-- Guard (spec): a limit that is not within 1e-11 of an integer is an error. -/
theorem random_limit_guard_noninteger (u : Nat × Nat) (rng : Int → Int) (n : Int) (d : Nat)
    (h : ∀ i : Int, d ≤ 100000000000 * (i * d - n).natAbs) :
    random randSpec u rng (.num n d) = .error .notInt := by
  have : intoInteger randSpec n d = none := by
    cases hi : intoInteger randSpec n d with
    | none => rfl
    | some i =>
      have hc := intoInteger_close randSpec n d i hi
      simp only [randSpec, Bool.false_eq_true, if_false] at hc
      exact absurd hc (Nat.not_lt.mpr (h (backToF64 i)))
  simp [random, positiveInt, this]

example : ∀ i : Int, (2 : Nat) ≤ 100000000000 * (i * (2 : Nat) - 5).natAbs := by
  intro i
  omega

/-- FULL STATEMENT (spec): the result never exceeds the limit by 1e-11 or more — i.e.
`result ≤ $limit` in Sass's number comparison — for every numeric limit `n / d`. -/
theorem random_spec_le_limit (u : Nat × Nat) (rng : Int → Int) (n : Int) (d : Nat) (v : Int)
    (hr : RngOk rng) (h : random randSpec u rng (.num n d) = .ok (.int v)) :
    1 ≤ v ∧ 100000000000 * (v * d - n) < d := by
  obtain ⟨i, hb, h1, h2⟩ := random_int_range randSpec u rng _ v hr h
  have hc := intoInteger_close randSpec n d i (positiveInt_num hb).1
  exact ⟨h1, lt_of_close 100000000000 100000000000 rfl (v * d) (backToF64 i * d) n d
    (mul_le_backToF64 d h2) hc⟩

/-- PARTIAL (code as it is): the same statement with the f32 tolerance the code uses —
the result exceeds the limit by at most 2^-23. -/
theorem random_asis_le_limit_partial (u : Nat × Nat) (rng : Int → Int) (n : Int) (d : Nat) (v : Int)
    (hr : RngOk rng) (h : random randAsIs u rng (.num n d) = .ok (.int v)) :
    1 ≤ v ∧ 8388608 * (v * d - n) ≤ d := by
  obtain ⟨i, hb, h1, h2⟩ := random_int_range randAsIs u rng _ v hr h
  have hc := intoInteger_close randAsIs n d i (positiveInt_num hb).1
  exact ⟨h1, le_of_close 8388608 8388608 rfl (v * d) (backToF64 i * d) n d
    (mul_le_backToF64 d h2) hc⟩

/-- REFUTATION of the full statement for the code as it is (known finding
C06-random-fuzzy-limit): `random(0.9999999)` returns 1, which is larger than the limit by
1e-7; the spec model rejects that limit. -/
theorem random_asis_exceeds_limit :
    random randAsIs (0, 1) (fun _ => 0) (.num 9999999 10000000) = .ok (.int 1) ∧
    ¬ (100000000000 * (1 * (10000000 : Nat) - 9999999 : Int) < (10000000 : Nat)) ∧
    random randSpec (0, 1) (fun _ => 0) (.num 9999999 10000000) = .error .notInt :=
  ⟨rfl, by decide, rfl⟩

end C06
