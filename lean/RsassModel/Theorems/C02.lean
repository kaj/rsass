/-
C02 — Module loading terminates; only real cycles are loop errors.

Model: `Load.execBody` / `Load.compile` (RsassModel/Load/Graph.lean), generic in the name
resolution `Finder`: `Context::transform`, `lock_loading`/`unlock_loading`, the four load sites.
The theorems hold for EVERY finder — every file system, search path, spelling scheme and fault
oracle — under the stated hypotheses; `Load.fsFinder` is the instance the driver runs.

Deviation flags (all repaired by now; kept as the record of the earlier code, with refutations):
`loadCssUnlockEarly` (a803597), `normalizeKeepsEmpty` (3fe5f5c), `loadKeyTextual` (51f269b).
The generic theorems need only `loadCssUnlockEarly = false` plus, for termination, that found
names come from a finite set — exactly what the two key flags break.
-/
import RsassModel.Load.LemmasGraph
import RsassModel.Load.LemmasClosure
namespace C02
open Load

/-- lock/unlock are balanced: a body that completes leaves `loading` exactly as it found it
(for every flag setting) -/
theorem loading_balanced (q : LoadQuirks) (F : Finder) (fuel : Nat) (name : Str) (s s' : St)
    (h : execBody q F fuel name s = .ok s') : s'.loading = s.loading :=
  execBody_balanced q F fuel name s s' h

/-- `lock_loading` pushes the file's name on `loading` and succeeds only when it was absent -/
theorem lock_pushes (name : Str) (s s1 : St) (h : lock name s = some s1) :
    s1.loading = name :: s.loading ∧ name ∉ s.loading :=
  have ⟨hn, hs⟩ := lock_eq_some.mp h
  ⟨hs ▸ rfl, hn⟩

/-- a congruence of `runFound` in the body runner: a load site calls it only in states whose
`loading` is the one it was entered with.  With `lock_pushes` and `loading_balanced`: a body runs
with `loading` = the files on the current load path, innermost first. -/
theorem loading_is_dfs_path (q : LoadQuirks) (hq : q.loadCssUnlockEarly = false) (F : Finder)
    (enter enter' : Str → St → Res) (name : Str) (j : Nat) (b : Binds) (s1 : St) (k : Kind)
    (L : List Str) (hl : s1.loading = name :: L)
    (h : ∀ s2 : St, s2.loading = name :: L → enter name s2 = enter' name s2) :
    runFound q F enter name j b s1 k = runFound q F enter' name j b s1 k := by
  cases k with
  | use =>
    simp only [runFound, runUse, loadModule]
    rw [h _ (by simpa using hl)]
  | forward =>
    simp only [runFound, runForward, loadModule]
    rw [h _ (by simpa using hl)]
  | «import» =>
    simp only [runFound, runImport, enterSub]
    rw [h _ (by simpa using hl)]
  | loadCss =>
    simp only [runFound, runLoadCss, enterSub, hq, Bool.false_eq_true, if_false]
    rw [h _ (by simpa using hl)]

/-- loading a file that is already being loaded is reported as a loop error (every flag
setting; "being loaded" = its name is in `loading`) -/
theorem cycle_is_loop_error (q : LoadQuirks) (F : Finder) (enter : Str → St → Res) (self : Str)
    (j : Nat) (b : Binds) (s : St) (k : Kind) (url : Str) (uq : Bool) (name : Str) (calls : List Call)
    (hfind : F.find self k url s.calls = .found name calls) (hin : name ∈ s.loading) :
    (execItem q F enter self j b s (.load k url uq)).1 = .err .loop { s with calls := calls } := by
  have : lock name { s with calls := calls } = none := lock_none.mpr hin
  simp [execItem, hfind, this]

def NamesIn (F : Finder) (K : List Str) : Prop :=
  ∀ self k url calls name c, F.find self k url calls = .found name c → name ∈ K

/-- the termination argument: every nested body is entered with one more name of `K` in
`loading`, so `room K` bounds the depth (`P`: a set of names closed under resolved loads) -/
theorem execBody_enough_fuel (q : LoadQuirks) (hq : q.loadCssUnlockEarly = false) (F : Finder)
    (K : List Str) (P : Str → Prop)
    (hK : ∀ self it k url calls name c, P self → it ∈ bodyItems F self → it.target = some (k, url) →
      F.find self k url calls = .found name c → name ∈ K ∧ P name)
    (fuel : Nat) (name : Str) (hname : P name) (s : St) (hroom : room K s.loading < fuel) :
    (execBody q F fuel name s).errOf ≠ some .fuel := by
  induction fuel generalizing name s with
  | zero => omega
  | succ fuel ih =>
    apply execItems_bad (.inl rfl) hq (execBody_balanced q F fuel)
      (fun n L' => room K L' < fuel ∧ P n) (fun n s1 h => ih n h.2 s1 h.1) s.loading _ _ _ rfl
    · intro it k url calls n c hit ht hf hn
      obtain ⟨hnK, hPn⟩ := hK name it k url calls n c hname hit ht hf
      have := room_cons_lt hnK hn
      exact ⟨by omega, hPn⟩
    · intro h
      cases h

/-- **termination with an explicit bound**: when the names that lookups can return come from a
list of `K.length` names and a load-css'd file stays locked during its body, a compilation
never needs more than `K.length + 1` nested files — it never runs out of fuel. -/
theorem load_terminates (q : LoadQuirks) (hq : q.loadCssUnlockEarly = false) (F : Finder)
    (K : List Str) (hK : NamesIn F K) (fuel : Nat) (hfuel : K.length < fuel) (root : Str) :
    (compile q F fuel root).errOf ≠ some .fuel :=
  compile_errOf q F fuel root ▸
    execBody_enough_fuel q hq F K (fun _ => True) (fun _ _ _ _ _ _ _ _ _ _ hf => ⟨hK _ _ _ _ _ _ hf, trivial⟩)
      fuel root trivial _ (Nat.lt_of_le_of_lt (room_le _ _) hfuel)

/-! ### termination for the real finder: a concrete, checked, finite set of names

`NamesIn` cannot be discharged from the file table alone for *every* world (a name like
`sub//_index.scss`, or one built from a url containing `://`, is not a path of the table, and
under the deviations `loadKeyTextual`/`normalizeKeepsEmpty` the names really are unbounded).
What holds for every finite world is the *checkable* form: a list `K` that contains the root and
is closed under "resolve every load statement of the body, without faults" (`closedUnder`, a
`Bool`, decided by evaluation for any concrete world; `reach` computes a candidate `K`) bounds
the names of every run — with any fault oracle — and gives the explicit fuel bound. -/

/-- **termination of the real finder, explicit bound**: for every world `W` (any file table,
search path and fault oracle) and every list `K` of names that contains the root and passes the
decidable closure check, compilation with load-css locked during its body never needs more than
`K.length + 1` nested files. -/
theorem load_terminates_concrete (q : LoadQuirks) (hq : q.loadCssUnlockEarly = false) (W : World)
    (K : List Str) (root : Str) (hroot : root ∈ K) (hc : closedUnder q W K = true)
    (fuel : Nat) (hfuel : K.length < fuel) :
    (run q W fuel root).errOf ≠ some .fuel :=
  compile_errOf q _ fuel root ▸
    execBody_enough_fuel q hq (fsFinder q W) K (· ∈ K)
      (fun _ _ _ _ _ _ _ hs hit ht hf => ⟨closedUnder_found hc hs hit ht hf, closedUnder_found hc hs hit ht hf⟩)
      fuel root hroot _ (Nat.lt_of_le_of_lt (room_le _ _) hfuel)

/-- the load relation is acyclic: a rank strictly decreases along every resolved load
statement of every body -/
def Acyclic (F : Finder) (rank : Str → Nat) : Prop :=
  ∀ self it k url calls name c, it ∈ bodyItems F self → it.target = some (k, url) →
    F.find self k url calls = .found name c → rank name < rank self

theorem execBody_no_loop (q : LoadQuirks) (hq : q.loadCssUnlockEarly = false) (F : Finder)
    (rank : Str → Nat) (hac : Acyclic F rank) (fuel : Nat) (name : Str) (s : St)
    (hinv : ∀ x ∈ s.loading, rank name ≤ rank x) :
    (execBody q F fuel name s).errOf ≠ some .loop := by
  induction fuel generalizing name s with
  | zero => simp [execBody, Res.errOf]
  | succ fuel ih =>
    apply execItems_bad (.inr rfl) hq (execBody_balanced q F fuel)
      (fun n L' => ∀ x ∈ L', rank n ≤ rank x) (fun n s1 h => ih n s1 h) s.loading _ _ _ rfl
    · intro it k url calls n c hm ht hf _ x hx
      have hlt := hac name it k url calls n c hm ht hf
      cases hx with
      | head => exact Nat.le_refl _
      | tail _ hx => exact Nat.le_trans (Nat.le_of_lt hlt) (hinv x hx)
    · intro _ it k url calls n c hm ht hf hin
      have hlt := hac name it k url calls n c hm ht hf
      have := hinv n hin
      omega

/-- **an acyclic set of files never gives a loop error**, however often a file is loaded
(the unlock step makes a second, later load of the same file legal) -/
theorem acyclic_no_loop (q : LoadQuirks) (hq : q.loadCssUnlockEarly = false) (F : Finder)
    (rank : Str → Nat) (hac : Acyclic F rank) (fuel : Nat) (root : Str) :
    (compile q F fuel root).errOf ≠ some .loop :=
  compile_errOf q F fuel root ▸
    execBody_no_loop q hq F rank hac fuel root _ (by simp)

/-! ### the code as it is: `_partial` theorems and refutations

`load_terminates` and `acyclic_no_loop` are stated for every `q` with `loadCssUnlockEarly = false`
and every finder whose names are finitely many; they therefore ARE the `_partial` theorems for
the code: -/

/-- `_partial` (`loadCssUnlockEarly`, the code before a803597): one statement that is not a
`meta.load-css` runs the same with the flag on and off — the early unlock is never reached. -/
theorem loadCss_free_partial (q : LoadQuirks) (F : Finder) (enter : Str → St → Res) (self : Str)
    (j : Nat) (b : Binds) (s : St) (it : Item) (h : ∀ url uq, it ≠ .load .loadCss url uq)
    (h2 : ∀ url, it ≠ .loadWith .loadCss url) :
    execItem { q with loadCssUnlockEarly := true } F enter self j b s it
      = execItem { q with loadCssUnlockEarly := false } F enter self j b s it := by
  cases it with
  | mark => rfl
  | bump k t => rfl
  | load k url uq =>
    cases k with
    | loadCss => exact absurd rfl (h url uq)
    | use => rfl
    | forward => rfl
    | «import» => rfl
  | loadWith k url =>
    cases k with
    | loadCss => exact absurd rfl (h2 url)
    | use => rfl
    | forward => rfl
    | «import» => rfl

example : (∀ url uq, Item.load .import [97] false ≠ .load .loadCss url uq) ∧
    (∀ url, Item.load .import [97] false ≠ .loadWith .loadCss url) :=
  ⟨(by intro _ _ h; cases h), (by intro _ h; cases h)⟩

/-- world: `in.scss` = `.f0{} @include meta.load-css("a")`, `a.scss` = `.f1{} @include meta.load-css("a")` -/
def wLoadCss : World :=
  ⟨[([105, 110, 46, 115, 99, 115, 115], ⟨0, [.mark, .load .loadCss [97] false]⟩),
    ([97, 46, 115, 99, 115, 115], ⟨1, [.mark, .load .loadCss [97] false]⟩)], [[]], fun _ => none⟩

/-- refutation (`loadCssUnlockEarly`, repaired by a803597): a cycle made of load-css edges.  The
specification — and the code since the repair — reports the loop; the code before it still
descends after 30 nested files (the real code overflowed its stack), although two files exist. -/
theorem loadCssUnlockEarly_refuted :
    (run LoadQuirks.spec wLoadCss wLoadCss.fuel [105, 110, 46, 115, 99, 115, 115]).errOf = some .loop ∧
    (run LoadQuirks.mid wLoadCss 30 [105, 110, 46, 115, 99, 115, 115]).errOf = some .fuel ∧
    (run LoadQuirks.now wLoadCss wLoadCss.fuel [105, 110, 46, 115, 99, 115, 115]).errOf = some .loop := by
  decide +kernel

/-- world: `in.scss` = `@import "a"`, `a.scss` = `@import "d//../a"`, `d/x.scss` -/
def wEmptySeg : World :=
  ⟨[([105, 110, 46, 115, 99, 115, 115], ⟨0, [.mark, .load .import [97] false]⟩),
    ([97, 46, 115, 99, 115, 115], ⟨1, [.mark, .load .import [100, 47, 47, 46, 46, 47, 97] false]⟩),
    ([100, 47, 120, 46, 115, 99, 115, 115], ⟨2, [.mark]⟩)], [[]], fun _ => none⟩

/-- refutation (`normalizeKeepsEmpty`; 51f269b was incomplete, completed by 3fe5f5c): `a.scss`
importing itself as `d//../a` — loop error in the specification and in the code today, unbounded
chain of distinct names in the code between the two commits -/
theorem normalizeKeepsEmpty_refuted :
    (run LoadQuirks.spec wEmptySeg wEmptySeg.fuel [105, 110, 46, 115, 99, 115, 115]).errOf = some .loop ∧
    (run { LoadQuirks.spec with normalizeKeepsEmpty := true } wEmptySeg 25 [105, 110, 46, 115, 99, 115, 115]).errOf
      = some .fuel ∧
    (run LoadQuirks.mid wEmptySeg 25 [105, 110, 46, 115, 99, 115, 115]).errOf = some .fuel ∧
    (run LoadQuirks.now wEmptySeg wEmptySeg.fuel [105, 110, 46, 115, 99, 115, 115]).errOf = some .loop := by
  decide +kernel

/-- world: `in.scss` = `@import "a"`, `a.scss` = `@import "./a"` -/
def wDotSlash : World :=
  ⟨[([105, 110, 46, 115, 99, 115, 115], ⟨0, [.mark, .load .import [97] false]⟩),
    ([97, 46, 115, 99, 115, 115], ⟨1, [.mark, .load .import [46, 47, 97] false]⟩)], [[]], fun _ => none⟩

/-- refutation (`loadKeyTextual`, pinned code; repaired by 51f269b): `a.scss` importing `./a` —
the pinned code never terminates, the specification and the code since the repair report the loop -/
theorem loadKeyTextual_refuted :
    (run LoadQuirks.spec wDotSlash wDotSlash.fuel [105, 110, 46, 115, 99, 115, 115]).errOf = some .loop ∧
    (run LoadQuirks.now wDotSlash wDotSlash.fuel [105, 110, 46, 115, 99, 115, 115]).errOf = some .loop ∧
    (run LoadQuirks.asis wDotSlash 25 [105, 110, 46, 115, 99, 115, 115]).errOf = some .fuel := by
  decide +kernel

/-- an acyclic world where one file is loaded three times: no loop error, in any configuration -/
theorem repeated_load_example :
    let W : World := ⟨[([105, 110, 46, 115, 99, 115, 115],
        ⟨0, [.load .import [97] false, .load .import [46, 47, 97] false, .load .loadCss [97] false]⟩),
      ([97, 46, 115, 99, 115, 115], ⟨1, [.mark]⟩)], [[]], fun _ => none⟩
    (run LoadQuirks.spec W W.fuel [105, 110, 46, 115, 99, 115, 115]).errOf = none ∧
    (run LoadQuirks.now W W.fuel [105, 110, 46, 115, 99, 115, 115]).errOf = none := by
  decide +kernel

/-- the closure check on concrete worlds: for the specification and for the code today the
reachable names of the self-import worlds are the two (three) files, found by `reach` and
closed; so `load_terminates_concrete` applies with fuel 3 (4).  Under the old deviations the
same worlds have no small closed set: three rounds of `reach` already produce the growing names. -/
theorem closure_examples :
    reach LoadQuirks.spec wDotSlash 2 [[105, 110, 46, 115, 99, 115, 115]]
      = [[105, 110, 46, 115, 99, 115, 115], [97, 46, 115, 99, 115, 115]] ∧
    closedUnder LoadQuirks.spec wDotSlash (reach LoadQuirks.spec wDotSlash 2 [[105, 110, 46, 115, 99, 115, 115]]) = true ∧
    closedUnder LoadQuirks.now wDotSlash (reach LoadQuirks.now wDotSlash 2 [[105, 110, 46, 115, 99, 115, 115]]) = true ∧
    closedUnder LoadQuirks.now wEmptySeg (reach LoadQuirks.now wEmptySeg 2 [[105, 110, 46, 115, 99, 115, 115]]) = true ∧
    closedUnder LoadQuirks.now wLoadCss (reach LoadQuirks.now wLoadCss 2 [[105, 110, 46, 115, 99, 115, 115]]) = true ∧
    closedUnder LoadQuirks.asis wDotSlash (reach LoadQuirks.asis wDotSlash 3 [[105, 110, 46, 115, 99, 115, 115]]) = false ∧
    closedUnder LoadQuirks.mid wEmptySeg (reach LoadQuirks.mid wEmptySeg 3 [[105, 110, 46, 115, 99, 115, 115]]) = false := by
  decide +kernel

/-- `load_terminates_concrete` applied: the self-import world terminates (here: with a loop
error) within 3 nested files, for the code today and any fault oracle on that file table -/
theorem wDotSlash_terminates (fail : Nat → Option Fault) :
    (run LoadQuirks.now { wDotSlash with fail := fail } 3 [105, 110, 46, 115, 99, 115, 115]).errOf ≠ some .fuel := by
  apply load_terminates_concrete LoadQuirks.now rfl _
    [[105, 110, 46, 115, 99, 115, 115], [97, 46, 115, 99, 115, 115]] _ (by simp) _ 3 (by simp)
  rw [closedUnder_fail]
  decide +kernel

end C02
