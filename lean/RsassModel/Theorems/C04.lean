/-
C04 — Load URLs resolve to the documented candidate file.

Model: `Load.candidates`, `Load.namesFor`, `Load.scan`, `Load.findScan`, `Load.findFile`
(RsassModel/Load/Find.lean, mirroring `Context::find_file`, `Context::do_find_file`,
`FsLoader::find_file`) and the `@import` arm of `Load.execItem` (RsassModel/Load/Graph.lean,
mirroring `Item::Import` in output/transform.rs).

`LoadQuirks.spec` is what the property demands; `LoadQuirks.asis` is the code the checks were
written against, which deviated at two call sites (flags `noLoadPathFallback` — repaired by
commit 56921f7 — and `candidateMajor` — repaired by 31d0dab; `LoadQuirks.now`, the code today,
has neither): for each there is a `_partial` theorem under the hypothesis that excludes the
deviation, and a refutation.
-/
import RsassModel.Load.LemmasFind
import RsassModel.Load.Graph
import RsassModel.Generated.LoadCandidates
namespace C04
open Load

/-! The first three theorems restate `Load.candidates` (Load/Find.lean) branch by branch, by
`rfl`, so that the documented tables can be read next to the property. -/

/-- `@use`: `u.scss`, `_u.scss`, `u/index.scss`, `u/_index.scss`, `u.css`, `_u.css` -/
theorem candidates_use_documented (base name : Str) :
    candidates .use base name =
      [ base ++ name ++ extScss, base ++ underscore :: name ++ extScss,
        base ++ name ++ slashIndexScss, base ++ name ++ slashUIndexScss,
        base ++ name ++ extCss, base ++ underscore :: name ++ extCss ] := rfl

/-- `@forward` and `meta.load-css` use the `@use` table -/
theorem candidates_forward_loadCss_as_use (base name : Str) :
    candidates .forward base name = candidates .use base name ∧
    candidates .loadCss base name = candidates .use base name := ⟨rfl, rfl⟩

/-- `@import`: the `.import.scss` variant directly before each `.scss` candidate -/
theorem candidates_import_documented (base name : Str) :
    candidates .import base name =
      [ base ++ name ++ extImportScss, base ++ underscore :: name ++ extImportScss,
        base ++ name ++ extScss, base ++ underscore :: name ++ extScss,
        base ++ name ++ slashIndexImportScss, base ++ name ++ slashUIndexImportScss,
        base ++ name ++ slashIndexScss, base ++ name ++ slashUIndexScss,
        base ++ name ++ extCss, base ++ underscore :: name ++ extCss ] := rfl

/-- a url with an explicit `.css`/`.sass`/`.scss` extension is looked up as it is -/
theorem namesFor_explicit_extension (k : Kind) (url : Str) (h : hasExt url = true) :
    namesFor k url = [url] := by simp [namesFor, h]

/-- a url without extension is split at its last `/` and expanded through the table -/
theorem namesFor_no_extension (k : Kind) (url : Str) (h : hasExt url = false) :
    namesFor k url = candidates k (dirOf url) (nameOf url) := by simp [namesFor, h]

/-- T1 tie: the probe sequences that the *running code* produced for an unresolvable url
(written to `Generated/LoadCandidates.lean` by the check, from the loader-call trace of the
real `Context::find_file`) are the documented candidate lists — for `@use`, `@forward`,
`meta.load-css` and `@import`, from an importer at the root and from one in `sub/`. -/
theorem generated_candidates_match :
    Generated.useRoot = namesFor .use Generated.url ∧
    Generated.forwardRoot = namesFor .forward Generated.url ∧
    Generated.loadCssRoot = namesFor .loadCss Generated.url ∧
    Generated.importRoot = namesFor .import Generated.url ∧
    Generated.useSub = namesFor .use (relUrl LoadQuirks.now Generated.subImporter Generated.url)
      ++ namesFor .use Generated.url ∧
    Generated.importSub = namesFor .import (relUrl LoadQuirks.now Generated.subImporter Generated.url)
      ++ namesFor .import Generated.url := by
  decide +kernel

/-- the probes of the specification, in the documented order: the url relative to the importing
file — in each search location in order (the base directory, i.e. the root importer's
directory, first, then each load path), every candidate in table order, one location per
probe; then, when the two urls differ, the unchanged url the same way -/
theorem specProbes_order (E : Env) (self : Str) (k : Kind) (url : Str) :
    let u := normalize true url
    let u' := relUrl LoadQuirks.spec self u
    (specProbes E self k url).map (fun p => (p.roots, p.name)) =
      E.roots.flatMap (fun r => (namesFor k u').map (fun c => ([r], c))) ++
      (if u' == u then [] else E.roots.flatMap (fun r => (namesFor k u).map (fun c => ([r], c)))) := by
  -- `mkProbes false` is a `flatMap` over the locations; the rest pushes `map` through it
  simp only [specProbes, allProbes, allProbesAux, mkProbes, normUrl, LoadQuirks.spec, Bool.false_eq_true, if_false,
    Bool.not_false, Bool.false_or, List.map_append, List.map_flatMap, List.map_map, Function.comp_def]
  split <;> simp_all [List.map_flatMap, Function.comp_def]

/-- the lookup (`findScan`, the part of `findFile` before the format check) hits the first
existing candidate in the documented order -/
theorem findFile_first_existing (E : Env) (h : NoFaults E) (self : Str) (k : Kind) (url : Str)
    (calls : List Call) :
    (findScan LoadQuirks.spec E self k url calls).hit
      = (specProbes E self k url).findSome? (Probe.hit E) := by
  rw [findScan_spec_eq]
  exact (scan_hit E h _ _).1

/-- the file handed on by `find_file` is that first existing candidate (a found name that is
neither `.scss` nor `.css` is a format error, never another file) -/
theorem findFile_found_iff (E : Env) (h : NoFaults E) (self : Str) (k : Kind) (url : Str)
    (calls : List Call) (name : Str) :
    (∃ c, findFile LoadQuirks.spec E self k url calls = .found name c) ↔
      ∃ phys, (specProbes E self k url).findSome? (Probe.hit E) = some (name, phys)
        ∧ okFormat name = true := by
  simp only [← findFile_first_existing E h self k url calls, findFile_found, ScanRes.hit_eq_some]
  exact ⟨fun ⟨c, p, h1, h2⟩ => ⟨p, ⟨c, h1⟩, h2⟩, fun ⟨p, ⟨c, h1⟩, h2⟩ => ⟨c, p, h1, h2⟩⟩

/-- nothing is found iff no candidate exists in any location -/
theorem findFile_none_iff (E : Env) (h : NoFaults E) (self : Str) (k : Kind) (url : Str)
    (calls : List Call) :
    (∃ c, findFile LoadQuirks.spec E self k url calls = .missing c) ↔
      ∀ p ∈ specProbes E self k url, Probe.hit E p = none := by
  simp only [← scan_missing_iff E h _ calls, ← findScan_spec_eq, findFile_missing]

/-- relative to the importing file first: when a candidate of the relative url exists in some
search location, the first one (location-major) is the result, whatever exists under the
unchanged url -/
theorem relative_url_first (E : Env) (h : NoFaults E) (self : Str) (k : Kind) (url : Str)
    (calls : List Call) (x : Str × Str)
    (hx : (mkProbes false E.roots (namesFor k (relUrl LoadQuirks.spec self (normalize true url)))).findSome?
            (Probe.hit E) = some x) :
    (findScan LoadQuirks.spec E self k url calls).hit = some x := by
  rw [findFile_first_existing E h, specProbes, allProbes, allProbesAux, List.findSome?_append]
  simp only [normUrl, LoadQuirks.spec, Bool.false_eq_true, if_false, Bool.not_false] at hx ⊢
  rw [hx]; rfl

/-- locations in order: when the locations before `r` hold no candidate of a url, the first
existing candidate in `r` is what the location-major probing of that url finds — for an importer
at the root this is "the importing file's directory, then load path 1, then load path 2" -/
theorem locations_in_order (E : Env) (cands : List Str) (before after : List Str) (r : Str)
    (x : Str × Str)
    (hbefore : (mkProbes false before cands).findSome? (Probe.hit E) = none)
    (hx : (mkProbes false [r] cands).findSome? (Probe.hit E) = some x) :
    (mkProbes false (before ++ r :: after) cands).findSome? (Probe.hit E) = some x := by
  simp only [mkProbes, Bool.false_eq_true, if_false, List.flatMap_append, List.flatMap_cons,
    List.flatMap_nil, List.append_nil, List.findSome?_append] at *
  rw [hbefore, Option.none_or, hx]; rfl

/-- within one location the candidates are tried in table order -/
theorem candidates_in_order (E : Env) (r : Str) (before after : List Str) (c : Str) (phys : Str)
    (hbefore : ∀ c' ∈ before, loaderHit E.paths [r] c' = none)
    (hc : loaderHit E.paths [r] c = some phys) :
    (mkProbes false [r] (before ++ c :: after)).findSome? (Probe.hit E) = some (c, phys) := by
  simp only [mkProbes, Bool.false_eq_true, if_false, List.flatMap_cons, List.flatMap_nil,
    List.append_nil, List.map_append, List.map_cons, List.findSome?_append, List.findSome?_cons]
  have : (before.map fun c => (⟨r ++ c, c, [r]⟩ : Probe)).findSome? (Probe.hit E) = none := by
    simp only [List.findSome?_eq_none_iff, List.mem_map]
    rintro p ⟨c', hc', rfl⟩
    simp [Probe.hit, hbefore c' hc']
  rw [this]
  simp [Probe.hit, hc]

theorem cssFallback_iff (url : Str) (unquoted : Bool) :
    cssFallback url unquoted = true ↔
      (startsWith url httpPre = true ∨ startsWith url httpsPre = true ∨ startsWith url slashSlash = true
        ∨ endsWith url extCss = true
        ∨ (unquoted = true ∧ endsWith url closeParen = true ∧ startsWith url urlOpen = true)) := by
  simp [cssFallback, Bool.or_eq_true, Bool.and_eq_true, or_assoc, and_assoc]

/-- `@import` of a target that is not found is emitted as a plain CSS import exactly when the
fallback test holds, and is an error otherwise -/
theorem import_css_fallback (q : LoadQuirks) (F : Finder) (enter : Str → St → Res) (self : Str)
    (j : Nat) (b : Binds) (s : St) (url : Str) (unquoted : Bool) (calls : List Call)
    (h : F.find self .import url s.calls = .missing calls) :
    (execItem q F enter self j b s (.load .import url unquoted)).1 =
      if cssFallback url unquoted then
        .ok { s with calls := calls, imports := s.imports ++ [.cssImport url] }
      else .err .notFound { s with calls := calls } := by
  simp only [execItem, h]
  split <;> simp_all

/-- for `@use`, `@forward` and `meta.load-css` a target that is not found is always an error -/
theorem missing_is_error (q : LoadQuirks) (F : Finder) (enter : Str → St → Res) (self : Str)
    (j : Nat) (b : Binds) (s : St) (k : Kind) (hk : k ≠ .import) (url : Str) (unquoted : Bool)
    (calls : List Call) (h : F.find self k url s.calls = .missing calls) :
    (execItem q F enter self j b s (.load k url unquoted)).1 = .err .notFound { s with calls := calls } := by
  simp only [execItem, h]
  split <;> simp_all

/-- `_partial` (`candidateMajor`, the lookup deviation that was left after commits 56921f7 and
51f269b; repaired by 31d0dab): with a single search location the candidate-major loop of the code finds exactly
what the specification finds. -/
theorem findScan_candidateMajor_partial (E : Env) (h : NoFaults E) (self : Str) (k : Kind)
    (url : Str) (calls : List Call) (r : Str) (hroots : E.roots = [r]) :
    (findScan { LoadQuirks.spec with candidateMajor := true } E self k url calls).hit
      = (findScan LoadQuirks.spec E self k url calls).hit := by
  rw [findScan_eq_scan, findScan_eq_scan, (scan_hit E h _ _).1, (scan_hit E h _ _).1]
  apply findSome_hit_congr
  show (allProbesAux true false E.roots k (normalize true url)
          (relUrl LoadQuirks.spec self (normalize true url))).map _ =
       (allProbesAux false false E.roots k (normalize true url)
          (relUrl LoadQuirks.spec self (normalize true url))).map _
  rw [hroots]; exact allProbesAux_single _ _ _ _ _

/-- the hypothesis is met by a lookup that finds the second candidate -/
example :
    let E : Env := ⟨[[105, 110, 46, 115, 99, 115, 115], [95, 113, 46, 115, 99, 115, 115]], [[]], fun _ => none⟩
    E.roots = [[]] ∧
    (findScan { LoadQuirks.spec with candidateMajor := true } E [105, 110, 46, 115, 99, 115, 115] .use [113] []).hit
      = some ([95, 113, 46, 115, 99, 115, 115], [95, 113, 46, 115, 99, 115, 115]) := by
  decide +kernel

/-- refutation (`candidateMajor`, repaired by 31d0dab `Loader::find_first`): `in.scss` does
`@use "q"`; `_q.scss` exists next to it and `q.scss` in the load path `lp1/`: the specification —
and the code today — resolves to `_q.scss` (importing file's directory first), the code before
the repair to `lp1/q.scss`. -/
theorem candidateMajor_refuted :
    let E : Env := ⟨[[105, 110, 46, 115, 99, 115, 115], [95, 113, 46, 115, 99, 115, 115],
                     [108, 112, 49, 47, 113, 46, 115, 99, 115, 115]], [[], [108, 112, 49, 47]], fun _ => none⟩
    let self : Str := [105, 110, 46, 115, 99, 115, 115]
    (findScan LoadQuirks.spec E self .use [113] []).hit
        = some ([95, 113, 46, 115, 99, 115, 115], [95, 113, 46, 115, 99, 115, 115]) ∧
    (findScan LoadQuirks.now E self .use [113] []).hit
        = some ([95, 113, 46, 115, 99, 115, 115], [95, 113, 46, 115, 99, 115, 115]) ∧
    (findScan LoadQuirks.mid E self .use [113] []).hit
        = some ([113, 46, 115, 99, 115, 115], [108, 112, 49, 47, 113, 46, 115, 99, 115, 115]) ∧
    (findScan LoadQuirks.asis E self .use [113] []).hit
        = some ([113, 46, 115, 99, 115, 115], [108, 112, 49, 47, 113, 46, 115, 99, 115, 115]) := by
  decide +kernel

/-- `_partial` (`noLoadPathFallback`, repaired by commit 56921f7; kept as the record of the
pinned code): with an importer at the root the missing second lookup makes no difference —
the pinned lookup with only this deviation is the specification's, call by call. -/
theorem findScan_noFallback_partial (E : Env) (self : Str) (k : Kind) (url : Str) (calls : List Call)
    (hroot : dirOf self = []) :
    findScan { LoadQuirks.spec with noLoadPathFallback := true } E self k url calls
      = findScan LoadQuirks.spec E self k url calls := by
  simp [findScan, LoadQuirks.spec, relUrl, normUrl, hroot]

example : dirOf [105, 110, 46, 115, 99, 115, 115] = [] := by decide

/-- refutation (`noLoadPathFallback`, pinned code): `sub/s.scss` does `@use "q"`, `q.scss` exists
only in the load path `lp1/`: the specification (and the code since 56921f7) finds `lp1/q.scss`
under the name `q.scss`, the pinned code found nothing. -/
theorem noLoadPathFallback_refuted :
    let E : Env := ⟨[[115, 117, 98, 47, 115, 46, 115, 99, 115, 115], [108, 112, 49, 47, 113, 46, 115, 99, 115, 115]],
                    [[], [108, 112, 49, 47]], fun _ => none⟩
    let self : Str := [115, 117, 98, 47, 115, 46, 115, 99, 115, 115]
    (findScan LoadQuirks.spec E self .use [113] []).hit
        = some ([113, 46, 115, 99, 115, 115], [108, 112, 49, 47, 113, 46, 115, 99, 115, 115]) ∧
    (findScan LoadQuirks.now E self .use [113] []).hit
        = some ([113, 46, 115, 99, 115, 115], [108, 112, 49, 47, 113, 46, 115, 99, 115, 115]) ∧
    (findScan LoadQuirks.asis E self .use [113] []).hit = none ∧
    (findScan { LoadQuirks.spec with noLoadPathFallback := true } E self .use [113] []).hit = none := by
  decide +kernel

end C04
