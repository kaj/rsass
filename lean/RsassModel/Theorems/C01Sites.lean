/-
C01 — source inventory guard (T3).  `Generated/PanicSites.lean` is regenerated on every run of
`./check C01` from the current rsass source (tools/extract_panic_sites.py) and from the committed
accounted list corpus/C01/inventory/panic_sites.json.  The theorem states that every
panic-capable site of the current source is accounted for (modelled by a site theorem in
Theorems/C01.lean or argued with a one-line reason).  A new `unwrap()`, index, slice or integer
operation in rsass/src makes it fail: the obligation is then broken and the check searches for a
crashing input (VIOLATION … no-failing-input-found if none is found).
-/
import RsassModel.Generated.PanicSites
namespace Panics

/- Both tables are printed in ascending order without repetitions, so the current sites are
accounted for exactly when they form a sublist of the accounted ones: one merge pass in the kernel
(`List.isSublist`) instead of a search of the second table for every entry of the first. -/
theorem panicSites_accounted :
    ∀ h ∈ Generated.currentSites, h ∈ Generated.accountedSites :=
  have sub : Generated.currentSites.isSublist Generated.accountedSites = true := by
    decide +kernel
  fun _ hh => (List.isSublist_iff_sublist.mp sub).mem hh

/-- the inventory is not empty (the guard is not vacuous) -/
theorem panicSites_nonempty : Generated.currentSites ≠ [] := by decide +kernel

end Panics
