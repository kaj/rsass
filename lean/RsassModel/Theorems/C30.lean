/-
C30 — calc() simplifies soundly (PARTIAL, see notes/C30.md).
Theorems about `Calc.evalC` (bottom-up folding of the calc argument) for EVERY number
carrier and every deviation-flag setting unless stated otherwise:
* `calc_numbers_fold`, `calc_numbers_fold_text`  all-numeric tree with compatible units ⇒ the
                             Sass arithmetic value, emitted as a plain number
* `calc_never_other_number`  a number is emitted only then, and it is that value
* `calc_structure_preserved` when no operator has two numeric operands (nothing can fold) the
                             specification model returns the source tree minus grouping
                             parentheses (`shape`); `shape_same_leaves_ops`: same operands and
                             operators in the same order; `calc_structure_preserved_asis_partial`:
                             the same under `asis` for trees without identifiers
* `print_parses`, `calc_structure_preserved_text`  the tokens the specification printer writes
                             derive exactly the printed value in the left-recursive CSS calc grammar
                             (`Parses`), for values without a same-precedence right operand of `+`/`*`
* `print_eq_render`, `calc_text_is_rendered_shape`  the emitted characters are the rendered tokens
* `left_parens_dropped_refuted`, `div_right_assoc_refuted`, `ident_plus_concat_refuted`  one witness
                             per deviation flag of `asis` (every flag on), on the exact `Int` carrier
NOT proved (kept visible): (1) unambiguity of the grammar `Parses` / an executable reader with
`read (toks v) = some v`; (2) right operands of `+`/`*` of the same precedence class
(`a + (b + c)` is printed `a + b + c`, equal in value, another tree).  Both are covered per
generated case by the reference reader in props/C30.py.
-/
import RsassModel.Calc.Model
import RsassModel.Calc.Lemmas
import RsassModel.Calc.IntInst
import RsassModel.Calc.LemmasRead
import RsassModel.Calc.LemmasRender
namespace Calc
open MathFn

section parametric
variable {α : Type} [AOps α]

/-- FULL: if Sass arithmetic evaluates the tree (every leaf a number, every operation defined
on the operands' units), `calc()` simplifies to exactly that number — whatever the flags. -/
theorem calc_numbers_fold (q : CalcQuirks) (showQ : Q α → String) (t : T α) (z : Q α)
    (h : arith t = some z) : evalC q showQ t = .ok (.num z) :=
  (evalC_num_iff q showQ t z).mpr h

/-- FULL: the declaration value is then the plain number, not a `calc(…)`. -/
theorem calc_numbers_fold_text (q : CalcQuirks) (showQ : Q α → String) (t : T α) (z : Q α)
    (h : arith t = some z) : calcText q showQ t = showQ z := by
  simp only [calcText, calc_numbers_fold q showQ t z h]

/-- FULL: whenever the evaluation yields a number, the tree was all-numeric and the number is
the Sass arithmetic value: a calculation is never emitted as a different number. -/
theorem calc_never_other_number (q : CalcQuirks) (showQ : Q α → String) (t : T α) (z : Q α)
    (h : evalC q showQ t = .ok (.num z)) : arith t = some z :=
  (evalC_num_iff q showQ t z).mp h

omit [AOps α] in
/-- FULL: the shape has the same operands in the same order and the same operators in the same
order as the source calculation. -/
theorem shape_same_leaves_ops (t : T α) :
    leavesV (shape t) = leavesT t ∧ opsV (shape t) = opsT t := by
  induction t with
  | num x => exact ⟨rfl, rfl⟩
  | var n => exact ⟨rfl, rfl⟩
  | ident s => exact ⟨rfl, rfl⟩
  | paren t ih =>
    rw [shape, leavesT, opsT, ← ih.1, ← ih.2]
    cases shape t <;> exact ⟨rfl, rfl⟩
  | bin op a b iha ihb => 
    simp only [shape, leavesV, opsV, leavesT, opsT, iha, ihb, and_self]

/-- FULL (specification model): when no operator has two numeric operands the evaluation
returns the source tree without its grouping parentheses. -/
theorem calc_structure_preserved (showQ : Q α → String) (t : T α) (h : pairFree t = true) :
    evalC spec showQ t = .ok (shape t) :=
  evalC_shape spec showQ t h fun hq => nomatch hq

end parametric

/-! ### the printed calculation re-reads to the same tree (token level) -/
section readback
variable {α : Type} [AOps α]
open MOps AOps

/-- FULL on the stated fragment: the tokens the specification printer writes for a value derive
— in the left-recursive CSS calc grammar — exactly that value (with a negative right operand of
`+`/`-` read as the printer wrote it). -/
theorem print_parses (v : V α) (hw : wfV v = true) (ha : assocFree v = true) :
    Parses (vprec v) (toksV v) (signNorm v) := by
  induction v with
  | num x => exact .leaf _ rfl nofun
  | var n => exact .leaf _ rfl nofun
  | ident s => exact .leaf _ rfl nofun
  | paren w ih =>
    simp only [wfV, Bool.and_eq_true, Bool.not_eq_true'] at hw
    have := (ih hw.2 ha).liftTo (Nat.zero_le _) (vprec_le _)
    exact .parenAtom _ _ this ((isBin_signNorm w).trans hw.1)
  | bin op a b iha ihb =>
    simp only [wfV, Bool.and_eq_true] at hw
    simp only [assocFree, Bool.and_eq_true] at ha
    have hl := left_parses op a (iha hw.1 ha.1.1)
    have hr := right_parses op b ha.2 (ihb hw.2 ha.1.2)
    rw [toksV_bin, signNorm_bin, vprec, ← written_prec op b]
    rw [← written_prec op b] at hl hr
    exact combine_parses _ _ _ _ _ hl hr

/-- FULL on the stated fragment: an unsimplifiable calculation (no operator with two numeric
operands) is emitted by the specification model as tokens that derive, in the CSS calc grammar,
the source tree without its grouping parentheses. -/
theorem calc_structure_preserved_text (showQ : Q α → String) (t : T α)
    (h : pairFree t = true) (ha : assocFree (shape t) = true) :
    evalC spec showQ t = .ok (shape t) ∧
    Parses (vprec (shape t)) (toksV (shape t)) (signNorm (shape t)) :=
  ⟨calc_structure_preserved showQ t h, print_parses (shape t) (wfV_shape t) ha⟩

/-- FULL: the character text the specification printer produces is the concatenation of the
token texts of `toksV` (operators written ` op `, parentheses tight) — so `print_parses` is a
statement about the emitted characters, token boundaries being the white space around operators
and the parentheses. -/
theorem print_eq_render (showQ : Q α → String) (v : V α) :
    printV spec showQ v = render showQ (toksV v) := by
  induction v with
  | num x => exact (render_atom showQ _).symm
  | var n => exact (render_atom showQ _).symm
  | ident s => exact (render_atom showQ _).symm
  | paren w ih =>
    change "(" ++ printV spec showQ w ++ ")" = render showQ ([.lp] ++ toksV w ++ [.rp])
    rw [ih, render_paren]
  | bin op a b iha ihb =>
    rw [printV_bin, toksV_bin, iha, ihb, leftStr_render, binStr_render, render_op]

/-- FULL: the declaration value of an unsimplifiable calculation is `calc(` + the rendered tokens
of the source tree without grouping parentheses + `)`. -/
theorem calc_text_is_rendered_shape (showQ : Q α → String) (t : T α)
    (h : pairFree t = true) (hn : isNumV (shape t) = false) :
    calcText spec showQ t = "calc(" ++ render showQ (toksV (shape t)) ++ ")" := by
  simp only [calcText, calc_structure_preserved showQ t h]
  cases hs : shape t with
  | num x => simp [hs, isNumV] at hn
  | _ => simp only [← print_eq_render]

/-- the hypotheses are satisfiable: `(var(--x) + 1px) * 2` -/
example : assocFree (shape (.bin .mul (.paren (.bin .plus (.var 0) (.num (⟨1, .px⟩ : Q Int)))) (.num ⟨2, .none⟩))) = true := by
  decide +kernel

end readback

/-! ### satisfiability of the hypotheses, and refutations for `asis` (every deviation flag on)
(exact `Int` carrier; the printed text re-reads to another calculation) -/
section refute

/-- the hypothesis of `calc_numbers_fold` is satisfiable: `(1px + 2px) * 3` folds to `9px` -/
example : calcText asis rshow (.bin .mul (.paren (.bin .plus (.num ⟨1, .px⟩) (.num ⟨2, .px⟩))) (.num ⟨3, .none⟩)) = "9px" := by
  decide +kernel

/-- the hypothesis of `calc_structure_preserved` is satisfiable: `(var(--x) + 1px) * 2` -/
example : pairFree (.bin .mul (.paren (.bin .plus (.var 0) (.num (⟨1, .px⟩ : Q Int)))) (.num ⟨2, .none⟩)) = true := by
  decide +kernel

/-- REFUTATION (C30-left-parens-dropped): `(100% - 10px) / 3` -/
theorem left_parens_dropped_refuted :
    calcText asis rshow (.bin .div (.paren (.bin .minus (.num ⟨100, .percent⟩) (.num ⟨10, .px⟩))) (.num ⟨3, .none⟩))
      = "calc(100% - 10px / 3)" ∧
    calcText spec rshow (.bin .div (.paren (.bin .minus (.num ⟨100, .percent⟩) (.num ⟨10, .px⟩))) (.num ⟨3, .none⟩))
      = "calc((100% - 10px) / 3)" := by
  constructor <;> decide +kernel

/-- REFUTATION (C30-div-right-assoc): `1px / (var(--x) / 2)` -/
theorem div_right_assoc_refuted :
    calcText asis rshow (.bin .div (.num ⟨1, .px⟩) (.paren (.bin .div (.var 0) (.num ⟨2, .none⟩))))
      = "calc(1px / var(--x) / 2)" ∧
    calcText spec rshow (.bin .div (.num ⟨1, .px⟩) (.paren (.bin .div (.var 0) (.num ⟨2, .none⟩))))
      = "calc(1px / (var(--x) / 2))" := by
  constructor <;> decide +kernel

/-- REFUTATION (C30-ident-plus-concat): `a + 1px` -/
theorem ident_plus_concat_refuted :
    calcText asis rshow (.bin .plus (.ident "a") (.num ⟨1, .px⟩)) = "calc(a1px)" ∧
    calcText spec rshow (.bin .plus (.ident "a") (.num ⟨1, .px⟩)) = "calc(a + 1px)" := by
  constructor <;> decide +kernel

/-- PARTIAL (`asis`): without identifiers the flags do not touch the evaluation at all
— only the printing differs — so `calc_structure_preserved` holds for the code too. -/
theorem calc_structure_preserved_asis_partial {α : Type} [AOps α] (showQ : Q α → String) (t : T α)
    (h : pairFree t = true) (hi : ∀ v, v ∈ leavesT t → isIdentV v = false) :
    evalC asis showQ t = .ok (shape t) :=
  evalC_shape asis showQ t h fun _ => hi

end refute
end Calc
