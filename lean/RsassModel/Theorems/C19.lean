/-
C19 — Nested selectors combine as Sass specifies.  Property theorems only; helper lemmas are
in RsassModel/Sel/NestLemmas.lean, the model in RsassModel/Sel/Nest.lean.

`nestSpec` = all deviation flags off (what the property demands); `nestAsis` = the code today:
one open deviation, `appendIdLastWins` (`#a { &#b }` gives `#b`); `nestOld` = the code before
/repo d714329 and 1acf5fd: also `ampViaUnify` (`resolve_ref` pushed the substituted compound
through `Selector::unify`) and `suffixUnwrapPanics`.
-/
import RsassModel.Sel.NestLemmas

namespace Sel.C19

/-- The round-robin merge of `CssSelectorSet::nest`, on rows of equal length (one row per
inner selector, one column per outer selector), is the outer-major product. -/
theorem roundRobin_is_outer_major {α β γ : Type} (f : α → β → γ) (outers : List α) (inners : List β) :
    roundRobin (inners.map (fun i => outers.map (fun o => f o i)))
      = outers.flatMap (fun o => inners.map (fun i => f o i)) :=
  roundRobin_matrixRows f outers inners

/-- Nesting without `&` prints as `outer inner` (expanded style), for every outer selector
that does not end in a combinator and every inner selector whose only possibly-empty
compound is a leading combinator's left side. -/
theorem nest_no_amp (o i : Selector) (ho : o.isLocalEmpty = false) (hi : i.innerOk = true) :
    Selector.print false (o.nest i) = Selector.print false o ++ ' ' :: Selector.print false i :=
  Selector.print_nest o ho i hi

example : (Selector.leaf (Compound.ofClass "a")).isLocalEmpty = false ∧
    (Selector.rel .parent (.leaf Compound.empty) (Compound.ofElem "b")).innerOk = true := by decide

/-- List form: a selector list nested in another without `&` is, in this order, every outer
selector combined with every inner selector — outer-major — each printed `outer inner`.
Holds for every setting of the deviation flags and every `backref`. -/
theorem nest_set_no_amp (q : NestQuirks) (outers inners backref : SelSet)
    (ho : ∀ o ∈ outers, o.isLocalEmpty = false)
    (hi : ∀ i ∈ inners, i.innerOk = true ∧ i.hasBackref = false) :
    (SelSet.nest q outers inners backref).map (Selector.print false)
      = outers.flatMap (fun o => inners.map (fun i =>
          Selector.print false o ++ ' ' :: Selector.print false i)) := by
  unfold SelSet.nest
  rw [nestRows_no_amp q outers backref inners (fun i h => (hi i h).2), roundRobin_matrixRows]
  rw [List.map_flatMap]
  apply flatMap_congr_mem
  intro o hoo
  rw [List.map_map]
  apply List.map_congr_left
  intro i hii
  exact Selector.print_nest o (ho o hoo) i (hi i hii).1

/-- `&-x` (specification flags, and the code today): against an outer selector whose last
compound ends in a class, the result is the outer selector's text followed by the suffix, in
both styles. -/
theorem amp_suffix (q : NestQuirks) (hq : q.ampViaUnify = false) (cm : Bool) (s : Selector) (sfx : List Char)
    (e : Option (List Char)) (p cl : List (List Char)) (i : Option (List Char))
    (hs : s.compound = .mk false e p cl i [] []) (hne : cl ≠ []) (hall : ∀ x ∈ cl, x ≠ []) :
    (resolveOne q s (.mk false (some sfx) [] [] none [] [])).map (Selector.print cm)
      = [Selector.print cm s ++ sfx] := by
  refine resolveOne_print_suffix q hq cm s sfx hs (fun _ => hall) ?_
  have hcl : cl.isEmpty = false := by simpa using hne
  simp [Compound.appendWith_suffix, Compound.shownPart, Compound.appendSuffix, hcl]

example : (Selector.rel .parent (.leaf (Compound.ofElem "b")) (Compound.ofClass "a")).compound
    = .mk false none [] [['a']] none [] [] := rfl

/-- `&` inside a pseudo-class argument (specification flags, and the code today): `:not(&)`
becomes `:not(` the whole outer selector list `)`, in both styles. -/
theorem amp_in_pseudo (q : NestQuirks) (hq : q.ampViaUnify = false) (cm : Bool) (ctx : SelSet)
    (n : List Char) (e : Bool) (hctx : ∀ s ∈ ctx, s.compound.backref = false)
    (hn : nameIn n (nthNames.map String.toList) = false) :
    Pseudo.print cm (Pseudo.resolveRef q ctx (.mk n (.sel [.leaf Compound.amp]) e))
      = ':' :: (if e then [':'] else []) ++ n ++ '(' :: SelSet.print cm ctx ++ [')'] := by
  -- one selector in the argument: the round robin over its one row is that row, `&` resolved
  have h1 : Pseudo.resolveRef q ctx (.mk n (.sel [.leaf Compound.amp]) e)
      = .mk n (.sel (resolveOneList q (Compound.mk false none [] [] none [] []) ctx)) e := by
    rw [Pseudo.resolveRef, PArg.resolveRef, Selector.resolveRefRows, Selector.resolveRefRows,
      roundRobin_singleton]
    rfl
  -- the printed list depends only on the printed selectors, and those are the outer ones
  simp [h1, Pseudo.print, hn, PArg.print, SelSet.print, Selector.printList_eq_intercalate,
    resolveOneList_print_amp q hq cm ctx hctx]

example : nestSpec.ampViaUnify = false ∧ nestAsis.ampViaUnify = false := ⟨rfl, rfl⟩

/-- Old code (`ampViaUnify`, repaired by d714329), partial: when the substituted compound has a non-empty
unification with the empty compound that changes nothing, the old code's result is that of the
code today.  (The full statement — equality for all inputs — is refuted below.) -/
theorem amp_replace_partial (s : Selector) (c ap : Compound)
    (hap : s.compound.append c = some ap) (hu : ap.unifyEmpty = some ap) (hne : ap.isEmpty = false) :
    resolveOne nestOld s c = resolveOne nestAsis s c := by
  have hq : nestOld.ampViaUnify = true := rfl
  have hq' : nestAsis.ampViaUnify = false := rfl
  have hi : nestOld.appendIdLastWins = true := rfl
  have hi' : nestAsis.appendIdLastWins = true := rfl
  cases s with
  | leaf c0 => simp [resolveOne, hap, hu, hq, hq', hi, hi', Selector.setCompound]
  | rel k r c0 => simp [resolveOne, hap, hu, hq, hq', hi, hi', hne, Selector.setCompound]

/-- the hypothesis of `amp_replace_partial` is met by `.a { &.b }` -/
example : ∃ ap, (Selector.leaf (Compound.ofClass "a")).compound.append (Compound.ofClass "b") = some ap ∧
    ap.unifyEmpty = some ap ∧ ap.isEmpty = false := ⟨_, rfl, rfl, rfl⟩

/-- Refutation of the full statement for the old code: `.a { &.a {…} }` is emitted as
`.a`, the property demands `.a.a` (witness of finding C19-amp-unify, fixed by d714329). -/
theorem amp_replace_old_refuted :
    (resolveOne nestOld (.leaf (Compound.ofClass "a")) (Compound.ofClass "a")).map (Selector.print false) = [".a".toList]
    ∧ (resolveOne nestSpec (.leaf (Compound.ofClass "a")) (Compound.ofClass "a")).map (Selector.print false) = [".a.a".toList] := by
  decide +kernel

/-- second witness: the pseudo-element is moved behind the substituted simple selectors:
`a:before { &:hover }` gives `a:hover:before` instead of `a:before:hover` -/
theorem amp_pseudo_element_old_refuted :
    (resolveOne nestOld (.leaf (.mk false (some ['a']) [] [] none [] [.mk "before".toList .none false]))
        (.mk false none [] [] none [] [.mk "hover".toList .none false])).map (Selector.print false)
      = ["a:hover:before".toList]
    ∧ (resolveOne nestSpec (.leaf (.mk false (some ['a']) [] [] none [] [.mk "before".toList .none false]))
        (.mk false none [] [] none [] [.mk "hover".toList .none false])).map (Selector.print false)
      = ["a:before:hover".toList] := by
  decide +kernel

/-- Deviation `appendIdLastWins`, partial: when the `&` compound carries no id of its own, the
code today gives the specified result. -/
theorem amp_id_partial (s : Selector) (c : Compound) (h : c.id = none) :
    resolveOne nestAsis s c = resolveOne nestSpec s c := by
  have e : Compound.appendWith (!nestAsis.appendIdLastWins) s.compound c
      = Compound.appendWith (!nestSpec.appendIdLastWins) s.compound c := by
    exact Compound.mergeInto_id_none _ _ _ c h
  have hq : nestAsis.ampViaUnify = nestSpec.ampViaUnify := rfl
  simp only [resolveOne, e, hq]

example : (Compound.ofClass "b").id = none := rfl

/-- Refutation of the full statement for the code as it is: `#a { &#b {…} }` is emitted as `#b`,
the property demands `#a#b` (witness of open finding C19-amp-id-suffix-lost). -/
theorem amp_id_suffix_asis_refuted :
    (resolveOne nestAsis (.leaf (.mk false none [] [] (some ['a']) [] []))
        (.mk false none [] [] (some ['b']) [] [])).map (Selector.print false) = ["#b".toList]
    ∧ (resolveOne nestSpec (.leaf (.mk false none [] [] (some ['a']) [] []))
        (.mk false none [] [] (some ['b']) [] [])).map (Selector.print false) = ["#a#b".toList] := by
  decide +kernel

/-- A `&` that cannot be resolved is never a panic under the specification flags (it is the
error `Parent ".." is incompatible with this selector.`), for every sheet. -/
theorem suffix_failure_is_error (items : List Item) : (sheetOutcome nestSpec items).isPanic = false := by
  unfold sheetOutcome
  split <;> rfl

/-- Old code (before 1acf5fd), refutation: `[b] { &-x { d } }` panics. -/
theorem suffix_failure_old_panics :
    (sheetOutcome nestOld [.rule [.leaf (.mk false none [] [] none [⟨['b'], [], [], .none, none⟩] [])]
      [.rule [.leaf (.mk true (some ['-', 'x']) [] [] none [] [])] [.decl ['d']]]]).isPanic = true := by
  decide +kernel

/-- `&-x` against an outer selector whose last compound ends in an id (`b #main { &-x }` →
`b #main-x`), specification flags and the code today, both styles. -/
theorem amp_suffix_id (q : NestQuirks) (hq : q.ampViaUnify = false) (cm : Bool) (s : Selector) (sfx i : List Char)
    (e : Option (List Char)) (p : List (List Char)) (hs : s.compound = .mk false e p [] (some i) [] []) :
    (resolveOne q s (.mk false (some sfx) [] [] none [] [])).map (Selector.print cm)
      = [Selector.print cm s ++ sfx] := by
  refine resolveOne_print_suffix q hq cm s sfx hs (fun _ => nofun) ?_
  simp [Compound.appendWith_suffix, Compound.shownPart, Compound.appendSuffix]

/-- `&-x` against an outer selector whose last compound is a bare element type other than `*`
(`ul li { &-x }` → `ul li-x`), specification flags and the code today, both styles. -/
theorem amp_suffix_elem (q : NestQuirks) (hq : q.ampViaUnify = false) (cm : Bool) (s : Selector) (sfx e : List Char)
    (hs : s.compound = .mk false (some e) [] [] none [] []) (hstar : e.getLast? ≠ some '*')
    (hany : elemIsAny e = false) :
    (resolveOne q s (.mk false (some sfx) [] [] none [] [])).map (Selector.print cm)
      = [Selector.print cm s ++ sfx] := by
  refine resolveOne_print_suffix q hq cm s sfx hs (fun _ => nofun) ?_
  simp [Compound.appendWith_suffix, Compound.shownPart, Compound.appendSuffix, elemShown, hany, hstar]

example : ['l', 'i'].getLast? ≠ some '*' ∧ elemIsAny ['l', 'i'] = false := by decide

/-- **No `&` survives** (every flag setting): when the outer selector list carries no `&`
(the `CssSelectorSet` invariant), nothing that `Selector::resolve_ref` returns contains a `&` —
not as a compound's backref and not, at any depth, inside a pseudo-class argument
(`Selector.hasBackref` looks into every `PArg.sel`).  Mutual induction over the nested AST. -/
theorem resolveRef_replaces_every_amp (q : NestQuirks) (ctx : SelSet)
    (hctx : ∀ s ∈ ctx, s.hasBackref = false) (s : Selector) :
    ∀ r ∈ Selector.resolveRef q ctx s, r.hasBackref = false :=
  fun r hr => Selector.resolveRef_noBackref q ctx hctx s r hr

/-- list form (`SelectorSet::resolve_ref`, used for pseudo-class arguments and `@at-root`) -/
theorem resolveRef_set_replaces_every_amp (q : NestQuirks) (ctx : SelSet)
    (hctx : ∀ s ∈ ctx, s.hasBackref = false) (sels : SelSet) :
    SelSet.hasBackref (SelSet.resolveRef q ctx sels) = false :=
  -- by definition the case of a pseudo-class with the argument `sels`
  Pseudo.resolveRef_noBackref q ctx hctx (.mk [] (.sel sels) false)

/-- … and every pseudo-class argument that held a `&` is `&`-free afterwards, whatever the name -/
theorem amp_in_pseudo_replaced (q : NestQuirks) (ctx : SelSet) (hctx : ∀ s ∈ ctx, s.hasBackref = false)
    (p : Pseudo) : (Pseudo.resolveRef q ctx p).hasBackref = false :=
  Pseudo.resolveRef_noBackref q ctx hctx p

example : ∀ s ∈ ([.leaf (Compound.ofClass "a"), .rel .parent (.leaf (Compound.ofElem "b")) (Compound.ofClass "c")] : SelSet),
    s.hasBackref = false := by decide

/-- **Each `&` position holds the outer selector** (specification flags): resolving a compound
`& rest` gives, for outer selectors of the list in order, the outer selector itself with its last
compound extended by `rest` (`CompoundSelector::append`) — nothing else is produced. -/
theorem amp_position_holds_outer (ctx : SelSet) (c : Compound) (hb : c.backref = true) :
    ∀ r ∈ resolveCompound nestSpec ctx c,
      ∃ s ∈ ctx, ∃ ap, Compound.appendWith true s.compound (c.setBackref false) = some ap ∧ r = s.setCompound ap := by
  intro r hr
  simp only [resolveCompound, hb, if_true] at hr
  exact resolveOneList_spec_shape _ ctx r hr

/-- **Declarations keep their source order**: the declaration names of all emitted blocks, read
block after block, are the declaration names of the rule tree in source order (depth first) —
for every flag setting, nesting depth and interleaving of declarations and nested rules. -/
theorem decls_in_source_order (q : NestQuirks) (items : List Item) :
    blockNames (sheetBlocks q items) = items.flatMap Item.declNames := by
  have := evalSheet_names q items []
  simpa [sheetBlocks, blockNames] using this

/-- … under the innermost rule's resolved selector: a rule whose body is the declarations
`d :: ds` emits exactly one block, `(the nested selector list, d :: ds)`, in whatever context. -/
theorem decls_under_resolved_selector (q : NestQuirks) (ctx : Ctx) (out : List Block) (sels : SelSet)
    (d : List Char) (ds : List (List Char)) :
    Item.eval q ctx out (.rule sels ((d :: ds).map Item.decl)) = (ctx.nest q sels, d :: ds) :: out := by
  simp only [Item.eval]
  exact Item.evalBody_decls q _ _ out d ds

/-- **The nested selector list is `&`-free** (`CssSelectorSet::nest`, every flag setting): with
`&`-free outer list and backref list, every selector of the result is `&`-free — rows with `&`
go through `resolve_ref`, rows without through `Selector::nest`, the round robin only
rearranges.  This is the `CssSelectorSet` invariant the next nesting level relies on. -/
theorem nest_set_amp_free (q : NestQuirks) (self other backref : SelSet)
    (hs : ∀ s ∈ self, s.hasBackref = false) (hb : ∀ s ∈ backref, s.hasBackref = false) :
    SelSet.hasBackref (SelSet.nest q self other backref) = false := by
  unfold SelSet.hasBackref SelSet.nest
  rw [Selector.hasBackrefList_false_iff]
  intro x hx
  obtain ⟨row, hrow, hxr⟩ := mem_roundRobin _ x hx
  obtain ⟨o, _, rfl⟩ := List.mem_map.mp hrow
  exact nestRow_hasBackref q self backref hs hb o x hxr

/-- `&-x` against an outer selector whose last compound ends in a placeholder (`%btn { &-x }`) -/
theorem amp_suffix_placeholder (q : NestQuirks) (hq : q.ampViaUnify = false) (cm : Bool) (s : Selector)
    (sfx : List Char) (e : Option (List Char)) (p : List (List Char))
    (hs : s.compound = .mk false e p [] none [] []) (hne : p ≠ []) :
    (resolveOne q s (.mk false (some sfx) [] [] none [] [])).map (Selector.print cm)
      = [Selector.print cm s ++ sfx] := by
  refine resolveOne_print_suffix q hq cm s sfx hs (fun _ => nofun) ?_
  have hp : p.isEmpty = false := by simpa using hne
  simp [Compound.appendWith_suffix, Compound.shownPart, Compound.appendSuffix, hp]

/-- `&-x` against an outer selector whose last simple selector is a pseudo-class or
pseudo-element without argument (`a.b[c]:hover { &-x }` → `a.b[c]:hover-x`), whatever precedes it
in the compound; specification flags and the code today, both styles. -/
theorem amp_suffix_pseudo (q : NestQuirks) (hq : q.ampViaUnify = false) (cm : Bool) (s : Selector)
    (sfx n : List Char) (el : Bool) (e : Option (List Char)) (p c : List (List Char)) (i : Option (List Char))
    (ats : List Attr) (pre : List Pseudo)
    (hs : s.compound = .mk false e p c i ats (pre ++ [.mk n .none el])) :
    (resolveOne q s (.mk false (some sfx) [] [] none [] [])).map (Selector.print cm)
      = [Selector.print cm s ++ sfx] := by
  refine resolveOne_print_suffix q hq cm s sfx hs (by simp) ?_
  simp [Compound.appendWith_suffix, Compound.shownPart, Compound.appendSuffix]

end Sel.C19
