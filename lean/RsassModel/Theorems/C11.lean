/-
C11 — Unit arithmetic converts only with fixed CSS ratios.

Part 1 (T1, `decide +kernel`): theorems about `Units.Gen`, the 29×29 `Unit::scale_to`
  matrix dumped from the RUNNING code before every build.
Part 2: theorems about the hand-written model (`Units/Basic.lean`) that the
  correspondence run ties to the code bit-exactly; `uSpec` = the property, `uAsIs` = every
  one of the six deviation flags on: the code before the repairs listed in notes/C11.md, of
  which `incompatKept` is the one the code still has.  Structural theorems hold for every number carrier
  `UNum α` (hence for f64); quantity theorems hold for every field of characteristic 0.
-/
import RsassModel.Units.Spec
import RsassModel.Units.Lemmas
import RsassModel.Units.LemmasField
import RsassModel.Units.LemmasNormal
import RsassModel.Generated.UnitTable
namespace C11
open Units UNum

/-! ## Part 1 — the table of the running code -/

/-- the rows of the generated table are the 29 units of the model, in order -/
theorem unitTable_names : Gen.unitNames = KU.all.map (fun k => k.name.map Char.toNat) := by
  decide +kernel

/-- FULL, about the table exactly as the running code computes it (holds since the repairs
f3431cd and 662f413 separated em/ex/ch, vmin/vmax and %/fr/unitless): for every ordered
pair of the 29 units the code converts exactly when CSS fixes a ratio, and the f64 factor is
within 2 ulp of the exact ratio (for every π inside the enclosure of `pi_enclosure`). -/
theorem unitTable_matches_css : matchesCss Gen.scaleBits = true := by
  decide +kernel

theorem unitTable_separate_noop : separate Gen.scaleBits = Gen.scaleBits := by
  decide +kernel

/-- the table with the entries between two different units of {em,ex,ch}, {vmin,vmax},
{%,fr,unitless} removed (`separate`) agrees with CSS on every ordered pair; by
`unitTable_separate_noop` that is the table itself. -/
theorem unitTable_matches_css_separated : matchesCss (separate Gen.scaleBits) = true := by
  rw [unitTable_separate_noop]
  exact unitTable_matches_css

/-- PARTIAL: agreement with CSS on every pair outside {em,ex,ch}², {vmin,vmax}²,
{%,fr,unitless}² (a weaker criterion than that of `unitTable_matches_css`). -/
theorem unitTable_matches_css_partial : matchesCssExcept Gen.scaleBits = true :=
  tableAll_mono (fun u v e h => by rw [h, Bool.or_true]) unitTable_matches_css

/-- `Unit::dimension()` of the running code induces exactly the convertibility of its
`scale_to` matrix. -/
theorem unitTable_dimension_consistent : dimsConsistent Gen.dimCodes Gen.scaleBits = true := by
  decide +kernel

/-- the criterion is not vacuous: 1in → cm is 2.54 (bits 0x400451EB851EB852), one ulp more
is still accepted, three ulp more is rejected, and so is a missing entry; em → ex has no CSS
ratio, so any entry (here 5/3) is rejected; 0x3F91DF46A2529D39 is the f64 nearest to π/180
(deg → rad), four ulp more is rejected -/
example : entryOk .inch .cm (some 0x400451EB851EB852) = true := by decide +kernel
example : entryOk .inch .cm (some 0x400451EB851EB853) = true := by decide +kernel
example : entryOk .inch .cm (some 0x400451EB851EB855) = false := by decide +kernel
example : entryOk .inch .cm none = false := by decide +kernel
example : entryOk .em .ex (some 0x3FFAAAAAAAAAAAAB) = false := by decide +kernel
example : entryOk .deg .rad (some 0x3F91DF46A2529D39) = true := by decide +kernel
example : entryOk .deg .rad (some 0x3F91DF46A2529D3D) = false := by decide +kernel

/-! ## Part 2 — the arithmetic model -/

/-- In the specification two known units are convertible exactly when CSS fixes a ratio
(`Units.cssRatio`, the table of `Units/Spec.lean`). -/
theorem spec_converts_iff_css (u v : KU) :
    (u = v ∨ dimension uSpec (.known u) = dimension uSpec (.known v)) ↔ (cssRatio u v).isSome = true := by
  have h := KU.forall₂ (p := fun u v =>
    decide (u = v ∨ dimension uSpec (.known u) = dimension uSpec (.known v)) == (cssRatio u v).isSome)
    (by decide +kernel) u v
  rw [← beq_iff_eq.mp h, decide_eq_true_iff]

/-- PARTIAL (`uAsIs`: every deviation flag on): outside the three defect groups the code's dimension grouping
is the specification's. -/
theorem asis_dimension_partial (u v : KU) (h : devPair u v = false) :
    (dimension uAsIs (.known u) = dimension uAsIs (.known v))
      ↔ (dimension uSpec (.known u) = dimension uSpec (.known v)) := by
  have hall := KU.forall₂ (p := fun u v => devPair u v ||
    (decide (dimension uAsIs (.known u) = dimension uAsIs (.known v))
      == decide (dimension uSpec (.known u) = dimension uSpec (.known v))))
    (by decide +kernel) u v
  rw [h, Bool.false_or, beq_iff_eq, decide_eq_decide] at hall
  exact hall

example : devPair .pt .inch = false := by decide

theorem devPair_symm (u v : KU) : devPair u v = devPair v u := by
  unfold devPair
  by_cases h : devGroup u = devGroup v
  · simp [h, ne_comm]
  · simp [h, Ne.symm h]

variable {α : Type} [UNum α]

/-- hence outside the defect groups the code converts exactly like the specification -/
theorem asis_scaleTo_partial (u v : KU) (h : devPair u v = false) :
    scaleTo (α := α) uAsIs (.known u) (.known v) = scaleTo uSpec (.known u) (.known v) := by
  simp only [scaleTo, asis_dimension_partial u v h]

/-- REFUTATIONS (`uAsIs`: every deviation flag on): em→ex, vmin→vmax and %→fr convert although the
specification (and CSS) fix no ratio — for every number carrier. -/
theorem asis_em_ex_converts :
    scaleTo (α := α) uAsIs (.known .em) (.known .ex) = some (div (ofNat 5) (ofNat 3))
      ∧ scaleTo (α := α) uSpec (.known .em) (.known .ex) = none := by
  constructor <;> rfl

theorem asis_vmin_vmax_converts :
    scaleTo (α := α) uAsIs (.known .vmin) (.known .vmax) = some (div (ofNat 1) (ofNat 1))
      ∧ scaleTo (α := α) uSpec (.known .vmin) (.known .vmax) = none := by
  constructor <;> rfl

theorem asis_percent_fr_converts :
    scaleTo (α := α) uAsIs (.known .percent) (.known .fr) = some (div (div (ofNat 1) (ofNat 100)) (ofNat 1))
      ∧ scaleTo (α := α) uSpec (.known .percent) (.known .fr) = none := by
  constructor <;> rfl

/-- `u` is a unit proper, not `Unit::None` -/
def real (u : U) : Prop := u ≠ U.known KU.none

/-- two different real units with a conversion factor `r` (from `v` to `u`):
the right operand is converted and the result carries the left operand's unit.  Holds for
every flag setting and every number carrier. -/
theorem add_converts (q : UQuirks) (x y r : α) (u v : U) (hu : real u) (hv : real v) (hne : u ≠ v)
    (h : scaleTo q v u = some r) :
    numAdd q ⟨x, [(u, 1)]⟩ ⟨y, [(v, 1)]⟩ = .num ⟨add x (mul y r), [(u, 1)]⟩ := by
  rw [numAdd, addSub_single q _ x y u v hu hv hne, h]

theorem sub_converts (q : UQuirks) (x y r : α) (u v : U) (hu : real u) (hv : real v) (hne : u ≠ v)
    (h : scaleTo q v u = some r) :
    numSub q ⟨x, [(u, 1)]⟩ ⟨y, [(v, 1)]⟩ = .num ⟨sub x (mul y r), [(u, 1)]⟩ := by
  rw [numSub, addSub_single q _ x y u v hu hv hne, h]

/-- comparison converts the right operand likewise; the result is `Equal` also when the
conversion in the other direction finds the two equal (`cmpBothWays`) -/
theorem cmp_converts (q : UQuirks) (x y r : α) (u v : U) (hu : real u) (hv : real v) (hne : u ≠ v)
    (h : scaleTo q v u = some r) :
    numCmp q ⟨x, [(u, 1)]⟩ ⟨y, [(v, 1)]⟩
      = .ord (cmpBothWays (cmp x (mul y r))
          (match scaleTo (α := α) q u v with
           | some r' => cmp (mul x r') y == some .eq
           | none => false)) := by
  rw [cmp_single q x y u v hu hv hne, h]
  rfl

/-- when the two directions agree (always in exact arithmetic) this is the plain comparison
of `x` with the converted `y` -/
theorem cmpBothWays_eq (res : Option Ordering) (back : Bool) (h : back = true → res = some .eq) :
    cmpBothWays res back = res := by
  unfold cmpBothWays
  split
  · next hc => exact absurd (h hc.2) hc.1
  · rfl

/-- the hypotheses are satisfiable: 1in + 1cm in the specification -/
example : scaleTo (α := α) uSpec (.known .cm) (.known .inch) = some (div (ofNat 10) (div (ofNat 254) (ofNat 10))) := rfl

/-- same unit: no conversion at all -/
theorem add_same_unit (q : UQuirks) (x y : α) (s : UnitSet) :
    numAdd q ⟨x, s⟩ ⟨y, s⟩ = .num ⟨add x y, s⟩ := by
  simp [numAdd, numAddSub]

theorem unitless_takes_other_right (q : UQuirks) (x y : α) (s : UnitSet) :
    numAdd q ⟨x, s⟩ ⟨y, []⟩ = .num ⟨add x y, s⟩ ∧ numSub q ⟨x, s⟩ ⟨y, []⟩ = .num ⟨sub x y, s⟩ := by
  simp [numAdd, numSub, numAddSub, isNone]

theorem unitless_takes_other_left (q : UQuirks) (x y : α) (s : UnitSet) (hs : isNone s = false) :
    numAdd q ⟨x, []⟩ ⟨y, s⟩ = .num ⟨add x y, s⟩ ∧ numSub q ⟨x, []⟩ ⟨y, s⟩ = .num ⟨sub x y, s⟩ := by
  have h1 : ([] : UnitSet) ≠ s := by
    rintro rfl
    cases hs
  unfold isNone at hs
  simp [numAdd, numSub, numAddSub, hs, h1, isNone]

theorem numCmp_unitless (q : UQuirks) (a b : Numeric α) (h : (isNone a.u || isNone b.u) = true)
    (hq : q.cmpUnitlessEqNone = false ∨ cmp a.v b.v ≠ some .eq) :
    numCmp q a b = .ord (cmp a.v b.v) := by
  unfold numCmp
  by_cases e : a.u = b.u
  · rw [if_pos e]
  rw [if_neg e, if_pos h]
  split
  · next hc =>
    rcases hq with hq | hq
    · rw [hq, hc]
      rfl
    · exact absurd hc hq
  · rfl

/-- FULL (specification): comparing with a unitless number compares the values. -/
theorem unitless_cmp_spec (x y : α) (s : UnitSet) :
    numCmp uSpec ⟨x, []⟩ ⟨y, s⟩ = .ord (cmp x y) ∧ numCmp uSpec ⟨x, s⟩ ⟨y, []⟩ = .ord (cmp x y) :=
  ⟨numCmp_unitless uSpec ⟨x, []⟩ ⟨y, s⟩ rfl (Or.inl rfl),
   numCmp_unitless uSpec ⟨x, s⟩ ⟨y, []⟩ (Bool.or_true _) (Or.inl rfl)⟩

/-- PARTIAL (`uAsIs`: every deviation flag on): the same when the two values are not equal. -/
theorem unitless_cmp_asis_partial (x y : α) (s : UnitSet) (hne : cmp x y ≠ some .eq) :
    numCmp uAsIs ⟨x, []⟩ ⟨y, s⟩ = .ord (cmp x y) ∧ numCmp uAsIs ⟨x, s⟩ ⟨y, []⟩ = .ord (cmp x y) :=
  ⟨numCmp_unitless uAsIs ⟨x, []⟩ ⟨y, s⟩ rfl (Or.inr hne),
   numCmp_unitless uAsIs ⟨x, s⟩ ⟨y, []⟩ (Bool.or_true _) (Or.inr hne)⟩

/-- REFUTATION (`uAsIs`: every deviation flag on): with equal values a unit and a unitless number are
unordered, so `<=` and `>=` are false (`1px <= 1`), whereas the specification says true. -/
theorem unitless_le_asis_false (x y : α) (u : U) (heq : cmp x y = some .eq) :
    evalOp uAsIs .le ⟨x, [(u, 1)]⟩ ⟨y, []⟩ = .bool false
      ∧ evalOp uSpec .le ⟨x, [(u, 1)]⟩ ⟨y, []⟩ = .bool true := by
  have h1 : ([(u, (1 : Int))] : UnitSet) ≠ [] := by simp
  have ha : uAsIs.cmpUnitlessEqNone = true := rfl
  have hs : uSpec.cmpUnitlessEqNone = false := rfl
  simp [evalOp, numOrd, numCmp, h1, isNone, heq, ha, hs]

/-- FULL (specification): two different real units without a conversion factor: `+`, `-`
and the four ordering operators are errors. -/
theorem incompatible_is_error (x y : α) (u v : U) (hu : real u) (hv : real v) (hne : u ≠ v)
    (h : scaleTo (α := α) uSpec v u = none) :
    numAdd uSpec ⟨x, [(u, 1)]⟩ ⟨y, [(v, 1)]⟩ = .err
      ∧ numSub uSpec ⟨x, [(u, 1)]⟩ ⟨y, [(v, 1)]⟩ = .err
      ∧ ∀ want, numOrd uSpec want ⟨x, [(u, 1)]⟩ ⟨y, [(v, 1)]⟩ = .err :=
  incompatible_outcome uSpec x y u v hu hv hne h

/-- …and `==` is false, never an error -/
theorem incompatible_eq_false (q : UQuirks) (x y : α) (u v : U) (hu : real u) (hv : real v) (hne : u ≠ v)
    (h : scaleTo (α := α) q v u = none) :
    numEq q ⟨x, [(u, 1)]⟩ ⟨y, [(v, 1)]⟩ = false := by
  simp [numEq, single_ne hne, isNone_single _ hu, isNone_single _ hv, asUnitset, setScaleTo_single, h]

/-- the hypotheses are satisfiable: px and em -/
example : scaleTo (α := α) uSpec (.known .em) (.known .px) = none := rfl

/-- REFUTATION (`uAsIs`: every deviation flag on): the same pair is kept unevaluated by `+`/`-` and ordered
`false` (`1px + 1em`, `1px < 1em`). -/
theorem incompatible_asis_kept (x y : α) (u v : U) (hu : real u) (hv : real v) (hne : u ≠ v)
    (h : scaleTo (α := α) uAsIs v u = none) :
    numAdd uAsIs ⟨x, [(u, 1)]⟩ ⟨y, [(v, 1)]⟩ = .kept
      ∧ numSub uAsIs ⟨x, [(u, 1)]⟩ ⟨y, [(v, 1)]⟩ = .kept
      ∧ ∀ want, numOrd uAsIs want ⟨x, [(u, 1)]⟩ ⟨y, [(v, 1)]⟩ = .bool false :=
  incompatible_outcome uAsIs x y u v hu hv hne h

example : scaleTo (α := α) uAsIs (.known .em) (.known .px) = none := rfl

/-- PARTIAL (`uAsIs`: every deviation flag on): for two different known units outside the three defect groups
that the specification converts, `+`, `-` and comparison of the code are the
specification's. -/
theorem convertible_asis_partial (x y r : α) (u v : KU) (hu : real (.known u)) (hv : real (.known v))
    (hne : u ≠ v) (hdev : devPair v u = false)
    (h : scaleTo (α := α) uSpec (.known v) (.known u) = some r) :
    numAdd uAsIs ⟨x, [(.known u, 1)]⟩ ⟨y, [(.known v, 1)]⟩ = numAdd uSpec ⟨x, [(.known u, 1)]⟩ ⟨y, [(.known v, 1)]⟩
    ∧ numSub uAsIs ⟨x, [(.known u, 1)]⟩ ⟨y, [(.known v, 1)]⟩ = numSub uSpec ⟨x, [(.known u, 1)]⟩ ⟨y, [(.known v, 1)]⟩
    ∧ numCmp uAsIs ⟨x, [(.known u, 1)]⟩ ⟨y, [(.known v, 1)]⟩ = numCmp uSpec ⟨x, [(.known u, 1)]⟩ ⟨y, [(.known v, 1)]⟩ := by
  have hne' : U.known u ≠ U.known v := by intro e; apply hne; injection e
  have ha := (asis_scaleTo_partial (α := α) v u hdev).trans h
  refine ⟨?_, ?_, ?_⟩
  · rw [add_converts uAsIs x y r _ _ hu hv hne' ha, add_converts uSpec x y r _ _ hu hv hne' h]
  · rw [sub_converts uAsIs x y r _ _ hu hv hne' ha, sub_converts uSpec x y r _ _ hu hv hne' h]
  · rw [cmp_converts uAsIs x y r _ _ hu hv hne' ha, cmp_converts uSpec x y r _ _ hu hv hne' h,
      asis_scaleTo_partial u v (devPair_symm u v ▸ hdev)]

example : devPair .cm .inch = false ∧ real (.known .cm) ∧ real (.known .inch) := by
  exact ⟨rfl, nofun, nofun⟩

/-- for every dimension the exponent of the product is the sum of the
operands' exponents (after `simplify`), for every flag setting and number carrier. -/
theorem mul_exponents (q : UQuirks) (d : Dim) (a b : Numeric α) :
    expo q d (numMul q a b).u = expo q d a.u + expo q d b.u := by
  simp [numMul, numSimplify, simplify_expo, expo_setMul]

/-- …and of the quotient their difference -/
theorem div_exponents (q : UQuirks) (d : Dim) (a b : Numeric α) :
    expo q d (numDiv q a b).u = expo q d a.u - expo q d b.u := by
  simp [numDiv, numSimplify, simplify_expo, expo_setDiv]

/-- `simplify` does not change any dimension's exponent -/
theorem simplify_exponents (q : UQuirks) (d : Dim) (s : UnitSet) :
    expo q d (simplify (α := α) q s).1 = expo q d s :=
  simplify_expo q d s

/-- in the set `simplify` returns, every exponent is non-zero and no
two units are convertible with each other (so no convertible pair is left on opposite sides
of the fraction bar, nor on the same side) — for every flag setting and number carrier. -/
theorem simplify_normal_form (q : UQuirks) (s : UnitSet) :
    (∀ x ∈ (simplify (α := α) q s).1, x.2 ≠ 0)
      ∧ (simplify (α := α) q s).1.Pairwise (fun a b => conv q a.1 b.1 = false) := by
  constructor
  · exact fun x hx => of_decide_eq_true (List.mem_filter.mp hx).2
  · refine ((simpLoop_clean (α := α) q s.length s (ofNat 1) (Nat.le_refl _)).filter _).imp_of_mem ?_
    intro a b ha hb hab
    rw [conv_symm]
    exact hab (of_decide_eq_true (List.mem_filter.mp ha).2) (of_decide_eq_true (List.mem_filter.mp hb).2)

/-- in particular no conversion factor exists between two units of a simplified set -/
theorem simplify_no_scale (q : UQuirks) (s : UnitSet) :
    (simplify (α := α) q s).1.Pairwise (fun a b => scaleTo (α := α) q a.1 b.1 = none) :=
  (simplify_normal_form (α := α) q s).2.imp fun h => (scaleTo_eq_none_iff q _ _).mpr h

/-- the results of `*` and `math.div` are simplified: their unit sets are in normal form -/
theorem mul_result_simplified (q : UQuirks) (a b : Numeric α) :
    (∀ x ∈ (numMul q a b).u, x.2 ≠ 0)
      ∧ (numMul q a b).u.Pairwise (fun x y => conv q x.1 y.1 = false) :=
  simplify_normal_form q (setMul a.u b.u)

theorem div_result_simplified (q : UQuirks) (a b : Numeric α) :
    (∀ x ∈ (numDiv q a b).u, x.2 ≠ 0)
      ∧ (numDiv q a b).u.Pairwise (fun x y => conv q x.1 y.1 = false) :=
  simplify_normal_form q (setDiv a.u b.u)

/-- `1px * 1in` and `math.div(1px, 1in)`: the convertible pair is merged / cancelled -/
example : (simplify (α := α) uSpec [(.known .px, 1), (.known .inch, 1)]).1 = [(.known .inch, 2)] := rfl
example : (simplify (α := α) uSpec [(.known .px, 1), (.known .inch, -1)]).1 = [] := rfl
example : (simplify (α := α) uSpec [(.known .px, 1), (.known .em, -1)]).1 = [(.known .px, 1), (.known .em, -1)] := rfl

/-- a set in normal form is a fixed point of `simplify`, with factor 1 -/
theorem simplify_of_normal_form (q : UQuirks) (s : UnitSet) (h0 : ∀ x ∈ s, x.2 ≠ 0)
    (hp : s.Pairwise fun a b => conv q a.1 b.1 = false) :
    simplify (α := α) q s = (s, ofNat 1) := by
  have hp' : s.Pairwise fun a b => conv q b.1 a.1 = false :=
    List.Pairwise.imp (fun {a b} h => by rw [conv_symm]; exact h) hp
  simp only [simplify, simpLoop_id q s.length s (ofNat 1) hp', dropZero_id s h0]

/-- simplifying a simplified set changes nothing and scales by 1 -/
theorem simplify_idempotent (q : UQuirks) (s : UnitSet) :
    simplify (α := α) q (simplify (α := α) q s).1 = ((simplify (α := α) q s).1, ofNat 1) :=
  simplify_of_normal_form q _ (simplify_normal_form (α := α) q s).1 (simplify_normal_form (α := α) q s).2

/-- the result of `+`/`-` carries the left operand's unit set unchanged (no simplification,
no conversion of the left side); only a unitless left operand takes the right one's. -/
theorem addSub_result_unit (q : UQuirks) (f : α → α → α) (a b n : Numeric α)
    (h : numAddSub q f a b = .num n) :
    n.u = a.u ∨ (isNone a.u = true ∧ n.u = b.u) := by
  unfold numAddSub at h
  by_cases h1 : (decide (a.u = b.u) || isNone b.u) = true
  · rw [if_pos h1] at h
    cases h
    exact .inl rfl
  rw [if_neg h1] at h
  by_cases h2 : isNone a.u = true
  · rw [if_pos h2] at h
    cases h
    exact .inr ⟨h2, rfl⟩
  rw [if_neg h2] at h
  cases hs : asUnitset q b a.u with
  | some r =>
    rw [hs] at h
    cases h
    exact .inl rfl
  | none =>
    rw [hs] at h
    dsimp only at h
    split at h <;> cases h

theorem add_result_unit (q : UQuirks) (a b n : Numeric α) (h : numAdd q a b = .num n)
    (ha : isNone a.u = false) : n.u = a.u :=
  (addSub_result_unit q add a b n h).resolve_right fun h2 => Bool.false_ne_true (ha ▸ h2.1)

theorem sub_result_unit (q : UQuirks) (a b n : Numeric α) (h : numSub q a b = .num n)
    (ha : isNone a.u = false) : n.u = a.u :=
  (addSub_result_unit q sub a b n h).resolve_right fun h2 => Bool.false_ne_true (ha ▸ h2.1)

section field
variable {K : Type} [Field K] [CharZero K] (p : K) (c : K → K → Option Ordering)

/-- returned factor × Π factor(u)^e of the simplified set
= Π factor(u)^e of the original set; `p ≠ 0` is the value standing for 1/(2π). -/
theorem simplify_preserves_quantity (hp : p ≠ 0) (q : UQuirks) (s : UnitSet) :
    (@simplify K (fieldNum K p c) q s).2 * qty p c (@simplify K (fieldNum K p c) q s).1 = qty p c s := by
  simp only [simplify, qty_dropZero]
  rw [simpLoop_qty p c (fac_ne_zero p c hp), f_ofNat, Nat.cast_one, one_mul]

/-- the quantity of a number: value × Π factor(u)^e -/
def quantity (n : Numeric K) : K := n.v * qty p c n.u

/-- `*` multiplies quantities -/
theorem mul_preserves_quantity (hp : p ≠ 0) (q : UQuirks) (a b : Numeric K) :
    quantity p c (@numMul K (fieldNum K p c) q a b) = quantity p c a * quantity p c b := by
  have h := simplify_preserves_quantity p c hp q (setMul a.u b.u)
  simp only [quantity, numMul, numSimplify, f_mul]
  rw [mul_assoc, h, qty_setMul p c (fac_ne_zero p c hp)]
  ring

/-- `math.div` divides quantities -/
theorem div_preserves_quantity (hp : p ≠ 0) (q : UQuirks) (a b : Numeric K) :
    quantity p c (@numDiv K (fieldNum K p c) q a b) = quantity p c a / quantity p c b := by
  have h := simplify_preserves_quantity p c hp q (setDiv a.u b.u)
  simp only [quantity, numDiv, numSimplify, f_mul, f_div]
  rw [mul_assoc, h, qty_setDiv p c (fac_ne_zero p c hp)]
  ring

/-- `+` on convertible units adds quantities: x·F(u) + y·F(v) = (x + y·r)·F(u) -/
theorem add_preserves_quantity (hp : p ≠ 0) (q : UQuirks) (x y r : K) (u v : U)
    (h : @scaleTo K (fieldNum K p c) q v u = some r) :
    quantity p c ⟨x + y * r, [(u, 1)]⟩ = quantity p c ⟨x, [(u, 1)]⟩ + quantity p c ⟨y, [(v, 1)]⟩ := by
  have hF := fac_ne_zero p c hp
  simp only [quantity, qty, zpow_one, mul_one, scaleTo_val p c hF q v u r h]
  rw [add_mul, mul_assoc, div_mul_cancel₀ _ (hF u)]

end field

end C11
