/-
C29 — Math functions compute the specified values (PARTIAL, see notes/C29.md).
Part 1: theorems for EVERY number carrier (`[MOps α]`, hence for whatever f64 and libm do):
units kept, unitless / angle requirements, min/max/clamp return one of their arguments,
incompatible units are errors.  Part 2: exact-value theorems on `Rat` (round half away
from zero, floor, ceil, abs, percentage, extremality of min/max after unit conversion)
for arbitrary libm parameters and any positive `rad` factor.
NOT proved (kept visible): the values of sqrt/exp/log/pow/sin/cos/tan/asin/acos/atan/atan2
— they are libm's; the check compares them with Python's math at 10 printed digits.
-/
import RsassModel.MathFn.LemmasRat
namespace MathFn
open MOps

section parametric
variable {α : Type} [MOps α]

/-! ### abs / ceil / floor / round keep units -/
theorem abs_keep_unit (x : Q α) : absF x = .num (abs x.v) x.u := rfl
theorem ceil_keep_unit (x : Q α) : ceilF x = .num (ceil x.v) x.u := rfl
theorem floor_keep_unit (x : Q α) : floorF x = .num (floor x.v) x.u := rfl
theorem round_keep_unit (x : Q α) : roundF x = .num (round x.v) x.u := rfl

/-- FULL: `percentage` multiplies a unitless number by 100 and attaches `%`; a number with
units is an error. -/
theorem percentage_spec (x : Q α) :
    (x.u = .none → percentage x = .num (mul x.v (ofNat 100)) .percent) ∧
    (x.u ≠ .none → percentage x = .err) := by
  constructor <;> intro h <;> simp [percentage, h]

/-- FULL: any argument with a unit is an error. -/
theorem unitless_required (f : UFn) (x y : Q α) :
    (x.u ≠ .none → unitlessFn f x = .err) ∧
    (x.u ≠ .none ∨ y.u ≠ .none → powF x y = .err ∧ logBase x y = .err) := by
  constructor
  · intro h
    simp [unitlessFn, h]
  · rintro (h | h)
    · simp [powF, logBase, h]
    · by_cases hx : x.u = .none <;> simp [powF, logBase, h, hx]

/-- FULL: on unitless input they are accepted: `unitlessFn` returns a number whose unit is
none or `deg` (the model gives none for sqrt/exp/ln and `deg` for asin/acos/atan; the
statement records only the disjunction, and not the value), `pow` and `log` return the libm
value, unitless. -/
theorem unitless_accepted (f : UFn) (x y : Q α) (hx : x.u = .none) (hy : y.u = .none) :
    (∃ v u, unitlessFn f x = .num v u ∧ (u = .none ∨ u = .deg)) ∧
    powF x y = .num (pow x.v y.v) .none ∧
    logBase x y = .num (div (ln x.v) (ln y.v)) .none := by
  refine ⟨?_, by rw [powF, if_pos hx, if_pos hy], by rw [logBase, if_pos hx, if_pos hy]⟩
  unfold unitlessFn
  rw [if_pos hx]
  cases f with
  | sqrt | exp | ln => exact ⟨_, _, rfl, Or.inl rfl⟩
  | asin | acos | atan => exact ⟨_, _, rfl, Or.inr rfl⟩

example : ∃ x : Q Rat, x.u = .none := ⟨⟨2, .none⟩, rfl⟩

/-- FULL: `sin`/`cos`/`tan` accept exactly the unitless numbers (taken as radians) and the
angle units; every other unit is an error. -/
theorem angle_required (f : TFn) (x : Q α) :
    (trigFn f x = .err) ↔ (x.u ≠ .none ∧ x.u.dim ≠ .angle) := by
  unfold trigFn radians
  by_cases h0 : x.u = .none
  · simp only [h0, if_true]
    cases f <;> simp
  · simp only [h0, if_false]
    by_cases hd : x.u.dim = .angle
    · obtain ⟨r, hr⟩ := asUnit_some_of_dim (α := α) x .rad hd
      cases f <;> simp [hr, hd]
    · simp [asUnit_none_of_dim x .rad (fun h => hd (by rw [h]; rfl)) hd, h0, hd]

/-- FULL: a unitless argument is used as it is (radians); an angle is multiplied by the
conversion factor to `rad`. -/
theorem angle_conversion (x : Q α) :
    (x.u = .none → radians x = some x.v) ∧
    (x.u = .rad → radians x = some (mul x.v (ofNat 1))) ∧
    (x.u ≠ .none → x.u ≠ .rad → x.u.dim = .angle →
      radians x = some (mul x.v (div (factor x.u) (factor MUnit.rad)))) := by
  refine ⟨fun h => by simp [radians, h], fun h => by simp [radians, asUnit, unitScale, h], ?_⟩
  intro h0 h1 hd
  have hd' : x.u.dim = MUnit.rad.dim := hd
  simp [radians, asUnit, unitScale, h0, h1, hd']

/-- FULL (any `MathQuirks`, every carrier): whatever number `math.min` / `math.max` returns is
one of the arguments, value and unit unchanged. -/
theorem extreme_is_argument (q : MathQuirks) (pref : Ordering) (xs : List (Q α)) (v : α) (u : MUnit)
    (h : extreme q pref xs = .num v u) : ∃ x, x ∈ xs ∧ x.v = v ∧ x.u = u := by
  cases xs with
  | nil => simp [extreme] at h
  | cons x rest => exact extremeLoop_mem q pref x rest v u h

theorem min_is_argument (q : MathQuirks) (xs : List (Q α)) (v : α) (u : MUnit)
    (h : extreme q .lt xs = .num v u) : ∃ x, x ∈ xs ∧ x.v = v ∧ x.u = u :=
  extreme_is_argument q .lt xs v u h

theorem max_is_argument (q : MathQuirks) (xs : List (Q α)) (v : α) (u : MUnit)
    (h : extreme q .gt xs = .num v u) : ∃ x, x ∈ xs ∧ x.v = v ∧ x.u = u :=
  extreme_is_argument q .gt xs v u h

/-- FULL: no arguments is an error. -/
theorem extreme_empty (q : MathQuirks) (pref : Ordering) : extreme (α := α) q pref [] = .err := rfl

/-- FULL: `clamp` returns `$min`, `$number` or `$max` unchanged, or an error. -/
theorem clamp_is_argument (q : MathQuirks) (mn num mx : Q α) :
    clamp q mn num mx = .err ∨ clamp q mn num mx = .num mn.v mn.u ∨
    clamp q mn num mx = .num num.v num.u ∨ clamp q mn num mx = .num mx.v mx.u := by
  rw [clamp_eq]
  split
  · exact Or.inl rfl
  · split
    · exact Or.inl rfl
    · rcases clampPick_mem q mn num mx with h | h | h <;> rw [h]
      · exact Or.inr (Or.inl rfl)
      · exact Or.inr (Or.inr (Or.inl rfl))
      · exact Or.inr (Or.inr (Or.inr rfl))

/-- FULL (specification model): when the running extreme and the next argument both have
units, of different dimensions, `min`/`max` is an error — whatever the values (NaN included). -/
theorem incompatible_units_error (pref : Ordering) (found v : Q α) (rest : List (Q α))
    (ha : found.u ≠ .none) (hb : v.u ≠ .none) (hd : found.u.dim ≠ v.u.dim) :
    extremeLoop spec pref found (v :: rest) = .err ∧ extreme spec pref (found :: v :: rest) = .err := by
  have h := cmp2_none_of_incompatible spec found v ha hb hd
  have hne : found.u ≠ v.u := fun e => hd (by rw [e])
  simp only [extreme, extremeLoop, h]
  simp [spec, comparableU, unitScale, hne, ha, hb, hne.symm, hd.symm]

/-- FULL (specification model): a NaN argument among comparable numbers is neither larger nor
smaller — the running extreme stays (whatever is returned is still one of the arguments,
`extreme_is_argument`). -/
theorem nan_keeps_candidate (pref : Ordering) (found v : Q α) (rest : List (Q α))
    (hc : cmp2 spec found v = none) (hu : comparableU (α := α) found.u v.u = true) :
    extremeLoop spec pref found (v :: rest) = extremeLoop spec pref found rest := by
  simp only [extremeLoop, hc]
  simp [spec, hu]

/-- FULL: `clamp` with a `$number` or `$max` whose unit is incompatible with `$min`'s (or
unitless against units) is an error. -/
theorem clamp_incompatible_error (q : MathQuirks) (mn num mx : Q α)
    (h : (num.u ≠ .none ∧ mn.u ≠ .none ∧ num.u.dim ≠ mn.u.dim) ∨
         (mx.u ≠ .none ∧ mn.u ≠ .none ∧ mx.u.dim ≠ mn.u.dim) ∨
         ((num.u = .none) ≠ (mn.u = .none)) ∨ ((mx.u = .none) ≠ (mn.u = .none))) :
    clamp q mn num mx = .err := by
  apply clamp_of_bad
  rcases h with ⟨h1, h2, h3⟩ | ⟨h1, h2, h3⟩ | h | h
  · exact Or.inl (clampBad_of_dim _ _ h1 h2 h3)
  · exact Or.inr (clampBad_of_dim _ _ h1 h2 h3)
  · exact Or.inl (clampBad_of_unitless _ _ h)
  · exact Or.inr (clampBad_of_unitless _ _ h)

/-- PARTIAL (`asis`, the code before 424b303 with the CSS fallback): the same for `min`/`max`
when CSS could not compare the two units either (different CSS dimensions, none of them `%`). -/
theorem incompatible_units_error_asis_partial (pref : Ordering) (found v : Q α) (rest : List (Q α))
    (ha : found.u ≠ .none) (hb : v.u ≠ .none) (hd : found.u.dim ≠ v.u.dim)
    (hc : mayCmpCss found.u v.u = false) :
    extreme asis pref (found :: v :: rest) = .err := by
  have h := cmp2_none_of_incompatible asis found v ha hb hd
  simp only [extreme, extremeLoop, h]
  simp [asis, hc]

example : mayCmpCss MUnit.px MUnit.s = false := by decide

end parametric

section exact
variable (L : Libm)

/-- REFUTATION (known finding C29-extreme-css-fallback): `math.min(1px, 1%)` is neither an
error nor one of its arguments. -/
theorem extreme_css_fallback_refuted :
    @extreme Rat (ratOps L) asis .lt [⟨1, .px⟩, ⟨1, .percent⟩] = Res.cssCall ∧
    @extreme Rat (ratOps L) spec .lt [⟨1, .px⟩, ⟨1, .percent⟩] = Res.err := by
  constructor <;> simp [extreme, extremeLoop, cmp2, qcmp, asUnit, unitScale, MUnit.dim, Dim.css,
    mayCmpCss, asis, spec, comparableU]

/-- FULL: `floor` is the greatest integer not above the value. -/
theorem floor_spec (x : Rat) : ∃ n : Int, (ratOps L).floor x = (n : Rat) ∧ (n : Rat) ≤ x ∧ x < n + 1 :=
  ⟨⌊x⌋, rfl, Int.floor_le x, Int.lt_floor_add_one x⟩

/-- FULL: `ceil` is the least integer not below the value. -/
theorem ceil_spec (x : Rat) : ∃ n : Int, (ratOps L).ceil x = (n : Rat) ∧ x ≤ n ∧ (n : Rat) < x + 1 := by
  exact ⟨⌈x⌉, (Int.cast_neg _).symm, Int.le_ceil x, Int.ceil_lt_add_one x⟩

/-- FULL: `abs` of the exact carrier (`if x < 0 then -x else x`) is `|x|`. -/
theorem abs_spec (x : Rat) : (ratOps L).abs x = |x| := by
  show (if x < 0 then -x else x) = |x|
  split
  · next h => rw [abs_of_neg h]
  · next h => rw [abs_of_nonneg (not_lt.mp h)]

/-- FULL: `round` returns an integer at distance at most 1/2, and on an exact tie the one
farther from zero (round half away from zero). -/
theorem round_half_away (x : Rat) :
    ∃ n : Int, (ratOps L).round x = (n : Rat) ∧ |(n : Rat) - x| ≤ 1 / 2 ∧
      (|(n : Rat) - x| = 1 / 2 → |x| < |(n : Rat)|) := by
  show ∃ n : Int, roundQ x = (n : Rat) ∧ _
  by_cases h : 0 ≤ x
  · obtain ⟨a, b⟩ := near_half _ x (Int.floor_le _) (Int.lt_floor_add_one _)
    refine ⟨⌊x + 1 / 2⌋, if_pos h, a, fun ht => ?_⟩
    rw [abs_of_nonneg h]
    exact lt_of_lt_of_le (b ht) (le_abs_self _)
  · -- `round x = -⌊-x + ½⌋`: the same fact about `-x`, mirrored
    obtain ⟨a, b⟩ := near_half _ (-x) (Int.floor_le _) (Int.lt_floor_add_one _)
    have e : ((-⌊-x + 1 / 2⌋ : ℤ) : ℚ) - x = -(((⌊-x + 1 / 2⌋ : ℤ) : ℚ) - -x) := by
      push_cast
      ring
    refine ⟨-⌊-x + 1 / 2⌋, ?_, ?_, fun ht => ?_⟩
    · rw [roundQ, if_neg h, Int.cast_neg]
      rfl
    · rw [e, abs_neg]
      exact a
    · rw [e, abs_neg] at ht
      rw [abs_of_neg (not_le.mp h), Int.cast_neg, abs_neg]
      exact lt_of_lt_of_le (b ht) (le_abs_self _)

/-- the ties of the statement: 0.5 ↦ 1, -0.5 ↦ -1, 2.5 ↦ 3, -2.5 ↦ -3 -/
example : roundQ (1 / 2) = 1 ∧ roundQ (-1 / 2) = -1 ∧ roundQ (5 / 2) = 3 ∧ roundQ (-5 / 2) = -3 := by
  refine ⟨by decide +kernel, by decide +kernel, by decide +kernel, by decide +kernel⟩

/-- FULL: `percentage` of a unitless `x` is `100·x %`. -/
theorem percentage_value (x : Rat) :
    @percentage Rat (ratOps L) ⟨x, .none⟩ = Res.num (x * 100) .percent := by
  simp [percentage, MOps.mul, MOps.ofNat]

/-- FULL (exact carrier, any `MathQuirks`): for arguments that all have units of one dimension,
`math.min` returns an argument whose value — converted to the base unit of the dimension
with the exact factors — is at most every argument's (extremality after unit conversion).
`radFactor` (1/2π) may be any positive number. -/
theorem min_extremal (hρ : 0 < L.radFactor) (q : MathQuirks) (d : Dim) (x : Q Rat) (xs : List (Q Rat))
    (h : sameDim d (x :: xs)) :
    ∃ r, @extreme Rat (ratOps L) q .lt (x :: xs) = Res.num r.v r.u ∧ r ∈ x :: xs ∧
      ∀ y, y ∈ x :: xs → canon L r ≤ canon L y :=
  extremeLoop_extremal L hρ q .lt (· ≤ ·) le_refl (fun _ _ _ => le_trans)
    (fun a b h => ((cmpQ_lt a b).mp h).le) (fun a b h => not_lt.mp (mt (cmpQ_lt a b).mpr h))
    d xs x h

theorem max_extremal (hρ : 0 < L.radFactor) (q : MathQuirks) (d : Dim) (x : Q Rat) (xs : List (Q Rat))
    (h : sameDim d (x :: xs)) :
    ∃ r, @extreme Rat (ratOps L) q .gt (x :: xs) = Res.num r.v r.u ∧ r ∈ x :: xs ∧
      ∀ y, y ∈ x :: xs → canon L y ≤ canon L r :=
  extremeLoop_extremal L hρ q .gt (· ≥ ·) le_refl (fun _ _ _ h1 h2 => le_trans h2 h1)
    (fun a b h => ((cmpQ_gt a b).mp h).le) (fun a b h => not_lt.mp (mt (cmpQ_gt a b).mpr h))
    d xs x h

example : sameDim .length [(⟨1, .inch⟩ : Q Rat), ⟨96, .px⟩, ⟨2, .cm⟩] := by
  intro x hx
  simp at hx
  rcases hx with rfl | rfl | rfl <;> exact ⟨by decide, rfl⟩

/-- FULL (exact carrier, any `MathQuirks`): for `$min`, `$number`, `$max` with units of one
dimension, `clamp` returns the argument whose base-unit value is
`max (min number max) min` — i.e. `$number` limited to `[$min, $max]` after unit conversion. -/
theorem clamp_value (hρ : 0 < L.radFactor) (q : MathQuirks) (d : Dim) (mn num mx : Q Rat)
    (h : sameDim d [mn, num, mx]) :
    ∃ r, @clamp Rat (ratOps L) q mn num mx = Res.num r.v r.u ∧ (r = mn ∨ r = num ∨ r = mx) ∧
      canon L r = max (min (canon L num) (canon L mx)) (canon L mn) := by
  have hmn := h mn (by simp)
  have hnum := h num (by simp)
  have hmx := h mx (by simp)
  refine ⟨@clampPick Rat (ratOps L) q mn num mx, ?_, @clampPick_mem Rat (ratOps L) q mn num mx, ?_⟩
  · rw [@clamp_eq Rat (ratOps L), clampBad_of_same_dim mn.u num.u hnum hmn,
      clampBad_of_same_dim mn.u mx.u hmx hmn, if_neg Bool.false_ne_true,
      if_neg Bool.false_ne_true]
  · unfold clampPick
    rw [qge_canon L hρ q hnum hmx]
    by_cases h1 : canon L mx ≤ canon L num
    · rw [decide_eq_true h1, if_pos rfl, qle_canon L hρ q hmx hmn, min_eq_right h1]
      by_cases h2 : canon L mx ≤ canon L mn
      · rw [decide_eq_true h2, if_pos rfl, max_eq_right h2]
      · rw [decide_eq_false h2, if_neg Bool.false_ne_true, max_eq_left (not_le.mp h2).le]
    · rw [decide_eq_false h1, if_neg Bool.false_ne_true, qle_canon L hρ q hnum hmn,
        min_eq_left (not_le.mp h1).le]
      by_cases h2 : canon L num ≤ canon L mn
      · rw [decide_eq_true h2, if_pos rfl, max_eq_right h2]
      · rw [decide_eq_false h2, if_neg Bool.false_ne_true, max_eq_left (not_le.mp h2).le]

example : sameDim .length [(⟨1, .px⟩ : Q Rat), ⟨5, .inch⟩, ⟨3, .cm⟩] := by
  intro x hx
  simp at hx
  rcases hx with rfl | rfl | rfl <;> exact ⟨by decide, rfl⟩

/-- the exact conversion table: 1in = 96px = 2.54cm = 72pt, 1cm = 10mm, 1pc = 12pt,
1mm = 4Q, 1turn = 360deg = 400grad, 1s = 1000ms, 1kHz = 1000Hz, 1dppx = 96dpi,
1dpcm = 2.54dpi -/
theorem factor_table (ρ : Rat) :
    factorQ ρ .inch = 96 * factorQ ρ .px ∧ factorQ ρ .inch = (254 / 100) * factorQ ρ .cm ∧
    factorQ ρ .cm = 10 * factorQ ρ .mm ∧ factorQ ρ .inch = 72 * factorQ ρ .pt ∧
    factorQ ρ .pc = 12 * factorQ ρ .pt ∧ factorQ ρ .mm = 4 * factorQ ρ .q ∧
    factorQ ρ .turn = 360 * factorQ ρ .deg ∧ factorQ ρ .turn = 400 * factorQ ρ .grad ∧
    factorQ ρ .s = 1000 * factorQ ρ .ms ∧ factorQ ρ .khz = 1000 * factorQ ρ .hz ∧
    factorQ ρ .dppx = 96 * factorQ ρ .dpi ∧ factorQ ρ .dpcm = (254 / 100) * factorQ ρ .dpi := by
  simp only [factorQ]
  norm_num

end exact
end MathFn
