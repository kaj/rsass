/-
C22 — Placeholder selectors never reach the output.  Property theorems only; lemmas in
RsassModel/Sel/PlaceholderLemmas.lean, model in RsassModel/Sel/Placeholder.lean.
`phSpec` = deviation flags off = `phAsis`, the code today (since /repo 27c3ca1);
`phOld` = the code before (`notLeavesEmptyCompound`).
-/
import RsassModel.Sel.PlaceholderLemmas

namespace Sel.C22

/-- The filtered list is exactly the order-preserving sub-list of the per-selector results:
nothing is reordered, duplicated or invented; no survivors ⇒ `Opt::None` (for every flag
setting). -/
theorem noPlaceholder_filters (q : PhQuirks) (s : SelSet) :
    SelSet.noPlaceholder q s
      = posResult (s.filterMap (fun x => (Selector.noPlaceholder q x).toOption)) := by
  unfold SelSet.noPlaceholder Opt.collectPos
  rw [collectPosAux_noAny _ _ (Selector.noPlaceholderList_noAny q s), Selector.noPlaceholderList_eq_map]
  simp [List.filterMap_map, Function.comp_def]

/-- A selector without any placeholder (also none inside pseudo-class arguments) survives
unchanged — same AST, hence same text. -/
theorem noPlaceholder_keeps_text (q : PhQuirks) (cm : Bool) (s : Selector) (h : s.phFree = true) :
    Selector.noPlaceholder q s = .some s ∧
      ∀ t, Selector.noPlaceholder q s = .some t → Selector.print cm t = Selector.print cm s := by
  have := Selector.noPlaceholder_phFree q s h
  refine ⟨this, ?_⟩
  intro t ht
  rw [this] at ht
  cases ht
  rfl

example : (Selector.rel .parent (.leaf (Compound.ofElem "a"))
    (.mk false none [] [['x']] none [] [.mk "not".toList (.sel [.leaf (Compound.ofClass "y")]) false])).phFree = true := by
  decide

/-- A complex selector with a placeholder in any of its compounds is removed. -/
theorem placeholder_selector_removed (q : PhQuirks) (s : Selector)
    (h : s.anyCompound (fun c => !c.placeholders.isEmpty) = true) :
    Selector.noPlaceholder q s = .none := by
  apply Selector.noPlaceholder_none_of_compound
  apply Selector.anyCompound_mono _ _ _ s h
  intro c hc
  rw [Compound.noPlaceholder_of_placeholders q c (by intro hh; simp [hh] at hc)]; rfl

/-- A rule all of whose selectors contain a placeholder is not emitted (`Rule::write`
returns before writing anything), whatever its body. -/
theorem all_removed_not_emitted (q : PhQuirks) (cm hasBody : Bool) (s : SelSet)
    (h : ∀ x ∈ s, x.anyCompound (fun c => !c.placeholders.isEmpty) = true) :
    ruleHeaderQ q cm hasBody s = none := by
  unfold ruleHeaderQ
  split
  · rfl
  · rw [noPlaceholder_filters, List.filterMap_eq_nil_iff.mpr
      (fun x hx => by rw [placeholder_selector_removed q x (h x hx)]; rfl)]
    rfl

example : ∀ x ∈ ([.leaf (Compound.ofPlaceholder "p"), .rel .ancestor (.leaf (Compound.ofElem "a"))
    (Compound.ofPlaceholder "q")] : SelSet), x.anyCompound (fun c => !c.placeholders.isEmpty) = true := by
  decide

/-- `:not` inverts, part 1: a `:not(...)` all of whose argument selectors are removed matches
everything (`Opt::Any`); any other selector pseudo-class in that situation matches nothing. -/
theorem not_inverts (q : PhQuirks) (n : List Char) (e : Bool) (args : List Selector)
    (h : ∀ x ∈ args, Selector.noPlaceholder q x = .none) :
    Pseudo.noPlaceholder q (.mk n (.sel args) e)
      = if nameIn n [['n', 'o', 't']] then .any else .none := by
  have h0 : collectPosAux (Selector.noPlaceholderList q args) [] = .none := by
    rw [← Opt.collectPos, ← SelSet.noPlaceholder, noPlaceholder_filters,
      List.filterMap_eq_nil_iff.mpr (fun x hx => by rw [h x hx]; rfl)]
    rfl
  simp only [Pseudo.noPlaceholder, h0]
  cases nameIn n [['n', 'o', 't']] <;> rfl

/-- `:not` inverts, part 2: a pseudo-class that matches everything is dropped from its
compound, the other simple selectors stay (stated where another pseudo-class remains). -/
theorem not_dropped_from_compound (q : PhQuirks) (p : Pseudo) (ps : List Pseudo) (hps : ps ≠ [])
    (b : Bool) (e : Option (List Char)) (c : List (List Char)) (i : Option (List Char)) (a : List Attr)
    (h : Pseudo.noPlaceholder q p = .any) :
    Compound.noPlaceholder q (.mk b e [] c i a (p :: ps)) = Compound.noPlaceholder q (.mk b e [] c i a ps) := by
  have : ps.isEmpty = false := by cases ps <;> simp_all
  simp [Compound.noPlaceholder, Pseudo.noPlaceholderList, h, collectNegAux, this]

/-- `:is(%p)` (any selector pseudo-class that matches nothing) makes its compound match
nothing … -/
theorem is_removes_compound (q : PhQuirks) (p : Pseudo) (pre post : List Pseudo)
    (b : Bool) (e : Option (List Char)) (pl c : List (List Char)) (i : Option (List Char)) (a : List Attr)
    (hp : Pseudo.noPlaceholder q p = .none) :
    Compound.noPlaceholder q (.mk b e pl c i a (pre ++ p :: post)) = .none := by
  simp only [Compound.noPlaceholder]
  split
  · rfl
  · rw [Pseudo.noPlaceholderList_eq_map, List.map_append, List.map_cons, hp, collectNegAux_none]

/-- … and a compound that matches nothing removes the whole complex selector, wherever the
compound stands in it. -/
theorem removed_compound_removes_selector (q : PhQuirks) (s : Selector)
    (h : s.anyCompound (fun c => (Compound.noPlaceholder q c).isNone) = true) :
    Selector.noPlaceholder q s = .none :=
  Selector.noPlaceholder_none_of_compound q s h

/-- `a:is(%p)`: the hypotheses above are met -/
example : Pseudo.noPlaceholder phSpec (.mk "is".toList (.sel [.leaf (Compound.ofPlaceholder "p")]) false) = .none
    ∧ (Selector.leaf (.mk false (some ['a']) [] [] none []
        [.mk "is".toList (.sel [.leaf (Compound.ofPlaceholder "p")]) false])).anyCompound
        (fun c => (Compound.noPlaceholder phSpec c).isNone) = true := ⟨rfl, rfl⟩

/-- Deviation `notLeavesEmptyCompound` (repaired by 27c3ca1), partial: the old code agrees with the specification on every
compound that keeps a simple selector outside its pseudo-classes (given agreement on the
pseudo-class arguments). -/
theorem noPlaceholder_old_partial (b : Bool) (e : Option (List Char)) (pl c : List (List Char))
    (i : Option (List Char)) (a : List Attr) (ps : List Pseudo)
    (hne : (Compound.mk b e pl c i a []).isEmpty = false)
    (hps : Pseudo.noPlaceholderList phOld ps = Pseudo.noPlaceholderList phSpec ps) :
    Compound.noPlaceholder phOld (.mk b e pl c i a ps) = Compound.noPlaceholder phSpec (.mk b e pl c i a ps) := by
  simp only [Compound.noPlaceholder, hps, Compound.orUniversal, hne, Bool.and_false]

example : (Compound.mk false (some ['a']) [] [] none [] []).isEmpty = false := rfl

/-- Refutation of the full statement for the old code: `a :not(%p) { … }` is written with
the header `a ` (which selects `a`), selector semantics require `a *` (witness of known
finding C22-not-empties-compound). -/
theorem not_only_compound_old_refuted :
    ruleHeaderQ phOld false true [.rel .ancestor (.leaf (Compound.ofElem "a"))
        (.mk false none [] [] none [] [.mk "not".toList (.sel [.leaf (Compound.ofPlaceholder "p")]) false])]
      = some "a ".toList
    ∧ ruleHeaderQ phSpec false true [.rel .ancestor (.leaf (Compound.ofElem "a"))
        (.mk false none [] [] none [] [.mk "not".toList (.sel [.leaf (Compound.ofPlaceholder "p")]) false])]
      = some "a *".toList := by
  decide +kernel

/-- **No placeholder survives** (all flag settings): whatever `SelectorSet::no_placeholder` lets
through contains no `%name` anywhere — not in a compound and not, at any depth, inside the
selector argument of any pseudo-class or pseudo-element, whatever its name (`Selector.hasPh`
looks into every `PArg.sel`).  Proved by mutual induction over the nested selector AST. -/
theorem output_has_no_placeholder (q : PhQuirks) (s t : SelSet) (h : SelSet.noPlaceholder q s = .some t) :
    Selector.hasPhList t = false := by
  rw [Selector.hasPhList_false_iff]
  intro x hx
  obtain ⟨y, _, hy⟩ := SelSet.noPlaceholder_mem h hx
  exact Selector.noPlaceholder_hasPh q y x hy

/-- **Every pseudo with a selector argument is filtered**: for every name `n` (`is`, `not`,
`slotted`, `cue`, `current`, `nth-child`, vendor-prefixed or unknown) and both `:` and `::`
forms, what `Pseudo::no_placeholder` keeps has a placeholder-free argument.  There is no list
of "selector pseudo-classes" in the model: the argument being `Arg::Selector` is the only guard. -/
theorem every_selector_pseudo_filtered (q : PhQuirks) (n : List Char) (e : Bool) (args : List Selector)
    (p : Pseudo) (h : Pseudo.noPlaceholder q (.mk n (.sel args) e) = .some p) : p.hasPh = false :=
  Pseudo.noPlaceholder_hasPh q _ p h

/-- … and it is not vacuous: `::slotted(%p, .c)` keeps exactly `.c`, `::slotted(%p)` matches
nothing (so its complex selector is removed by `removed_compound_removes_selector`). -/
theorem slotted_is_filtered :
    Pseudo.noPlaceholder phSpec (.mk "slotted".toList
        (.sel [.leaf (Compound.ofPlaceholder "p"), .leaf (Compound.ofClass "c")]) true)
      = .some (.mk "slotted".toList (.sel [.leaf (Compound.ofClass "c")]) true)
    ∧ (Pseudo.noPlaceholder phSpec (.mk "slotted".toList (.sel [.leaf (Compound.ofPlaceholder "p")]) true)).isNone = true
    ∧ (Pseudo.mk "slotted".toList (.sel [.leaf (Compound.ofPlaceholder "p")]) true).hasPh = true := by
  refine ⟨rfl, rfl, rfl⟩

theorem asis_is_spec : phAsis = phSpec := rfl

end Sel.C22
