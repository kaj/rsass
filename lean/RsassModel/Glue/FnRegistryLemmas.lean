/-
Lemmas for C34 over `Glue/FnRegistry.lean`: shared ids resolve alike; equations of
`lookupRemove` and `bindParams`; mixed positional/named binding; named arguments in any order.
-/
import RsassModel.Glue.FnRegistry
namespace Glue.FnReg

section
variable {V C E : Type}

theorem lookupRemove_cons (n k : Name) (v : V) (r : List (Name × V)) :
    lookupRemove n ((k, v) :: r) =
      if k = n then some (v, r) else (lookupRemove n r).map fun x => (x.1, (k, v) :: x.2) := by
  show (if k = n then _ else _) = _
  split
  · rfl
  · cases lookupRemove n r <;> rfl

/-- a formal has taken its value: the binding goes in front of what the remaining formals bind -/
def pushVal (p : Name) (v : V) :
    Except ArgsErr (List (Name × Bound V) × List V × List (Name × V)) →
    Except ArgsErr (List (Name × Bound V) × List V × List (Name × V))
  | .ok (b, rp, rn) => .ok ((p, .val v) :: b, rp, rn)
  | .error e => .error e

theorem bindParams_cons_cons (p : Name) (d : Option V) (ps : List (Name × Option V)) (v : V)
    (pos : List V) (named : List (Name × V)) :
    bindParams ((p, d) :: ps) (v :: pos) named = pushVal p v (bindParams ps pos named) := by
  rfl

theorem bindParams_cons_nil (p : Name) (d : Option V) (ps : List (Name × Option V))
    (named : List (Name × V)) :
    bindParams ((p, d) :: ps) [] named =
      match lookupRemove p named with
      | some (v, named') => pushVal p v (bindParams ps [] named')
      | none =>
        match d with
        | some dv => pushVal p dv (bindParams ps [] named)
        | none => .error (.missing p) := by
  rfl

theorem shared_ids (t : IdTable) (g m f : Name) (h : t.shared g m f = true) :
    ∃ i, t.globalId g = some i ∧ t.moduleId m f = some i := by
  unfold IdTable.shared at h
  split at h
  · rename_i i j hi hj
    exact ⟨i, hi, hj.trans (congrArg some (eq_of_beq h).symm)⟩
  · cases h

theorem resolve_shared (r : Registry V C E) (s : CallScope V C E) (g m f ns : Name)
    (hu : s.user.lookup g = none) (hns : s.uses.lookup ns = some m)
    (h : r.table.shared g m f = true) :
    resolve r s none g = resolve r s (some ns) f := by
  obtain ⟨i, hg, hm⟩ := shared_ids r.table g m f h
  unfold resolve
  simp only [hu, hns, hg, hm]

/-- the core of positional = named: one recursion over the formals -/
theorem bindParams_mixed : ∀ (ps : List (Name × Option V)) (vs : List V) (j : Nat),
    vs.length ≤ ps.length → j ≤ vs.length →
    bindParams ps (vs.take j) (((ps.drop j).map (·.1)).zip (vs.drop j)) = bindParams ps vs []
  | [], [], j, _, _ => by cases j <;> rfl
  | [], _ :: _, _, hl, _ => absurd hl (Nat.not_succ_le_zero _)
  | (p, d) :: ps, [], j, _, hj => by
    obtain rfl : j = 0 := Nat.le_zero.1 hj
    rfl
  | (p, d) :: ps, v :: vs, 0, hl, _ => by
    have ih : bindParams ps [] ((ps.map (·.1)).zip vs) = bindParams ps vs [] :=
      bindParams_mixed ps vs 0 (Nat.le_of_succ_le_succ hl) (Nat.zero_le _)
    show bindParams ((p, d) :: ps) [] ((p, v) :: (ps.map (·.1)).zip vs) = _
    rw [bindParams_cons_nil, lookupRemove_cons, if_pos rfl]
    exact congrArg (pushVal p v) ih
  | (p, d) :: ps, v :: vs, j + 1, hl, hj =>
    congrArg (pushVal p v)
      (bindParams_mixed ps vs j (Nat.le_of_succ_le_succ hl) (Nat.le_of_succ_le_succ hj))

theorem mixed_count (ps : List (Name × Option V)) (vs : List V) (j : Nat)
    (hl : vs.length ≤ ps.length) (hj : j ≤ vs.length) :
    (vs.take j).length + (((ps.drop j).map (·.1)).zip (vs.drop j)).length = vs.length := by
  rw [List.length_take_of_le hj, List.length_zip, List.length_map, List.length_drop, List.length_drop,
    Nat.min_eq_right (Nat.sub_le_sub_right hl j), Nat.add_sub_cancel' hj]

/-! ### named arguments in any order -/

/-- `LR` ("lookup results"): agreement of two `lookupRemove` results up to permutation of the rest -/
def LR (a b : Option (V × List (Name × V))) : Prop :=
  match a, b with
  | none, none => True
  | some (v1, r1), some (v2, r2) => v1 = v2 ∧ r1.Perm r2
  | _, _ => False

theorem LR_trans {a b c : Option (V × List (Name × V))} (h1 : LR a b) (h2 : LR b c) : LR a c := by
  rcases a with _ | ⟨v1, r1⟩ <;> rcases b with _ | ⟨v2, r2⟩
  -- in order: none/none, none/some, some/none (both excluded by `h1`), some/some
  · exact h2
  · exact h1.elim
  · exact h1.elim
  · rcases c with _ | ⟨v3, r3⟩
    · exact h2.elim
    · exact ⟨h1.1.trans h2.1, h1.2.trans h2.2⟩

theorem LR_map (x : Name × V) {a b : Option (V × List (Name × V))} (h : LR a b) :
    LR (a.map fun y => (y.1, x :: y.2)) (b.map fun y => (y.1, x :: y.2)) := by
  rcases a with _ | ⟨v1, r1⟩ <;> rcases b with _ | ⟨v2, r2⟩
  -- in order: none/none, none/some, some/none (both excluded by `h`), some/some
  · trivial
  · exact h.elim
  · exact h.elim
  · exact ⟨h.1, h.2.cons x⟩

theorem lookupRemove_none_iff (p : Name) : ∀ (l : List (Name × V)),
    lookupRemove p l = none ↔ p ∉ l.map (·.1)
  | [] => iff_of_true rfl List.not_mem_nil
  | (k, v) :: r => by
    rw [lookupRemove_cons, List.map_cons, List.mem_cons, not_or]
    by_cases hk : k = p
    · rw [if_pos hk]
      exact iff_of_false nofun fun h => h.1 hk.symm
    · rw [if_neg hk, Option.map_eq_none_iff, lookupRemove_none_iff p r]
      exact (and_iff_right fun h => hk h.symm).symm

/-- `Nodup` keys are needed: with a repeated key the value found depends on the order -/
theorem lookupRemove_perm (p : Name) {l1 l2 : List (Name × V)} (h : l1.Perm l2)
    (hn : (l1.map (·.1)).Nodup) : LR (lookupRemove p l1) (lookupRemove p l2) := by
  induction h with
  | nil => exact True.intro
  | cons x hperm ih =>
    obtain ⟨k, v⟩ := x
    rw [lookupRemove_cons, lookupRemove_cons]
    split
    · exact ⟨rfl, hperm⟩
    · exact LR_map (k, v) (ih (List.nodup_cons.1 hn).2)
  | swap x y l =>
    obtain ⟨k1, v1⟩ := x
    obtain ⟨k2, v2⟩ := y
    have hne : k2 ≠ k1 := fun h => (List.nodup_cons.1 hn).1 (h ▸ List.mem_cons_self)
    rw [lookupRemove_cons, lookupRemove_cons, lookupRemove_cons, lookupRemove_cons]
    by_cases h1 : k1 = p <;> by_cases h2 : k2 = p
    · exact absurd (h2.trans h1.symm) hne
    · simp only [h1, h2, ↓reduceIte]
      exact ⟨rfl, List.Perm.refl _⟩
    · simp only [h1, h2, ↓reduceIte]
      exact ⟨rfl, List.Perm.refl _⟩
    · simp only [h1, h2, ↓reduceIte]
      cases lookupRemove p l with
      | none => trivial
      | some r => exact ⟨rfl, List.Perm.swap _ _ _⟩
  | trans h1 _ ih1 ih2 =>
    exact LR_trans (ih1 hn) (ih2 ((h1.map (·.1)).nodup_iff.mp hn))

theorem lookupRemove_sublist (p : Name) : ∀ (l : List (Name × V)) (v : V) (r : List (Name × V)),
    lookupRemove p l = some (v, r) → r.Sublist l
  | [], _, _, h => nomatch h
  | (k, w) :: l, v, r, h => by
    rw [lookupRemove_cons] at h
    split at h
    · cases h
      exact List.sublist_cons_self _ _
    · rcases hl : lookupRemove p l with _ | ⟨x1, r'⟩
      · rw [hl] at h
        cases h
      · rw [hl] at h
        cases h
        exact (lookupRemove_sublist p l x1 r' hl).cons_cons _

/-- `BR` ("bind results"): agreement of two `bindParams` results up to permutation of the
left-over named values -/
def BR (a b : Except ArgsErr (List (Name × Bound V) × List V × List (Name × V))) : Prop :=
  match a, b with
  | .ok (b1, p1, n1), .ok (b2, p2, n2) => b1 = b2 ∧ p1 = p2 ∧ n1.Perm n2
  | .error e1, .error e2 => e1 = e2
  | _, _ => False

theorem BR_pushVal (p : Name) (v : V)
    {a b : Except ArgsErr (List (Name × Bound V) × List V × List (Name × V))} (h : BR a b) :
    BR (pushVal p v a) (pushVal p v b) := by
  rcases a with e1 | ⟨b1, p1, m1⟩ <;> rcases b with e2 | ⟨b2, p2, m2⟩
  -- in order: error/error, error/ok, ok/error (both excluded by `h`), ok/ok
  · exact h
  · exact h.elim
  · exact h.elim
  · exact ⟨congrArg _ h.1, h.2⟩

theorem bindParams_perm : ∀ (ps : List (Name × Option V)) (pos : List V) (n1 n2 : List (Name × V)),
    n1.Perm n2 → (n1.map (·.1)).Nodup → BR (bindParams ps pos n1) (bindParams ps pos n2)
  | [], _, _, _, h, _ => ⟨rfl, rfl, h⟩
  | (p, _) :: ps, v :: pos, n1, n2, h, hn => BR_pushVal p v (bindParams_perm ps pos n1 n2 h hn)
  | (p, d) :: ps, [], n1, n2, h, hn => by
    have hlr := lookupRemove_perm p h hn
    rw [bindParams_cons_nil, bindParams_cons_nil]
    rcases h1 : lookupRemove p n1 with _ | ⟨v1, r1⟩ <;> rcases h2 : lookupRemove p n2 with _ | ⟨v2, r2⟩ <;>
      rw [h1, h2] at hlr
    -- in order: the name is in neither list (default or `missing`), in one only (excluded by
    -- `hlr`, twice), in both (same value, the rests are permutations)
    · cases d with
      | none => exact rfl
      | some dv => exact BR_pushVal p dv (bindParams_perm ps [] n1 n2 h hn)
    · exact hlr.elim
    · exact hlr.elim
    · obtain ⟨rfl, hr⟩ := hlr
      exact BR_pushVal p v1 (bindParams_perm ps [] r1 r2 hr
        (hn.sublist ((lookupRemove_sublist p n1 v1 r1 h1).map _)))

end
end Glue.FnReg
