/-
Lemmas for C05 over `Glue/Globals.lean`: no statement writes the built-ins and a uid-free
statement is `stepPure` on them (`step_cases`, `step_keep`); the same for `runOps`; concurrent
schedules: a thread is where its own steps, run alone, would have taken it (`runSched_thread`).
-/
import RsassModel.Glue.Globals
namespace Glue.Globals

/-- the part of the process state a compilation can READ (besides `callId` in `uniqueId`) -/
def SameBuiltins (p q : Process) : Prop := p.modules = q.modules ∧ p.functions = q.functions

theorem SameBuiltins.refl (p : Process) : SameBuiltins p p := ⟨rfl, rfl⟩
theorem SameBuiltins.symm {p q : Process} (h : SameBuiltins p q) : SameBuiltins q p := ⟨h.1.symm, h.2.symm⟩
theorem SameBuiltins.trans {p q r : Process} (h1 : SameBuiltins p q) (h2 : SameBuiltins q r) :
    SameBuiltins p r := ⟨h1.1.trans h2.1, h1.2.trans h2.2⟩

/-- a statement other than `unique-id()` and `dep_warn!` hands the process state on unchanged -/
def keep (p : Process) (r : Except Err Comp) : Except Err (Process × Comp) :=
  match r with
  | .ok c' => .ok (p, c')
  | .error e => .error e

theorem keep_ok {p p' : Process} {r : Except Err Comp} {c' : Comp} (h : keep p r = .ok (p', c')) :
    p' = p := by
  cases r
  · cases h
  · cases h
    rfl

theorem step_cases (p : Process) (c : Comp) (op : Op) :
    (op = .uniqueId ∧ step p c op =
      .ok ({ p with callId := p.callId + 1 }, { c with out := c.out ++ [.num (p.callId + 1)] })) ∨
    (∃ k, op = .depWarn k ∧ step p c op =
      .ok ({ p with warned := if p.warned.contains k then p.warned else k :: p.warned }, c)) ∨
    (op.usesUid = false ∧ step p c op = keep p (stepPure p.modules p.functions c op)) := by
  cases op with
  | uniqueId => exact .inl ⟨rfl, rfl⟩
  | depWarn k => exact .inr (.inl ⟨k, rfl, rfl⟩)
  | _ => exact .inr (.inr ⟨rfl, rfl⟩)

/-- No statement writes `modules` or `functions`. -/
theorem step_builtins (p : Process) (c : Comp) (op : Op) (p' : Process) (c' : Comp)
    (h : step p c op = .ok (p', c')) : SameBuiltins p' p := by
  rcases step_cases p c op with ⟨-, e⟩ | ⟨k, -, e⟩ | ⟨-, e⟩ <;> rw [e] at h
  · cases h
    exact ⟨rfl, rfl⟩
  · cases h
    exact ⟨rfl, rfl⟩
  · exact keep_ok h ▸ SameBuiltins.refl p

/-- Seen from the compilation, a statement is `stepPure` on the built-ins — unless it is
`unique-id()`; what it hands on has the same built-ins. -/
theorem step_keep (p : Process) (c : Comp) (op : Op) (hu : op.usesUid = false) :
    ∃ p', SameBuiltins p' p ∧ step p c op = keep p' (stepPure p.modules p.functions c op) := by
  rcases step_cases p c op with ⟨rfl, -⟩ | ⟨k, rfl, e⟩ | ⟨-, e⟩
  · cases hu
  · exact ⟨{ p with warned := if p.warned.contains k then p.warned else k :: p.warned },
      ⟨rfl, rfl⟩, e⟩
  · exact ⟨p, SameBuiltins.refl p, e⟩

theorem runOps_cons (p : Process) (c : Comp) (op : Op) (rest : List Op) :
    runOps p c (op :: rest) =
      match step p c op with
      | .error e => (p, .error e)
      | .ok (p', c') => runOps p' c' rest := rfl

theorem runOps_builtins (ops : List Op) : ∀ (p : Process) (c : Comp), SameBuiltins (runOps p c ops).1 p := by
  induction ops with
  | nil => intro p c; exact SameBuiltins.refl p
  | cons op rest ih =>
    intro p c
    rw [runOps_cons]
    split
    · exact SameBuiltins.refl p
    · rename_i p' c' h
      exact (ih p' c').trans (step_builtins p c op p' c' h)

theorem runOps_local (ops : List Op) : ∀ (p q : Process) (c : Comp), SameBuiltins p q →
    (∀ op ∈ ops, op.usesUid = false) → (runOps p c ops).2 = (runOps q c ops).2 := by
  induction ops with
  | nil => intro p q c _ _; rfl
  | cons op rest ih =>
    intro p q c h hu
    obtain ⟨p', hp', ep⟩ := step_keep p c op (hu op List.mem_cons_self)
    obtain ⟨q', hq', eq⟩ := step_keep q c op (hu op List.mem_cons_self)
    rw [runOps_cons, runOps_cons, ep, eq, h.1, h.2]
    cases stepPure q.modules q.functions c op with
    | error e => rfl
    | ok c' =>
      exact ih p' q' c' ((hp'.trans h).trans hq'.symm) fun o ho => hu o (List.mem_cons_of_mem _ ho)

/-! ### concurrent compilations: every interleaving -/

theorem setNth_eq_set {α} : ∀ (l : List α) (i : Nat) (x : α), setNth l i x = l.set i x
  | [], _, _ => rfl
  | _ :: _, 0, _ => rfl
  | a :: r, i + 1, x => congrArg (a :: ·) (setNth_eq_set r i x)

theorem setNth_getElem?_eq {α} (l : List α) (i : Nat) (x y : α) (h : l[i]? = some y) :
    (setNth l i x)[i]? = some x := by
  rw [setNth_eq_set, List.getElem?_set_self (List.getElem?_eq_some_iff.1 h).1]

theorem setNth_getElem?_ne {α} (l : List α) (i j : Nat) (x : α) (h : i ≠ j) :
    (setNth l i x)[j]? = l[j]? := by
  rw [setNth_eq_set, List.getElem?_set_ne h]

/-- what one scheduled step does to the thread itself -/
def soloStep (p : Process) (t : Thread) : Thread := (stepThread p t).2

/-- `n` steps of a thread running alone -/
def soloN (p : Process) : Nat → Thread → Thread
  | 0, t => t
  | n + 1, t => soloN p n (soloStep p t)

def Thread.noUid (t : Thread) : Prop := ∀ op ∈ t.todo, op.usesUid = false

theorem stepThread_builtins (p : Process) (t : Thread) : SameBuiltins (stepThread p t).1 p := by
  unfold stepThread
  split
  · split
    · rename_i p' c' h; exact step_builtins _ _ _ _ _ h
    · exact SameBuiltins.refl p
  · exact SameBuiltins.refl p

theorem soloStep_noUid (p : Process) (t : Thread) (h : t.noUid) : (soloStep p t).noUid := by
  unfold soloStep stepThread
  split
  · rename_i c op rest hs ht
    have hrest : ∀ o ∈ rest, o.usesUid = false := fun o ho => h o (by rw [ht]; simp [ho])
    split
    · exact hrest
    · intro o ho; simp at ho
  · exact h

/-- The thread component of a step depends on the process only through the built-ins. -/
theorem soloStep_local (p q : Process) (t : Thread) (hpq : SameBuiltins p q) (h : t.noUid) :
    soloStep p t = soloStep q t := by
  unfold soloStep stepThread
  split
  · rename_i c op rest hs ht
    obtain ⟨p', -, ep⟩ := step_keep p c op (h op (ht ▸ List.mem_cons_self))
    obtain ⟨q', -, eq⟩ := step_keep q c op (h op (ht ▸ List.mem_cons_self))
    rw [ep, eq, hpq.1, hpq.2]
    cases stepPure q.modules q.functions c op <;> rfl
  · rfl

theorem soloN_succ' (p : Process) (n : Nat) (t : Thread) : soloN p (n + 1) t = soloN p n (soloStep p t) := rfl

theorem runSched_cons (p : Process) (ts : List Thread) (i : Nat) (rest : List Nat) :
    runSched p ts (i :: rest) =
      match ts[i]? with
      | none => runSched p ts rest
      | some t => runSched (stepThread p t).1 (setNth ts i (stepThread p t).2) rest := rfl

/-- Main lemma: after ANY schedule, thread `i` is exactly where `count i sched` steps of
running alone (in any process with the same built-ins) would have taken it. -/
theorem runSched_thread (p0 : Process) : ∀ (sched : List Nat) (p : Process) (ts : List Thread),
    SameBuiltins p p0 → (∀ (k : Nat) (t : Thread), ts[k]? = some t → t.noUid) →
    ∀ i t, ts[i]? = some t → (runSched p ts sched).2[i]? = some (soloN p0 (sched.count i) t)
  | [], _, _, _, _, _, _, hi => hi
  | j :: rest, p, ts, hp, hno, i, t, hi => by
    rw [runSched_cons]
    cases hj : ts[j]? with
    | none =>
      have hne : j ≠ i := fun h => nomatch (h ▸ hj).symm.trans hi
      rw [List.count_cons_of_ne hne]
      exact runSched_thread p0 rest p ts hp hno i t hi
    | some tj =>
      have hp' : SameBuiltins (stepThread p tj).1 p0 := (stepThread_builtins p tj).trans hp
      have hno' : ∀ (k : Nat) (t' : Thread),
          (setNth ts j (stepThread p tj).2)[k]? = some t' → t'.noUid := by
        intro k t' hk
        by_cases hjk : j = k
        · subst hjk
          rw [setNth_getElem?_eq ts j _ tj hj] at hk
          cases hk
          exact soloStep_noUid p tj (hno j tj hj)
        · rw [setNth_getElem?_ne ts j k _ hjk] at hk
          exact hno k t' hk
      by_cases hji : j = i
      · subst hji
        obtain rfl : tj = t := Option.some.inj (hj.symm.trans hi)
        rw [List.count_cons_self, soloN_succ', soloStep_local p0 p tj hp.symm (hno j tj hi)]
        exact runSched_thread p0 rest _ _ hp' hno' j _ (setNth_getElem?_eq ts j _ tj hj)
      · rw [List.count_cons_of_ne hji]
        exact runSched_thread p0 rest _ _ hp' hno' i t
          ((setNth_getElem?_ne ts j i _ hji).trans hi)

theorem soloN_done (p : Process) (s : Except Err Comp) : ∀ n, soloN p n ⟨[], s⟩ = ⟨[], s⟩
  | 0 => rfl
  | n + 1 => by
    have : soloStep p ⟨[], s⟩ = ⟨[], s⟩ := by
      unfold soloStep stepThread; cases s <;> rfl
    rw [soloN_succ', this]; exact soloN_done p s n

theorem soloN_add (p : Process) : ∀ (a b : Nat) (t : Thread), soloN p (a + b) t = soloN p b (soloN p a t)
  | 0, b, t => by rw [Nat.zero_add]; rfl
  | a + 1, b, t => by
    have : a + 1 + b = (a + b) + 1 := by omega
    rw [this, soloN_succ', soloN_add p a b, soloN_succ']

/-- running alone to the end = the sequential `runOps` -/
theorem soloN_all (p : Process) : ∀ (ops : List Op) (c : Comp), (∀ op ∈ ops, op.usesUid = false) →
    soloN p ops.length ⟨ops, .ok c⟩ = ⟨[], (runOps p c ops).2⟩
  | [], c, _ => rfl
  | op :: rest, c, hu => by
    have hrest : ∀ o ∈ rest, o.usesUid = false := fun o ho => hu o (List.mem_cons_of_mem _ ho)
    rw [List.length_cons, soloN_succ', runOps_cons]
    unfold soloStep stepThread
    dsimp only
    cases hs : step p c op with
    | error e => exact soloN_done p _ rest.length
    | ok pc =>
      exact (soloN_all p rest pc.2 hrest).trans (congrArg _
        (runOps_local rest pc.1 p pc.2 (step_builtins p c op pc.1 pc.2 hs) hrest).symm)

/-- what the caller of a finished compilation gets -/
def threadResult (t : Thread) : Result :=
  match t.state with
  | .ok c => .ok c.out
  | .error e => .error e

theorem threadResult_runOps (p : Process) (ops : List Op) :
    threadResult ⟨[], (runOps p Comp.empty ops).2⟩ = (compile p ops).2 := by
  unfold compile threadResult
  cases h : runOps p Comp.empty ops with
  | mk p' r => cases r <;> rfl

end Glue.Globals
