/- Helper lemmas for C40: what the argument walk does with an option and with an input;
name-major vs directory-major lookup; what the loop over the inputs ends with. -/
import RsassModel.Glue.Cli
namespace GlueE

/-- the documented long spelling of each option -/
def longName : Opt → Text
  | .precision => ['p', 'r', 'e', 'c', 'i', 's', 'i', 'o', 'n']
  | .style => ['s', 't', 'y', 'l', 'e']
  | .loadPath => ['l', 'o', 'a', 'd', '-', 'p', 'a', 't', 'h']

theorem parseLoop_long (o : Opt) (fuel : Nat) (v : Text) (rest : List Text) {a a' : CliArgs}
    (hv : v.head? ≠ some '-') (hs : setOpt a o v = some a') :
    parseLoop (fuel + 1) (('-' :: '-' :: longName o) :: v :: rest) a = parseLoop fuel rest a' := by
  have : parseLoop (fuel + 1) (('-' :: '-' :: longName o) :: v :: rest) a =
      match nextValue (v :: rest) with
      | none => none
      | some (v, rest) => (setOpt a o v).bind (parseLoop fuel rest) := by
    -- evaluates `longOpt (longName o) = some o` and the walk's match on `--name`, per option
    cases o <;> rfl
  rw [this, nextValue, if_neg hv]
  dsimp only
  rw [hs]
  rfl

theorem parseLoop_input (fuel : Nat) (f : Text) (rest : List Text) (a : CliArgs)
    (hf : f.head? ≠ some '-') :
    parseLoop (fuel + 1) (f :: rest) a = parseLoop fuel rest { a with inputs := a.inputs ++ [f] } := by
  cases f with
  | nil => rfl
  | cons c r =>
    have hc : c ≠ '-' := fun h => hf (h ▸ rfl)
    -- unfold one step of the walk by evaluation; what is left is its match on `c :: r`, whose
    -- first three arms need `c = '-'`
    conv => lhs; whnf
    split
    · exact absurd (List.cons.inj ‹_›).1 hc
    · exact absurd (List.cons.inj ‹_›).1 hc
    · exact absurd (List.cons.inj ‹_›).1 hc
    · rfl

theorem findSome_congr {α β : Type} (f g : α → Option β) (l : List α) (h : ∀ x ∈ l, f x = g x) :
    l.findSome? f = l.findSome? g := by
  induction l with
  | nil => rfl
  | cons x xs ih =>
    simp only [List.findSome?_cons, h x (by simp)]
    rw [ih fun y hy => h y (List.mem_cons_of_mem _ hy)]

theorem findSome?_only {α β : Type} {f : α → Option β} {pre post : List α} {d : α}
    (h : ∀ x ∈ pre ++ post, f x = none) : (pre ++ d :: post).findSome? f = f d := by
  rw [List.findSome?_append, List.findSome?_eq_none_iff.2 fun x hx => h x (List.mem_append_left _ hx),
    List.findSome?_cons, List.findSome?_eq_none_iff.2 fun x hx => h x (List.mem_append_right _ hx)]
  cases f d <;> rfl

/-- When at most one base directory holds a candidate, the order of the two loops is
irrelevant: both give the first candidate in that directory. -/
theorem nameMajor_only (fs : Text → Bool) (names pre post : List Text) (d : Text)
    (h : ∀ b ∈ pre ++ post, ∀ n ∈ names, inBase fs b n = none) :
    (names.findSome? fun n => (pre ++ d :: post).findSome? fun b => inBase fs b n)
      = (pre ++ d :: post).findSome? (firstIn fs names) := by
  rw [findSome?_only (f := firstIn fs names) fun b hb =>
    List.findSome?_eq_none_iff.2 (h b hb)]
  exact findSome_congr _ _ _ fun n hn => findSome?_only fun b hb => h b hb n hn

theorem nameMajor_second_none (fs : Text → Bool) (d lp : Text) (names : List Text)
    (h : ∀ n ∈ names, inBase fs lp n = none) :
    (names.findSome? fun n => [d, lp].findSome? fun b => inBase fs b n)
      = [d, lp].findSome? (firstIn fs names) :=
  nameMajor_only fs names [] [lp] d fun _ hb n hn => List.mem_singleton.1 hb ▸ h n hn

theorem nameMajor_first_none (fs : Text → Bool) (d lp : Text) (names : List Text)
    (h : ∀ n ∈ names, inBase fs d n = none) :
    (names.findSome? fun n => [d, lp].findSome? fun b => inBase fs b n)
      = [d, lp].findSome? (firstIn fs names) :=
  nameMajor_only fs names [d] [] lp fun _ hb n hn => List.mem_singleton.1 hb ▸ h n hn

theorem nameMajor_single (fs : Text → Bool) (d : Text) (names : List Text) :
    (names.findSome? fun n => [d].findSome? fun b => inBase fs b n) = [d].findSome? (firstIn fs names) :=
  nameMajor_only fs names [] [] d fun _ hb => nomatch hb

theorem runLoop_cons (compile : Text → Except Text Text) (f : Text) (rest : List Text) (acc : Text) :
    runLoop compile (f :: rest) acc =
      match compile f with
      | .ok css => runLoop compile rest (acc ++ css)
      | .error e => ⟨acc, ['E', 'r', 'r', 'o', 'r', ':', ' '] ++ e ++ ['\n'], 1⟩ := rfl

theorem runLoop_exit (compile : Text → Except Text Text) (files : List Text) (acc : Text) :
    ((runLoop compile files acc).exit = 0 ∧ (runLoop compile files acc).stderr = [] ∧
        ∀ f ∈ files, ∃ css, compile f = .ok css) ∨
      ∃ f ∈ files, ∃ e, compile f = .error e ∧ (runLoop compile files acc).exit = 1 ∧
        (runLoop compile files acc).stderr = ['E', 'r', 'r', 'o', 'r', ':', ' '] ++ e ++ ['\n'] := by
  induction files generalizing acc with
  | nil => exact .inl ⟨rfl, rfl, nofun⟩
  | cons f rest ih =>
    rw [runLoop_cons]
    cases hc : compile f with
    | error e => exact .inr ⟨f, List.mem_cons_self, e, hc, rfl, rfl⟩
    | ok css =>
      rcases ih (acc ++ css) with ⟨h0, h1, hall⟩ | ⟨g, hg, e, he, h⟩
      · exact .inl ⟨h0, h1, List.forall_mem_cons.2 ⟨⟨css, hc⟩, hall⟩⟩
      · exact .inr ⟨g, List.mem_cons_of_mem _ hg, e, he, h⟩

end GlueE
