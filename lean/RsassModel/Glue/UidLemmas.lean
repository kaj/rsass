/-
Helper lemmas for C06 (`Glue/Uid.lean`): hex printing is injective, the state machine
of `CALL_ID`, closeness arithmetic for `into_integer`, what `random` returns.
-/
import RsassModel.Glue.Uid
namespace Glue.Uid

/-! ### hex -/

def ofDigits : List Nat → Nat
  | [] => 0
  | d :: r => d + 16 * ofDigits r

theorem ofDigits_hexRev (n : Nat) : ofDigits (hexRev n) = n := by
  induction n using hexRev.induct with
  | case1 x h => rw [hexRev]; simp [h, ofDigits]
  | case2 x h ih => rw [hexRev]; simp only [h, dite_false, ofDigits, ih]; omega

theorem hexRev_injective {a b : Nat} (h : hexRev a = hexRev b) : a = b := by
  rw [← ofDigits_hexRev a, ← ofDigits_hexRev b, h]

theorem hexRev_lt (n : Nat) : ∀ d ∈ hexRev n, d < 16 := by
  induction n using hexRev.induct with
  | case1 x h => rw [hexRev]; simp [h]
  | case2 x h ih =>
    rw [hexRev]; simp only [h, dite_false, List.mem_cons]
    intro d hd
    rcases hd with rfl | hd
    · omega
    · exact ih d hd

theorem hexRev_ne_nil (n : Nat) : hexRev n ≠ [] := by
  rw [hexRev]; split <;> simp

theorem hexVal_hexChar : ∀ d, d < 16 → hexVal? (hexChar d) = some d := by decide

theorem hexChar_lower : ∀ d, d < 16 → isLowerHex (hexChar d) = true := by decide

theorem filterMap_hexVal_map_hexChar : ∀ (l : List Nat), (∀ d ∈ l, d < 16) →
    (l.map hexChar).filterMap hexVal? = l
  | [], _ => rfl
  | d :: l, h => by
    rw [List.map_cons, List.filterMap_cons_some (hexVal_hexChar d (h d List.mem_cons_self)),
      filterMap_hexVal_map_hexChar l fun x hx => h x (List.mem_cons_of_mem _ hx)]

theorem map_hexChar_inj (l1 l2 : List Nat) (h1 : ∀ d ∈ l1, d < 16) (h2 : ∀ d ∈ l2, d < 16)
    (h : l1.map hexChar = l2.map hexChar) : l1 = l2 := by
  rw [← filterMap_hexVal_map_hexChar l1 h1, h, filterMap_hexVal_map_hexChar l2 h2]

theorem toHex_injective {a b : Nat} (h : toHex a = toHex b) : a = b := by
  unfold toHex at h
  have := map_hexChar_inj _ _
    (fun d hd => hexRev_lt a d (by simpa using hd))
    (fun d hd => hexRev_lt b d (by simpa using hd)) h
  exact hexRev_injective (List.reverse_inj.mp this)

theorem idText_injective {a b : Nat} (h : idText a = idText b) : a = b := by
  unfold idText at h
  exact toHex_injective (by simpa using h)

theorem toHex_ne_nil (n : Nat) : toHex n ≠ [] := by
  unfold toHex
  simp [hexRev_ne_nil]

theorem toHex_all_lower (n : Nat) : (toHex n).all isLowerHex = true := by
  unfold toHex
  simp only [List.all_eq_true, List.mem_map, List.mem_reverse]
  rintro c ⟨d, hd, rfl⟩
  exact hexChar_lower d (hexRev_lt n d hd)

theorem isLowerHex_nmChar (c : Char) (h : isLowerHex c = true) : isNmChar c = true := by
  unfold isLowerHex at h
  unfold isNmChar isNmStart
  simp only [Bool.or_eq_true, Bool.and_eq_true, decide_eq_true_eq] at h ⊢
  rcases h with h | h
  · left; right; exact h
  · left; left; left; left; left
    exact ⟨h.1, Char.le_trans h.2 (by decide)⟩

/-! ### the counter -/

/-- `a` was issued before `b` and is numerically smaller -/
def idLt (a b : List Char) : Prop := ∃ va vb, a = idText va ∧ b = idText vb ∧ va < vb

theorem idLt_ne {a b : List Char} (h : idLt a b) : a ≠ b := by
  obtain ⟨va, vb, rfl, rfl, hlt⟩ := h
  intro he
  have := idText_injective he
  omega

/-- no wrap can happen during these `n` calls: either the build checks overflows (then
the call at the boundary panics instead), or the counter stays below 2^64 -/
def NoWrap (oc : Bool) (s : St) (n : Nat) : Prop := oc = true ∨ s.counter + n < two64

theorem run_succ (oc : Bool) (s : St) (n : Nat) :
    run oc s (n + 1) = ((run oc (step oc s).1 n).1, (step oc s).2 :: (run oc (step oc s).1 n).2) := rfl

theorem step_poisoned (oc : Bool) (c : Nat) : step oc ⟨c, true⟩ = (⟨c, true⟩, .panic) := rfl

theorem step_inc (oc : Bool) {c : Nat} (hc : c + 1 < two64) :
    step oc ⟨c, false⟩ = (⟨c + 1, false⟩, .id (idText (c + 1))) := by
  unfold step
  rw [if_neg Bool.false_ne_true, if_pos hc]

theorem step_boundary {c : Nat} (hc : ¬ c + 1 < two64) :
    step true ⟨c, false⟩ = (⟨c, true⟩, .panic) := by
  unfold step
  rw [if_neg Bool.false_ne_true, if_neg hc, if_pos rfl]

theorem run_poisoned (oc : Bool) (c : Nat) : ∀ n, idsOf (run oc ⟨c, true⟩ n).2 = []
  | 0 => rfl
  | n + 1 => run_poisoned oc c n

/-- As long as no wrap happens the identifiers issued are those of consecutive counter values,
starting after the current one: all `n` of them below the wrap bound, fewer only if the mutex is
or gets poisoned. -/
theorem run_ids_range (oc : Bool) : ∀ (n : Nat) (s : St), NoWrap oc s n →
    ∃ k, idsOf (run oc s n).2 = (List.range' (s.counter + 1) k).map idText ∧
      (s.poisoned = false → s.counter + n < two64 → k = n)
  | 0, _, _ => ⟨0, rfl, fun _ _ => rfl⟩
  | n + 1, ⟨c, true⟩, _ => ⟨0, run_poisoned oc c (n + 1), nofun⟩
  | n + 1, ⟨c, false⟩, hnw => by
    rw [run_succ]
    have hadd : c + 1 + n = c + (n + 1) := by omega
    by_cases hc : c + 1 < two64
    · rw [step_inc oc hc]
      obtain ⟨k, hk, hkn⟩ := run_ids_range oc n ⟨c + 1, false⟩ (hnw.imp_right fun h => hadd ▸ h)
      exact ⟨k + 1, (congrArg (idText (c + 1) :: ·) hk).trans (by rw [List.range'_succ]; rfl),
        fun _ h => congrArg (· + 1) (hkn rfl (hadd ▸ h))⟩
    · have hno : ¬ c + (n + 1) < two64 := by omega
      rcases hnw with rfl | h
      · rw [step_boundary hc]
        exact ⟨0, run_poisoned true c n, fun _ h => absurd h hno⟩
      · exact absurd h hno

theorem range_ids_pairwise (c k : Nat) : ((List.range' c k).map idText).Pairwise idLt :=
  List.pairwise_map.2 ((List.pairwise_lt_range' (s := c) (n := k)).imp fun h => ⟨_, _, rfl, rfl, h⟩)

/-- Values issued, when no wrap happens: exactly `counter+1 … counter+n`, in order. -/
theorem run_contiguous (oc : Bool) (n : Nat) : ∀ (c : Nat), c + n < two64 →
    run oc ⟨c, false⟩ n = (⟨c + n, false⟩,
                  (List.range' (c + 1) n).map (fun v => Outcome.id (idText v))) := by
  induction n with
  | zero => intro c _; simp [run]
  | succ n ih =>
    intro c hb
    have hc : c + 1 < two64 := by omega
    rw [run_succ, step_inc oc hc, ih (c + 1) (by omega), List.range'_succ,
      show c + 1 + n = c + (n + 1) by omega]
    rfl

theorem runSched_eq_run (oc : Bool) : ∀ (sched : List Nat) (s : St),
    (runSched oc s sched).1 = (run oc s sched.length).1 ∧
    (runSched oc s sched).2.map (·.2) = (run oc s sched.length).2
  | [], s => by simp [runSched, run]
  | t :: rest, s => by
    have := runSched_eq_run oc rest (step oc s).1
    exact ⟨this.1, congrArg ((step oc s).2 :: ·) this.2⟩

theorem threadView_sublist (t : Nat) (l : List (Nat × Outcome)) :
    (idsOf (threadView t l)).Sublist (idsOf (l.map (·.2))) := by
  unfold idsOf threadView
  exact List.Sublist.filterMap _ (List.Sublist.map _ List.filter_sublist)

/-! ### closeness arithmetic for `into_integer` -/

theorem mul_sub_le_natAbs (K : Nat) (v X n : Int) (hv : v ≤ X) :
    (K : Int) * (v - n) ≤ ((K * (X - n).natAbs : Nat) : Int) := by
  have h1 : X - n ≤ ((X - n).natAbs : Int) := Int.le_natAbs
  rw [Int.natCast_mul]
  exact Int.mul_le_mul_of_nonneg_left (by omega) (Int.natCast_nonneg K)

theorem lt_of_close (K : Nat) (Ki : Int) (hKi : Ki = (K : Int)) (v X n : Int) (d : Nat) (hv : v ≤ X)
    (hc : K * (X - n).natAbs < d) : Ki * (v - n) < d :=
  hKi ▸ Int.lt_of_le_of_lt (mul_sub_le_natAbs K v X n hv) (Int.ofNat_lt.mpr hc)

theorem le_of_close (K : Nat) (Ki : Int) (hKi : Ki = (K : Int)) (v X n : Int) (d : Nat) (hv : v ≤ X)
    (hc : K * (X - n).natAbs ≤ d) : Ki * (v - n) ≤ d :=
  hKi ▸ Int.le_trans (mul_sub_le_natAbs K v X n hv) (Int.ofNat_le.mpr hc)

theorem positiveInt_num {q : RandQuirks} {n : Int} {d : Nat} {b : Int}
    (h : positiveInt q (.num n d) = .ok b) : intoInteger q n d = some b ∧ 0 < b := by
  simp only [positiveInt] at h
  split at h
  · cases h
  · split at h
    · cases h
      exact ⟨‹_›, ‹_›⟩
    · cases h

theorem positiveInt_pos {q : RandQuirks} {l : Limit} {b : Int} (h : positiveInt q l = .ok b) :
    0 < b := by
  cases l with
  | num n d => exact (positiveInt_num h).2
  | _ => cases h

theorem random_int {q : RandQuirks} {u : Nat × Nat} {rng : Int → Int} {l : Limit} {v : Int}
    (h : random q u rng l = .ok (.int v)) : ∃ b, positiveInt q l = .ok b ∧ v = rng b + 1 := by
  unfold random at h
  split at h
  · cases h
  · split at h
    · cases h
    · cases h
      exact ⟨_, ‹_›, rfl⟩

theorem mul_le_backToF64 {v i : Int} (d : Nat) (h : v ≤ i) : v * d ≤ backToF64 i * d := by
  have : i ≤ backToF64 i := by
    unfold backToF64 i64Max
    split <;> omega
  exact Int.mul_le_mul_of_nonneg_right (by omega) (Int.natCast_nonneg d)

end Glue.Uid
