/- Helper lemmas for C38 (writer shape, prefix/suffix stripping, loader independence). -/
import RsassModel.Glue.Entry
namespace GlueE

theorem replNl_no_nl (t : Text) : '\n' ∉ replNl t := by
  induction t with
  | nil => simp [replNl]
  | cons c t ih =>
    simp only [replNl, List.map_cons, List.mem_cons, not_or] at ih ⊢
    refine ⟨?_, ih⟩
    split
    · decide
    · next h => exact fun e => h e.symm

theorem replNl_id (t : Text) (h : '\n' ∉ t) : replNl t = t := by
  induction t with
  | nil => rfl
  | cons c t ih =>
    simp only [List.mem_cons, not_or] at h
    simp only [replNl, List.map_cons] at ih ⊢
    rw [ih h.2]
    have : c ≠ '\n' := fun e => h.1 e.symm
    simp [this]

theorem replNl_idem (t : Text) : replNl (replNl t) = replNl t :=
  replNl_id _ (replNl_no_nl t)

/-- what `Rule::write` + `Property::write` leave in the buffer for `x { y: v }`, expanded -/
theorem writeRule_expanded (v : Text) :
    (writeRule (CssBuf.new false) ['x'] [(['y'], v)]).take
      = ['x', ' ', '{', '\n', ' ', ' ', 'y', ':', ' '] ++ replNl v ++ [';', '\n', '}', '\n'] := by
  simp [writeRule, writeProperty, CssBuf.new, CssBuf.doIndentNoNl, CssBuf.getIndent, CssBuf.addStr,
    CssBuf.addOne, CssBuf.startBlock, CssBuf.endBlock, CssBuf.popNl, CssBuf.doIndent, CssBuf.take,
    List.replicate]

/-- the same in compressed style: the final `;` is popped by `end_block` -/
theorem writeRule_compressed (v : Text) :
    (writeRule (CssBuf.new true) ['x'] [(['y'], v)]).take
      = ['x', '{', 'y', ':'] ++ replNl v ++ ['}'] := by
  simp [writeRule, writeProperty, CssBuf.new, CssBuf.doIndentNoNl, CssBuf.getIndent, CssBuf.addStr,
    CssBuf.addOne, CssBuf.startBlock, CssBuf.endBlock, CssBuf.popNl, CssBuf.doIndent, CssBuf.take]

theorem stripPrefix?_append (p t : Text) : stripPrefix? p (p ++ t) = some t := by
  simp [stripPrefix?]

theorem stripSuffix?_append (s t : Text) : stripSuffix? s (t ++ s) = some t := by
  simp [stripSuffix?, stripPrefix?]


/-- the encoding mark for a given buffer -/
def markFor (compressed : Bool) (buf : Text) : Text := if isAscii buf then [] else mark compressed

/-- `into_buffer` on a buffer ending in `}`: only the mark and the final newline are added
(nothing is stripped: the last byte is neither a newline nor `;`) -/
theorem intoBuffer_brace (c : Bool) (pre : Text) :
    intoBuffer c (pre ++ ['}']) = markFor c (pre ++ ['}']) ++ pre ++ ['}', '\n'] := by
  unfold intoBuffer markFor
  split <;> simp

theorem intoBuffer_brace_nl (c : Bool) (pre : Text) :
    intoBuffer c (pre ++ ['}', '\n']) = markFor c (pre ++ ['}', '\n']) ++ pre ++ ['}', '\n'] := by
  unfold intoBuffer markFor
  split <;> simp [List.dropWhile]

theorem declDoc_none (c : Bool) : declDoc c none = [] := by
  simp [declDoc, writeRule, CssBuf.take, CssBuf.new, intoBuffer, isAscii]

theorem declDoc_expanded (v : Text) :
    declDoc false (some v)
      = markFor false (declPrefix false ++ replNl v ++ declSuffix false)
        ++ declPrefix false ++ replNl v ++ declSuffix false := by
  have h := intoBuffer_brace_nl false (['x', ' ', '{', '\n', ' ', ' ', 'y', ':', ' '] ++ replNl v ++ [';', '\n'])
  simp only [declDoc, writeRule_expanded, declPrefix, declSuffix]
  simpa using h

theorem declDoc_compressed (v : Text) :
    declDoc true (some v)
      = markFor true (declPrefix true ++ replNl v ++ ['}'])
        ++ declPrefix true ++ replNl v ++ declSuffix true := by
  have h := intoBuffer_brace true (['x', '{', 'y', ':'] ++ replNl v)
  simp only [declDoc, writeRule_compressed, declPrefix, declSuffix]
  simpa using h

theorem extract_of_shape (c : Bool) (m t : Text) (hm : m = [] ∨ m = mark c) :
    extractDecl c (m ++ declPrefix c ++ t ++ declSuffix c) = some t := by
  have hbody : dropMark c (m ++ declPrefix c ++ t ++ declSuffix c) = declPrefix c ++ (t ++ declSuffix c) := by
    unfold dropMark
    rcases hm with rfl | rfl
    · cases c <;> simp [stripPrefix?, mark, declPrefix, List.isPrefixOf]
    · simp [List.append_assoc, stripPrefix?_append]
  unfold extractDecl
  rw [hbody, stripPrefix?_append]
  simp [stripSuffix?_append]

/-- reading back what `declDoc` wrote gives the value text with newlines replaced -/
theorem extract_declDoc (c : Bool) (v : Text) :
    extractDecl c (declDoc c (some v)) = some (replNl v) := by
  cases c
  · rw [declDoc_expanded]
    apply extract_of_shape
    unfold markFor; split <;> simp
  · rw [declDoc_compressed]
    apply extract_of_shape
    unfold markFor; split <;> simp


variable {Val : Type}

/-- no item of the list goes through the loader -/
def noLoads (items : List Item) : Bool := items.all fun i => !i.isLoad

/-- without loads, neither the loader's base directories nor the fuel matter -/
theorem run_noLoads (w : World Val) (p1 p2 : List Text) (fmt : Format) (f1 f2 : Nat)
    (items : List Item) (h : noLoads items = true) :
    run w p1 fmt f1 items = run w p2 fmt f2 items := by
  induction items with
  | nil => simp [run]
  | cons i rest ih =>
    cases i with
    | css k =>
      have hr : noLoads rest = true := by simpa [noLoads, Item.isLoad] using h
      simp only [run, ih hr]
    | load url => simp [noLoads, Item.isLoad] at h

/-- two loaders that resolve every url alike give the same result -/
theorem run_congr_lookup (w : World Val) (p1 p2 : List Text) (fmt : Format)
    (h : ∀ url, w.lookup p1 url = w.lookup p2 url) (fuel : Nat) (items : List Item) :
    run w p1 fmt fuel items = run w p2 fmt fuel items := by
  fun_induction run w p1 fmt fuel items <;> simp_all [run]

end GlueE
