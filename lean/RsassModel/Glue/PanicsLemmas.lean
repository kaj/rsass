/- Lemmas for C01 over Glue/Panics.lean: the CSS writer's outcome as a function of its widest
`get_indent` request (`writeItem_eq`), the deviation flags, `ValueRange`, `clog10`, the
lexicographic `Color::cmp`, `Pseudo::replace`, `lock_loading`. -/
import RsassModel.Glue.Panics
namespace Panics

@[simp] theorem isOk_ok {α} (a : α) : (R.isOk (.ok a : R α)) = true := rfl
@[simp] theorem isOk_error {α} (e : Panic) : (R.isOk (.error e : R α)) = false := rfl

theorem eq_ok_of_isOk {r : R Unit} (h : r.isOk = true) : r = .ok () := by
  cases r
  · cases h
  · rfl

theorem isOk_ite (b : Bool) (e : Panic) : (if b then .ok () else .error e : R Unit).isOk = b := by
  cases b <;> rfl

/-- `get_indent(len)` is ok (as a `Bool`): the slice `&INDENT[..=len]` exists, or compressed
output never takes it -/
def okB (c : Bool) (len : Nat) : Bool := c || decide (len ≤ 80)

theorem okB_iff {c : Bool} {n : Nat} : okB c n = true ↔ c = true ∨ n ≤ 80 := by
  simp [okB]

theorem okB_max (c : Bool) (a b : Nat) : okB c (Nat.max a b) = (okB c a && okB c b) := by
  cases c
  · exact (decide_eq_decide.2 Nat.max_le).trans (Bool.decide_and _ _)
  · rfl

theorem okB_of_le {c : Bool} {a b : Nat} (h : a ≤ b) (hb : okB c b = true) : okB c a = true :=
  okB_iff.2 ((okB_iff.1 hb).imp_right (Nat.le_trans h))

/-- a traversal that can only fail at the slice, as a function of whether the slice exists -/
def sliced (ok : Bool) : R Unit := if ok then .ok () else .error .sliceOOB

theorem sliced_isOk (b : Bool) : (sliced b).isOk = b :=
  isOk_ite b .sliceOOB

theorem getIndent_eq (c : Bool) (len : Nat) :
    getIndent c len = if okB c len then .ok (if c then 0 else len + 1) else .error .sliceOOB := by
  cases c
  · simp [getIndent, okB, indentBytes]
  · rfl

theorem usub_ok {a b : Nat} (h : b ≤ a) : usub a b = .ok (a - b) := if_pos h

theorem commentNeed_ge (ind ex : Nat) : ind ≤ commentNeed ind ex := by
  unfold commentNeed
  split
  · exact Nat.le_refl _
  · split
    · exact Nat.le_max_left _ _
    · exact Nat.le_refl _

theorem commentNeed_le (ind ex : Nat) : commentNeed ind ex ≤ 80 ↔ ind ≤ 80 ∧ ex ≤ ind + 81 := by
  unfold commentNeed
  split
  · omega
  · split
    · exact Nat.max_le.trans (and_congr_right fun _ => by omega)
    · omega

theorem commentWrite_eq (c : Bool) (ind ex : Nat) :
    commentWrite c ind ex = sliced (okB c (commentNeed ind ex)) := by
  unfold commentWrite commentNeed
  rw [getIndent_eq]
  by_cases h1 : ex < ind
  · rw [if_pos h1, if_pos h1, usub_ok (Nat.le_of_lt h1)]
    dsimp only
    rw [getIndent_eq]
    cases h : okB c ind
    · rfl
    · rw [okB_of_le (Nat.sub_le ind ex) h]
      rfl
  · rw [if_neg h1, if_neg h1]
    by_cases h2 : ind < ex
    · rw [if_pos h2, if_pos h2, usub_ok (Nat.le_of_lt h2)]
      dsimp only
      rw [usub_ok (Nat.le_sub_of_add_le' h2)]
      dsimp only
      rw [getIndent_eq, okB_max]
      cases okB c ind <;> cases okB c (ex - ind - 1) <;> rfl
    · rw [if_neg h2, if_neg h2]
      cases okB c ind <;> rfl

/- The writer fails exactly when its widest `get_indent` request does: `okB` turns the `max` in
`itemNeed` into the conjunction of the single requests (`okB_max`). -/
mutual
theorem writeItem_eq (c : Bool) (ind : Nat) : (it : Item) →
    writeItem c ind it = sliced (okB c (itemNeed ind it))
  | .leaf => by
    unfold writeItem itemNeed
    rw [getIndent_eq]
    cases okB c ind <;> rfl
  | .comment ex => by
    unfold writeItem itemNeed
    exact commentWrite_eq c ind ex
  | .silent => by
    unfold writeItem itemNeed
    cases c <;> rfl
  | .inlineComment ex => by
    unfold writeItem itemNeed
    rw [getIndent_eq, commentWrite_eq]
    cases h : okB c (commentNeed ind ex)
    · cases okB c ind <;> rfl
    · rw [okB_of_le (commentNeed_ge ind ex) h]
      rfl
  | .block body => by
    unfold writeItem itemNeed
    rw [getIndent_eq, writeItems_eq c (ind + 2) body, okB_max]
    cases okB c ind <;> cases okB c (itemsNeed (ind + 2) body) <;> rfl
theorem writeItems_eq (c : Bool) (ind : Nat) : (its : List Item) →
    writeItems c ind its = sliced (okB c (itemsNeed ind its))
  | [] => by
    unfold writeItems itemsNeed
    cases c <;> rfl
  | it :: rest => by
    unfold writeItems itemsNeed
    rw [writeItem_eq c ind it, writeItems_eq c ind rest, okB_max]
    cases okB c (itemNeed ind it) <;> rfl
end

theorem writeItems_isOk (c : Bool) (ind : Nat) (its : List Item) :
    (writeItems c ind its).isOk = true ↔ c = true ∨ itemsNeed ind its ≤ 80 := by
  rw [writeItems_eq, sliced_isOk, okB_iff]

theorem writeItem_isOk (c : Bool) (ind : Nat) (it : Item) :
    (writeItem c ind it).isOk = true ↔ c = true ∨ itemNeed ind it ≤ 80 := by
  rw [writeItem_eq, sliced_isOk, okB_iff]

mutual
def noComment : Item → Bool
  | .comment _ => false
  | .inlineComment _ => false
  | .block body => noComments body
  | _ => true
def noComments : List Item → Bool
  | [] => true
  | it :: rest => noComment it && noComments rest
end

-- without comments, what an item needs is bounded by its indentation plus twice its depth
mutual
theorem itemNeed_le_depth (ind : Nat) : (it : Item) → noComment it = true →
    itemNeed ind it ≤ ind + 2 * itemDepth it
  | .leaf, _ => Nat.le_add_right _ _
  | .silent, _ => Nat.zero_le _
  | .comment _, h => Bool.noConfusion h
  | .inlineComment _, h => Bool.noConfusion h
  | .block body, h => by
    unfold itemNeed itemDepth
    have := itemsNeed_le_depth (ind + 2) body h
    exact Nat.max_le.2 ⟨Nat.le_add_right _ _, Nat.le_trans this (Nat.le_of_eq (by omega))⟩
theorem itemsNeed_le_depth (ind : Nat) : (its : List Item) → noComments its = true →
    itemsNeed ind its ≤ ind + 2 * itemsDepth its
  | [], _ => Nat.zero_le _
  | it :: rest, h => by
    unfold itemsNeed itemsDepth
    have h := Bool.and_eq_true_iff.1 h
    have mono {a b : Nat} (hab : a ≤ b) : ind + 2 * a ≤ ind + 2 * b :=
      Nat.add_le_add_left (Nat.mul_le_mul_left 2 hab) ind
    exact Nat.max_le.2
      ⟨Nat.le_trans (itemNeed_le_depth ind it h.1) (mono (Nat.le_max_left _ _)),
        Nat.le_trans (itemsNeed_le_depth ind rest h.2) (mono (Nat.le_max_right _ _))⟩
end

/-- `Nat.max_zero` for the `Nat.max` spelling the model uses (`rw` does not see through to `max`) -/
theorem natMax_zero (a : Nat) : Nat.max a 0 = a := Nat.max_eq_left (Nat.zero_le a)

theorem tower_need (n ind : Nat) : itemNeed ind (tower n .leaf) = ind + 2 * n := by
  induction n generalizing ind with
  | zero => rfl
  | succ n ih =>
    have h : Nat.max ind (ind + 2 + 2 * n) = ind + 2 * (n + 1) :=
      (Nat.max_eq_right (by omega)).trans (by omega)
    unfold tower itemNeed itemsNeed
    rw [ih, show itemsNeed (ind + 2) [] = 0 from rfl, natMax_zero, h]

theorem tower_depth (n : Nat) : itemDepth (tower n .leaf) = n := by
  induction n with
  | zero => rfl
  | succ n ih =>
    unfold tower itemDepth itemsDepth
    rw [ih, show itemsDepth [] = 0 from rfl, natMax_zero]

/-! ### deviation flags -/

theorem commentWriteQ_asis (c : Bool) (ind ex : Nat) :
    commentWriteQ Quirks.asis c ind ex = commentWrite c ind ex := rfl

mutual
theorem writeItemQ_asis (c : Bool) (ind : Nat) : (it : Item) →
    writeItemQ Quirks.asis c ind it = writeItem c ind it
  | .leaf => rfl
  | .comment ex => commentWriteQ_asis c ind ex
  | .silent => rfl
  | .inlineComment _ => rfl
  | .block body => by
    unfold writeItemQ writeItem
    rw [writeItemsQ_asis c (ind + 2) body]
    rfl
theorem writeItemsQ_asis (c : Bool) (ind : Nat) : (its : List Item) →
    writeItemsQ Quirks.asis c ind its = writeItems c ind its
  | [] => rfl
  | it :: rest => by
    unfold writeItemsQ writeItems
    rw [writeItemQ_asis c ind it, writeItemsQ_asis c ind rest]
end

theorem commentWriteQ_fixed (q : Quirks) (h1 : q.indentSlice80 = false)
    (h2 : q.commentIndentSlice80 = false) (c : Bool) (ind ex : Nat) :
    commentWriteQ q c ind ex = .ok () := by
  unfold commentWriteQ
  rw [h1, h2]
  by_cases a : ex < ind
  · rw [if_pos a, usub_ok (Nat.le_of_lt a)]
    rfl
  · rw [if_neg a]
    by_cases b : ind < ex
    · rw [if_pos b, usub_ok (Nat.le_of_lt b)]
      dsimp only [getIndentQ]
      rw [usub_ok (Nat.le_sub_of_add_le' b)]
      rfl
    · rw [if_neg b]
      rfl

mutual
theorem writeItemQ_fixed (q : Quirks) (h1 : q.indentSlice80 = false)
    (h2 : q.commentIndentSlice80 = false) (c : Bool) (ind : Nat) : (it : Item) →
    writeItemQ q c ind it = .ok ()
  | .leaf => by
    unfold writeItemQ
    rw [h1]
    rfl
  | .comment ex => commentWriteQ_fixed q h1 h2 c ind ex
  | .silent => rfl
  | .inlineComment ex => by
    unfold writeItemQ
    rw [h1]
    exact commentWriteQ_fixed q h1 h2 c ind ex
  | .block body => by
    unfold writeItemQ
    rw [writeItemsQ_fixed q h1 h2 c (ind + 2) body, h1]
    rfl
theorem writeItemsQ_fixed (q : Quirks) (h1 : q.indentSlice80 = false)
    (h2 : q.commentIndentSlice80 = false) (c : Bool) (ind : Nat) : (its : List Item) →
    writeItemsQ q c ind its = .ok ()
  | [] => rfl
  | it :: rest => by
    unfold writeItemsQ
    rw [writeItemQ_fixed q h1 h2 c ind it, writeItemsQ_fixed q h1 h2 c ind rest]
end

/-! ### ranges -/

theorem addI64_of_inI64 {a b : Int} (h : inI64 (a + b)) : addI64 a b = .ok (a + b) := if_pos h

theorem addI64_isOk (a b : Int) : (addI64 a b).isOk = true ↔ inI64 (a + b) := by
  by_cases h : inI64 (a + b)
  · rw [addI64_of_inI64 h]
    exact iff_of_true rfl h
  · rw [show addI64 a b = .error .overflow from if_neg h]
    exact iff_of_false Bool.false_ne_true h

theorem addI64_ok {a b v : Int} (h : addI64 a b = .ok v) : v = a + b ∧ inI64 (a + b) := by
  unfold addI64 at h
  split at h
  · rename_i hc
    exact ⟨(Except.ok.inj h).symm, hc⟩
  · cases h

/-- run the loop of `for value in range` for at most `fuel` iterations -/
def rangeRun : Nat → Range → R Nat
  | 0, _ => .ok 0
  | fuel + 1, r => match rangeNext r with
    | .error e => .error e
    | .ok none => .ok 0
    | .ok (some (_, r')) => match rangeRun fuel r' with
      | .error e => .error e
      | .ok n => .ok (n + 1)

theorem rangeGoes_up (r : Range) (hs : r.step = 1) : rangeGoes r = true ↔ r.from_ < r.to := by
  unfold rangeGoes
  rw [hs, show compare (0 : Int) 1 = .lt from rfl, beq_iff_eq, Int.compare_eq_lt]

theorem rangeGoes_down (r : Range) (hs : r.step = -1) : rangeGoes r = true ↔ r.to < r.from_ := by
  unfold rangeGoes
  rw [hs, show compare (0 : Int) (-1) = .gt from rfl, beq_iff_eq, Int.compare_eq_gt]

/-- While the loop goes on, the next `from` lies between the old one and `to`. -/
theorem rangeNext_ok (r : Range) (hf : inI64 r.from_) (ht : inI64 r.to)
    (hs : r.step = 1 ∨ r.step = -1) :
    rangeNext r = .ok none ∨
      (rangeNext r = .ok (some (r.from_, { r with from_ := r.from_ + r.step })) ∧
        inI64 (r.from_ + r.step)) := by
  unfold rangeNext
  cases hg : rangeGoes r
  · exact .inl rfl
  · have hin : inI64 (r.from_ + r.step) := by
      unfold inI64 at *
      rcases hs with hs | hs
      · have := (rangeGoes_up r hs).1 hg
        omega
      · have := (rangeGoes_down r hs).1 hg
        omega
    rw [if_pos rfl, addI64_of_inI64 hin]
    exact .inr ⟨rfl, hin⟩

theorem rangeRun_isOk (fuel : Nat) (r : Range) (hf : inI64 r.from_) (ht : inI64 r.to)
    (hs : r.step = 1 ∨ r.step = -1) : (rangeRun fuel r).isOk = true := by
  induction fuel generalizing r with
  | zero => rfl
  | succ fuel ih =>
    unfold rangeRun
    rcases rangeNext_ok r hf ht hs with h | ⟨h, hin⟩
    · rw [h]
      rfl
    · rw [h]
      have := ih { r with from_ := r.from_ + r.step } hin ht hs
      revert this
      dsimp only
      cases rangeRun fuel { r with from_ := r.from_ + r.step }
      · exact id
      · exact fun _ => rfl

theorem rangeNew_ok {f t : Int} {incl : Bool} {r : Range} (h : rangeNew f t incl = .ok r)
    (ht : inI64 t) : r.from_ = f ∧ inI64 r.to ∧ (r.step = 1 ∨ r.step = -1) := by
  have hstep : (if t ≥ f then (1 : Int) else -1) = 1 ∨ (if t ≥ f then (1 : Int) else -1) = -1 := by
    split
    · exact .inl rfl
    · exact .inr rfl
  unfold rangeNew at h
  cases incl
  · cases h
    exact ⟨rfl, ht, hstep⟩
  · dsimp only at h
    rw [if_pos rfl] at h
    cases ha : addI64 t (if t ≥ f then 1 else -1) with
    | error e =>
      rw [ha] at h
      cases h
    | ok v =>
      rw [ha] at h
      cases h
      obtain ⟨hv, hin⟩ := addI64_ok ha
      exact ⟨rfl, hv ▸ hin, hstep⟩

/-! ### number display -/

/-- the search stops after at most `j` further steps once `w ≤ p * 10 ^ j`, if the fuel allows `j` -/
theorem clog10Go_le (f w k p j : Nat) (hj : j ≤ f) (hw : w ≤ p * 10 ^ j) :
    clog10Go f w k p ≤ k + j := by
  induction f generalizing k p j with
  | zero =>
    have : j = 0 := by omega
    subst this; simp [clog10Go]
  | succ f ih =>
    unfold clog10Go
    split
    · omega
    · rename_i hnp
      cases j with
      | zero => simp at hw; omega
      | succ j =>
        have hw' : w ≤ p * 10 * 10 ^ j := by
          rw [Nat.pow_succ] at hw
          rw [Nat.mul_assoc, Nat.mul_comm 10]
          exact hw
        have := ih (k + 1) (p * 10) j (by omega) hw'
        omega

theorem clog10_le (w k : Nat) (hk : k ≤ 400) (hw : w ≤ 10 ^ k) : clog10 w ≤ k := by
  have := clog10Go_le 400 w 0 1 k hk (by simpa using hw)
  simpa [clog10] using this

/-! ### Color::cmp -/

theorem pcmpChan_eq_none {a b : Chan} : pcmpChan a b = none ↔ a = none ∨ b = none := by
  cases a <;> cases b <;> simp [pcmpChan]

/-- one field of a derived lexicographic `partial_cmp`: the result of this field's comparison
unless it is `Equal`, then that of the remaining fields -/
def lexStep (x rest : Option Ordering) : Option Ordering :=
  match x with
  | some .eq => rest
  | r => r

theorem lexStep_eq_none {x rest : Option Ordering} :
    lexStep x rest = none ↔ x = none ∨ (x = some .eq ∧ rest = none) := by
  rcases x with _ | _ | _ | _ <;> simp [lexStep]

theorem hslaPartialCmp_eq (a b : Hsla) :
    hslaPartialCmp a b =
      lexStep (pcmpChan a.hue b.hue) (lexStep (pcmpChan a.sat b.sat) (lexStep (pcmpChan a.lum b.lum)
        (lexStep (pcmpChan a.alpha b.alpha) (some (compare a.fmt b.fmt))))) := rfl

/-- `partial_cmp` is undefined when the first field on which the colours differ, or a NaN
before it, does not compare -/
theorem hslaPartialCmp_eq_none (a b : Hsla) :
    hslaPartialCmp a b = none ↔
      pcmpChan a.hue b.hue = none ∨ (pcmpChan a.hue b.hue = some .eq ∧
        (pcmpChan a.sat b.sat = none ∨ (pcmpChan a.sat b.sat = some .eq ∧
          (pcmpChan a.lum b.lum = none ∨ (pcmpChan a.lum b.lum = some .eq ∧
            pcmpChan a.alpha b.alpha = none))))) := by
  rw [hslaPartialCmp_eq, lexStep_eq_none, lexStep_eq_none, lexStep_eq_none, lexStep_eq_none]
  simp only [reduceCtorEq, and_false, or_false]

theorem colorCmp_eq_error (a b : Hsla) :
    colorCmp a b = .error .unwrapNone ↔ hslaPartialCmp a b = none := by
  unfold colorCmp
  cases hslaPartialCmp a b <;> simp

theorem colorCmp_isOk (a b : Hsla) :
    (colorCmp a b).isOk = true ↔ hslaPartialCmp a b ≠ none := by
  unfold colorCmp
  cases hslaPartialCmp a b <;> simp [R.isOk]

theorem pcmpChan_ne_none {a b : Chan} (ha : a.isSome) (hb : b.isSome) : pcmpChan a b ≠ none :=
  fun h => by
    rcases pcmpChan_eq_none.1 h with rfl | rfl
    · cases ha
    · cases hb

theorem normSat_ne_none (s : Chan) : normSat s ≠ none := by
  cases s <;> exact Option.some_ne_none _

theorem normAlpha_ne_none (s : Chan) : normAlpha s ≠ none := by
  cases s <;> exact Option.some_ne_none _

/-! ### Pseudo::replace -/

mutual
theorem selReplace_ok (orig : List Bool) (h : checkExtendComplex orig = true) :
    (s : Sel) → selReplace orig s = .ok ()
  | .node _ args => by unfold selReplace; exact argsReplace_ok orig h args
theorem argsReplace_ok (orig : List Bool) (h : checkExtendComplex orig = true) :
    (args : List Sel) → argsReplace orig args = .ok ()
  | [] => by unfold argsReplace; rfl
  | s :: rest => by
    unfold argsReplace
    simp [h, selReplace_ok orig h s, argsReplace_ok orig h rest]
end

/-! ### lock_loading -/

theorem lockAll_ok (l : List (String × Kind)) (names : List String) : lockAll l names = .ok () := by
  induction names generalizing l with
  | nil => simp [lockAll]
  | cons n rest ih =>
    unfold lockAll lockLoading
    by_cases h : (l.any fun x => x.fst == n) = true <;> simp [h, ih]

end Panics
