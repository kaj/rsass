/-
C34 — `min`/`max`: the one documented pair whose global and module forms differ by design.

`sass/functions/math.rs` (since /repo 424b303):
  module:  `def_va!(f, max(numbers), |s| find_extreme(&numbers, Ordering::Greater, true) ..)`
  global:  `def_va!(global, max(numbers), |s| find_extreme(&numbers, Ordering::Greater, false) ..)`
`find_extreme(v, pref, strict)`: walk the numbers keeping the preferred one; two numbers
that Sass cannot compare (`cmp2` = None) are an error if `strict`, otherwise — when
`may_cmp_css` (one css dimension unknown, or equal) — the whole call is kept as the plain
CSS function `max(..)`.  (dart-sass behaves the same: the global names are also the CSS
functions.)  NaN (the `is_comparable` branch) and non-number arguments (kept as CSS by
both forms alike) are outside this model: values are integers in the canonical unit of
their dimension.

Import-free (core only).
-/
namespace Glue.FnReg.MinMax

/-- a number: value (canonical unit of its dimension), Sass dimension (`0` = unitless),
css dimension (`none` = `css_dimension()` is empty: `%`, font/viewport-relative units, unitless) -/
structure Num where
  v : Int
  dim : Nat
  css : Option Nat
deriving Repr, DecidableEq

/-- deviation flag: the global form keeps incomparable numbers as a CSS call -/
structure MinMaxQuirks where
  minMaxCssFallback : Bool
deriving Repr, DecidableEq

def mmSpec : MinMaxQuirks := ⟨false⟩
def mmAsIs : MinMaxQuirks := ⟨true⟩

/-- `cmp2`: same dimension, or one of them unitless -/
def cmp2 (a b : Num) : Option Ordering :=
  if a.dim = b.dim ∨ a.dim = 0 ∨ b.dim = 0 then some (compare a.v b.v) else none

/-- `may_cmp_css` -/
def mayCmpCss (a b : Num) : Bool :=
  a.css.isNone || b.css.isNone || a.css == b.css

inductive Ext
  | num (n : Num)
  /-- kept as the plain CSS function call -/
  | css
  /-- `ExtremeError::Incompatible` -/
  | incompatible
  /-- `ExtremeError::OneRequired` -/
  | oneRequired
deriving Repr, DecidableEq

def walk (strict : Bool) (pref : Ordering) : Num → List Num → Ext
  | found, [] => .num found
  | found, x :: r =>
    match cmp2 found x with
    | some o => walk strict pref (if o = pref then found else x) r
    | none => if !strict && mayCmpCss found x then .css else .incompatible

/-- `find_extreme` -/
def findExtreme (strict : Bool) (pref : Ordering) : List Num → Ext
  | [] => .oneRequired
  | a :: r => walk strict pref a r

/-- `math.max` / `math.min` -/
def moduleExt (pref : Ordering) (l : List Num) : Ext := findExtreme true pref l

/-- global `max` / `min` -/
def globalExt (q : MinMaxQuirks) (pref : Ordering) (l : List Num) : Ext :=
  findExtreme (!q.minMaxCssFallback) pref l

/-- every two arguments are comparable by Sass -/
def AllComparable (l : List Num) : Prop := ∀ a ∈ l, ∀ b ∈ l, (cmp2 a b).isSome = true

theorem walk_cons (strict : Bool) (pref : Ordering) (found x : Num) (r : List Num) :
    walk strict pref found (x :: r) =
      match cmp2 found x with
      | some o => walk strict pref (if o = pref then found else x) r
      | none => if !strict && mayCmpCss found x then .css else .incompatible := rfl

theorem walk_strict_irrelevant (pref : Ordering) : ∀ (r : List Num) (found : Num),
    AllComparable (found :: r) → walk false pref found r = walk true pref found r
  | [], _, _ => rfl
  | x :: r, found, h => by
    have hc : (cmp2 found x).isSome = true :=
      h found List.mem_cons_self x (List.mem_cons_of_mem _ List.mem_cons_self)
    rw [walk_cons, walk_cons]
    cases hcx : cmp2 found x with
    | none =>
      rw [hcx] at hc
      cases hc
    | some o =>
      apply walk_strict_irrelevant pref r
      intro a ha b hb
      have sub : ∀ y, y ∈ (if o = pref then found else x) :: r → y ∈ found :: x :: r := by
        intro y hy
        rcases List.mem_cons.mp hy with rfl | hy
        · split
          · exact List.mem_cons_self
          · exact List.mem_cons_of_mem _ List.mem_cons_self
        · exact List.mem_cons_of_mem _ (List.mem_cons_of_mem _ hy)
      exact h a (sub a ha) b (sub b hb)

end Glue.FnReg.MinMax
