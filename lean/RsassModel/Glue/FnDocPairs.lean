/-
C34 — the global/module function pairs that the Sass documentation
(sass-lang.com/documentation/modules: color, list, map, math, meta, selector, string)
declares to be the same function under two names, committed as Lean data.

`separatelyDefined` is the explicit list of documented pairs that rsass implements as
two separate function objects, each with the reason:
* `grayscale`, `invert`: the global names double as CSS filter functions
  (`grayscale(50%)`, `invert(1)` must pass through as plain CSS), so
  `color::expose` defines global wrappers (`sass/functions/color/other.rs`/`hsl.rs`)
  that fall back to the CSS function for number arguments;
* `round`, `abs`: the global names are CSS math functions (`round(up, 1.5px, 1px)`,
  `abs(var(--x))`), defined separately by `math::expose` (`round::css_round`,
  `css::global`).
* `max`, `min` (since /repo 424b303): the global names are also the CSS functions
  `max()`/`min()`; `math::expose` defines them separately with `find_extreme(.., strict =
  false)` (numbers Sass cannot compare are kept as a CSS call), the module versions are
  strict (error).  This pair DISAGREES by design on incomparable arguments (dart-sass
  does the same): known finding `C34-minmax-css-fallback`, modelled in `Glue/FnMinMax.lean`.
For those six the only evidence of agreement is the correspondence run.

Imports only `Glue/FnRegistry.lean` (itself import-free).
-/
import RsassModel.Glue.FnRegistry
namespace Glue.FnReg

/-- a documented pair: global name, module, function name in the module -/
structure DocPair where
  g : Name
  m : Name
  f : Name
deriving Repr, DecidableEq

def documentedPairs : List DocPair := [
  -- sass:color
  ⟨['a','d','j','u','s','t','-','c','o','l','o','r'], ['c','o','l','o','r'], ['a','d','j','u','s','t']⟩,
  ⟨['a','l','p','h','a'], ['c','o','l','o','r'], ['a','l','p','h','a']⟩,
  ⟨['o','p','a','c','i','t','y'], ['c','o','l','o','r'], ['o','p','a','c','i','t','y']⟩,
  ⟨['b','l','u','e'], ['c','o','l','o','r'], ['b','l','u','e']⟩,
  ⟨['c','h','a','n','g','e','-','c','o','l','o','r'], ['c','o','l','o','r'], ['c','h','a','n','g','e']⟩,
  ⟨['c','o','m','p','l','e','m','e','n','t'], ['c','o','l','o','r'], ['c','o','m','p','l','e','m','e','n','t']⟩,
  ⟨['g','r','a','y','s','c','a','l','e'], ['c','o','l','o','r'], ['g','r','a','y','s','c','a','l','e']⟩,
  ⟨['g','r','e','e','n'], ['c','o','l','o','r'], ['g','r','e','e','n']⟩,
  ⟨['h','u','e'], ['c','o','l','o','r'], ['h','u','e']⟩,
  ⟨['i','e','-','h','e','x','-','s','t','r'], ['c','o','l','o','r'], ['i','e','-','h','e','x','-','s','t','r']⟩,
  ⟨['i','n','v','e','r','t'], ['c','o','l','o','r'], ['i','n','v','e','r','t']⟩,
  ⟨['l','i','g','h','t','n','e','s','s'], ['c','o','l','o','r'], ['l','i','g','h','t','n','e','s','s']⟩,
  ⟨['m','i','x'], ['c','o','l','o','r'], ['m','i','x']⟩,
  ⟨['r','e','d'], ['c','o','l','o','r'], ['r','e','d']⟩,
  ⟨['s','a','t','u','r','a','t','i','o','n'], ['c','o','l','o','r'], ['s','a','t','u','r','a','t','i','o','n']⟩,
  ⟨['s','c','a','l','e','-','c','o','l','o','r'], ['c','o','l','o','r'], ['s','c','a','l','e']⟩,
  -- sass:list
  ⟨['a','p','p','e','n','d'], ['l','i','s','t'], ['a','p','p','e','n','d']⟩,
  ⟨['i','n','d','e','x'], ['l','i','s','t'], ['i','n','d','e','x']⟩,
  ⟨['i','s','-','b','r','a','c','k','e','t','e','d'], ['l','i','s','t'], ['i','s','-','b','r','a','c','k','e','t','e','d']⟩,
  ⟨['j','o','i','n'], ['l','i','s','t'], ['j','o','i','n']⟩,
  ⟨['l','e','n','g','t','h'], ['l','i','s','t'], ['l','e','n','g','t','h']⟩,
  ⟨['l','i','s','t','-','s','e','p','a','r','a','t','o','r'], ['l','i','s','t'], ['s','e','p','a','r','a','t','o','r']⟩,
  ⟨['n','t','h'], ['l','i','s','t'], ['n','t','h']⟩,
  ⟨['s','e','t','-','n','t','h'], ['l','i','s','t'], ['s','e','t','-','n','t','h']⟩,
  ⟨['z','i','p'], ['l','i','s','t'], ['z','i','p']⟩,
  -- sass:map
  ⟨['m','a','p','-','g','e','t'], ['m','a','p'], ['g','e','t']⟩,
  ⟨['m','a','p','-','h','a','s','-','k','e','y'], ['m','a','p'], ['h','a','s','-','k','e','y']⟩,
  ⟨['m','a','p','-','k','e','y','s'], ['m','a','p'], ['k','e','y','s']⟩,
  ⟨['m','a','p','-','m','e','r','g','e'], ['m','a','p'], ['m','e','r','g','e']⟩,
  ⟨['m','a','p','-','r','e','m','o','v','e'], ['m','a','p'], ['r','e','m','o','v','e']⟩,
  ⟨['m','a','p','-','v','a','l','u','e','s'], ['m','a','p'], ['v','a','l','u','e','s']⟩,
  -- sass:math
  ⟨['c','e','i','l'], ['m','a','t','h'], ['c','e','i','l']⟩,
  ⟨['f','l','o','o','r'], ['m','a','t','h'], ['f','l','o','o','r']⟩,
  ⟨['r','o','u','n','d'], ['m','a','t','h'], ['r','o','u','n','d']⟩,
  ⟨['a','b','s'], ['m','a','t','h'], ['a','b','s']⟩,
  ⟨['m','a','x'], ['m','a','t','h'], ['m','a','x']⟩,
  ⟨['m','i','n'], ['m','a','t','h'], ['m','i','n']⟩,
  ⟨['c','o','m','p','a','r','a','b','l','e'], ['m','a','t','h'], ['c','o','m','p','a','t','i','b','l','e']⟩,
  ⟨['u','n','i','t','l','e','s','s'], ['m','a','t','h'], ['i','s','-','u','n','i','t','l','e','s','s']⟩,
  ⟨['u','n','i','t'], ['m','a','t','h'], ['u','n','i','t']⟩,
  ⟨['p','e','r','c','e','n','t','a','g','e'], ['m','a','t','h'], ['p','e','r','c','e','n','t','a','g','e']⟩,
  ⟨['r','a','n','d','o','m'], ['m','a','t','h'], ['r','a','n','d','o','m']⟩,
  -- sass:meta
  ⟨['c','a','l','l'], ['m','e','t','a'], ['c','a','l','l']⟩,
  ⟨['c','o','n','t','e','n','t','-','e','x','i','s','t','s'], ['m','e','t','a'], ['c','o','n','t','e','n','t','-','e','x','i','s','t','s']⟩,
  ⟨['f','e','a','t','u','r','e','-','e','x','i','s','t','s'], ['m','e','t','a'], ['f','e','a','t','u','r','e','-','e','x','i','s','t','s']⟩,
  ⟨['f','u','n','c','t','i','o','n','-','e','x','i','s','t','s'], ['m','e','t','a'], ['f','u','n','c','t','i','o','n','-','e','x','i','s','t','s']⟩,
  ⟨['g','e','t','-','f','u','n','c','t','i','o','n'], ['m','e','t','a'], ['g','e','t','-','f','u','n','c','t','i','o','n']⟩,
  ⟨['g','l','o','b','a','l','-','v','a','r','i','a','b','l','e','-','e','x','i','s','t','s'], ['m','e','t','a'], ['g','l','o','b','a','l','-','v','a','r','i','a','b','l','e','-','e','x','i','s','t','s']⟩,
  ⟨['i','n','s','p','e','c','t'], ['m','e','t','a'], ['i','n','s','p','e','c','t']⟩,
  ⟨['k','e','y','w','o','r','d','s'], ['m','e','t','a'], ['k','e','y','w','o','r','d','s']⟩,
  ⟨['m','i','x','i','n','-','e','x','i','s','t','s'], ['m','e','t','a'], ['m','i','x','i','n','-','e','x','i','s','t','s']⟩,
  ⟨['t','y','p','e','-','o','f'], ['m','e','t','a'], ['t','y','p','e','-','o','f']⟩,
  ⟨['v','a','r','i','a','b','l','e','-','e','x','i','s','t','s'], ['m','e','t','a'], ['v','a','r','i','a','b','l','e','-','e','x','i','s','t','s']⟩,
  -- sass:selector
  ⟨['i','s','-','s','u','p','e','r','s','e','l','e','c','t','o','r'], ['s','e','l','e','c','t','o','r'], ['i','s','-','s','u','p','e','r','s','e','l','e','c','t','o','r']⟩,
  ⟨['s','e','l','e','c','t','o','r','-','a','p','p','e','n','d'], ['s','e','l','e','c','t','o','r'], ['a','p','p','e','n','d']⟩,
  ⟨['s','e','l','e','c','t','o','r','-','e','x','t','e','n','d'], ['s','e','l','e','c','t','o','r'], ['e','x','t','e','n','d']⟩,
  ⟨['s','e','l','e','c','t','o','r','-','n','e','s','t'], ['s','e','l','e','c','t','o','r'], ['n','e','s','t']⟩,
  ⟨['s','e','l','e','c','t','o','r','-','p','a','r','s','e'], ['s','e','l','e','c','t','o','r'], ['p','a','r','s','e']⟩,
  ⟨['s','e','l','e','c','t','o','r','-','r','e','p','l','a','c','e'], ['s','e','l','e','c','t','o','r'], ['r','e','p','l','a','c','e']⟩,
  ⟨['s','e','l','e','c','t','o','r','-','u','n','i','f','y'], ['s','e','l','e','c','t','o','r'], ['u','n','i','f','y']⟩,
  ⟨['s','i','m','p','l','e','-','s','e','l','e','c','t','o','r','s'], ['s','e','l','e','c','t','o','r'], ['s','i','m','p','l','e','-','s','e','l','e','c','t','o','r','s']⟩,
  -- sass:string
  ⟨['q','u','o','t','e'], ['s','t','r','i','n','g'], ['q','u','o','t','e']⟩,
  ⟨['s','t','r','-','i','n','d','e','x'], ['s','t','r','i','n','g'], ['i','n','d','e','x']⟩,
  ⟨['s','t','r','-','i','n','s','e','r','t'], ['s','t','r','i','n','g'], ['i','n','s','e','r','t']⟩,
  ⟨['s','t','r','-','l','e','n','g','t','h'], ['s','t','r','i','n','g'], ['l','e','n','g','t','h']⟩,
  ⟨['s','t','r','-','s','l','i','c','e'], ['s','t','r','i','n','g'], ['s','l','i','c','e']⟩,
  ⟨['t','o','-','u','p','p','e','r','-','c','a','s','e'], ['s','t','r','i','n','g'], ['t','o','-','u','p','p','e','r','-','c','a','s','e']⟩,
  ⟨['t','o','-','l','o','w','e','r','-','c','a','s','e'], ['s','t','r','i','n','g'], ['t','o','-','l','o','w','e','r','-','c','a','s','e']⟩,
  ⟨['u','n','i','q','u','e','-','i','d'], ['s','t','r','i','n','g'], ['u','n','i','q','u','e','-','i','d']⟩,
  ⟨['u','n','q','u','o','t','e'], ['s','t','r','i','n','g'], ['u','n','q','u','o','t','e']⟩
]

def separatelyDefined : List DocPair := [
  ⟨['g','r','a','y','s','c','a','l','e'], ['c','o','l','o','r'], ['g','r','a','y','s','c','a','l','e']⟩,
  ⟨['i','n','v','e','r','t'], ['c','o','l','o','r'], ['i','n','v','e','r','t']⟩,
  ⟨['r','o','u','n','d'], ['m','a','t','h'], ['r','o','u','n','d']⟩,
  ⟨['a','b','s'], ['m','a','t','h'], ['a','b','s']⟩,
  ⟨['m','a','x'], ['m','a','t','h'], ['m','a','x']⟩,
  ⟨['m','i','n'], ['m','a','t','h'], ['m','i','n']⟩
]

/-- every documented pair is either listed as separately defined or one shared object -/
def docPairsOk (t : IdTable) : Bool :=
  documentedPairs.all fun p => separatelyDefined.contains p || t.shared p.g p.m p.f

/-- the exception list is tight: both forms exist and really are two objects -/
def exceptionsTight (t : IdTable) : Bool :=
  separatelyDefined.all fun p =>
    documentedPairs.contains p && t.bothExist p.g p.m p.f && !t.shared p.g p.m p.f

end Glue.FnReg
