/-
Well-formedness (all channels in range) of colour values and its preservation by the
constructors and conversions of the specified model; what a successful constructor returns.
-/
import RsassModel.Color.Ctor
import RsassModel.Color.Lemmas
namespace Color

def Rgba.WF (c : Rgba Rat) : Prop :=
  (0 ≤ c.r ∧ c.r ≤ 255) ∧ (0 ≤ c.g ∧ c.g ≤ 255) ∧ (0 ≤ c.b ∧ c.b ≤ 255) ∧ (0 ≤ c.a ∧ c.a ≤ 1)

def Hsla.WF (c : Hsla Rat) : Prop :=
  (0 ≤ c.h ∧ c.h < 360) ∧ (0 ≤ c.s ∧ c.s ≤ 1) ∧ (0 ≤ c.l ∧ c.l ≤ 1) ∧ (0 ≤ c.a ∧ c.a ≤ 1)

def Hwba.WF (c : Hwba Rat) : Prop :=
  (0 ≤ c.w ∧ c.w ≤ 1) ∧ (0 ≤ c.b ∧ c.b ≤ 1) ∧ c.w + c.b ≤ 1 ∧ (0 ≤ c.a ∧ c.a ≤ 1)

/-- every channel of the colour value is in its range -/
def Col.WF : Col Rat → Prop
  | .rgba c => c.WF
  | .hsla c => c.WF
  | .hwba c => c.WF

theorem Rgba.new_wf (r g b a : Rat) (s : RgbFormat) : (Rgba.new r g b a s).WF := by
  unfold Rgba.new Rgba.WF
  exact ⟨cap_range _ _ (by norm_num), cap_range _ _ (by norm_num), cap_range _ _ (by norm_num),
    cap_range _ _ (by norm_num)⟩

theorem Hsla.new_wf (q : CQuirks) (h1 : q.hslUnclamped = false) (h2 : q.degModNegZero = false)
    (h s l a : Rat) (f : Bool) : (Hsla.new q h s l a f).WF := by
  unfold Hsla.new Hsla.WF
  simp only [h1, Bool.false_eq_true, if_false]
  exact ⟨degMod_spec_range q h2 h, clamp_range _ _ _ (by norm_num), clamp_range _ _ _ (by norm_num),
    cminmax_range a⟩

theorem Hwba.new_wf (q : CQuirks) (h1 : q.hwbUnclamped = false) (h w b a : Rat) :
    (Hwba.new q h w b a).WF := by
  unfold Hwba.new Hwba.WF
  simp only [h1, Bool.false_eq_true, if_false]
  have hw := clamp_range 0 1 w (by norm_num)
  have hb := clamp_range 0 1 b (by norm_num)
  generalize clamp 0 1 w = w' at hw ⊢
  generalize clamp 0 1 b = b' at hb ⊢
  have ha := clamp_range 0 1 a (by norm_num)
  by_cases hs : 1 < w' + b'
  · simp only [hs, if_true]
    have hp : 0 < w' + b' := by linarith
    refine ⟨⟨div_nonneg hw.1 hp.le, ?_⟩, ⟨div_nonneg hb.1 hp.le, ?_⟩, ?_, ha⟩
    · rw [div_le_one hp]
      linarith
    · rw [div_le_one hp]
      linarith
    · rw [← add_div, div_self (ne_of_gt hp)]
  · simp only [hs, if_false]
    exact ⟨hw, hb, by linarith, ha⟩

theorem Hsla.toRgba_wf (c : Hsla Rat) : c.toRgba.WF := by
  unfold Hsla.toRgba
  simp only []
  split <;> exact Rgba.new_wf _ _ _ _ _

theorem Rgba.toHsla_wf (c : Rgba Rat) : (c.toHsla CQuirks.spec).WF := by
  unfold Rgba.toHsla
  simp only []
  split <;> exact Hsla.new_wf _ rfl rfl _ _ _ _ _

theorem Hwba.toHsla_wf (c : Hwba Rat) : (c.toHsla CQuirks.spec).WF := by
  unfold Hwba.toHsla
  exact Hsla.new_wf _ rfl rfl _ _ _ _ _

theorem Hwba.toRgba_wf (q : CQuirks) (c : Hwba Rat) : (c.toRgba q).WF := Hsla.toRgba_wf _

theorem Rgba.toHwba_wf (c : Rgba Rat) : (c.toHwba CQuirks.spec).WF := Hwba.new_wf _ rfl _ _ _ _
theorem Hsla.toHwba_wf (c : Hsla Rat) : (c.toHwba CQuirks.spec).WF := Hwba.new_wf _ rfl _ _ _ _

theorem Col.toRgba_wf (c : Col Rat) (h : c.WF) : (c.toRgba CQuirks.spec).WF := by
  cases c with
  | rgba c => exact h
  | hsla c => exact Hsla.toRgba_wf c
  | hwba c => exact Hwba.toRgba_wf _ c

theorem Col.toHsla_wf (c : Col Rat) (h : c.WF) : (c.toHsla CQuirks.spec).WF := by
  cases c with
  | rgba c => exact Rgba.toHsla_wf c
  | hsla c => exact h
  | hwba c => exact Hwba.toHsla_wf c

theorem Col.toHwba_wf (c : Col Rat) (h : c.WF) : (c.toHwba CQuirks.spec).WF := by
  cases c with
  | rgba c => exact Rgba.toHwba_wf c
  | hsla c => exact Hsla.toHwba_wf c
  | hwba c => exact h

theorem Col.alpha_range (c : Col Rat) (h : c.WF) : 0 ≤ c.alpha ∧ c.alpha ≤ 1 := by
  cases c with
  | rgba c => exact h.2.2.2
  | hsla c => exact h.2.2.2
  | hwba c => exact h.2.2.2

theorem Col.setAlpha_wf (c : Col Rat) (a : Rat) (h : c.WF) : (c.setAlpha a).WF := by
  have ha := clamp_range 0 1 (clamp 0 1 a) (by norm_num)
  cases c with
  | rgba c => exact ⟨h.1, h.2.1, h.2.2.1, ha⟩
  | hsla c => exact ⟨h.1, h.2.1, h.2.2.1, ha⟩
  | hwba c => exact ⟨h.1, h.2.1, h.2.2.1, ha⟩

theorem Col.resetSource_wf (c : Col Rat) (h : c.WF) : c.resetSource.WF := by
  cases c <;> exact h

theorem Col.resetSource_rgba_src (x : Col Rat) (c : Rgba Rat) (h : x.resetSource = .rgba c) :
    c.src = .name := by
  cases x <;> cases h
  rfl

theorem ofNat_range (n : Nat) (h : n ≤ 255) :
    (0 : Rat) ≤ (CExtra.ofNat n : Rat) ∧ (CExtra.ofNat n : Rat) ≤ 255 := by
  show (0 : Rat) ≤ (n : Rat) ∧ (n : Rat) ≤ 255
  constructor
  · positivity
  · exact_mod_cast h

theorem Rgba.fromBytes_wf (r g b : Nat) (hr : r ≤ 255) (hg : g ≤ 255) (hb : b ≤ 255) :
    (Rgba.fromBytes r g b : Rgba Rat).WF :=
  ⟨ofNat_range r hr, ofNat_range g hg, ofNat_range b hb,
    (zero_le_one : (0 : Rat) ≤ 1), (le_refl (1 : Rat))⟩

theorem Rgba.fromBytesA_wf (r g b a : Nat) (hr : r ≤ 255) (hg : g ≤ 255) (hb : b ≤ 255)
    (ha : a ≤ 255) : (Rgba.fromBytesA r g b a : Rgba Rat).WF := by
  refine ⟨ofNat_range r hr, ofNat_range g hg, ofNat_range b hb, ?_, ?_⟩
  · exact div_nonneg (ofNat_range a ha).1 (by norm_num)
  · show (CExtra.ofNat a : Rat) / 255 ≤ 1
    rw [div_le_one (by norm_num)]
    exact (ofNat_range a ha).2

theorem fromHex_wf (ds : List Nat) (hd : ∀ d ∈ ds, d < 16) (c : Rgba Rat)
    (h : fromHex ds = some c) : c.WF := by
  unfold fromHex at h
  split at h
  all_goals cases h
  all_goals simp only [List.mem_cons, List.not_mem_nil, or_false, forall_eq_or_imp, forall_eq] at hd
  · exact Rgba.fromBytes_wf _ _ _ (by omega) (by omega) (by omega)
  · exact Rgba.fromBytesA_wf _ _ _ _ (by omega) (by omega) (by omega) (by omega)
  · exact Rgba.fromBytes_wf _ _ _ (by omega) (by omega) (by omega)
  · exact Rgba.fromBytesA_wf _ _ _ _ (by omega) (by omega) (by omega) (by omega)

theorem fromHex_src (ds : List Nat) (c : Rgba Rat) (h : fromHex ds = some c) : c.src = .longHex := by
  unfold fromHex at h
  split at h
  all_goals cases h
  all_goals rfl

theorem fromName_some (s : List Char) (c : Rgba Rat) (h : fromName s = some c) :
    ∃ r g b a, c = Rgba.new r g b a .name := by
  unfold fromName at h
  simp only [] at h
  split at h
  · cases h
    exact ⟨_, _, _, _, rfl⟩
  · split at h
    · cases h
      exact ⟨_, _, _, _, rfl⟩
    · cases h

theorem mkRgb_some (r g b : Arg Rat) (a : Option (Arg Rat)) (c : Col Rat) (h : mkRgb r g b a = some c) :
    ∃ r' g' b' a', c = .rgba (Rgba.new r' g' b' a' .rgb) := by
  unfold mkRgb at h
  split at h
  · cases h
    exact ⟨_, _, _, _, rfl⟩
  · cases h

theorem mkHsl_some (q : CQuirks) (hh s l : Arg Rat) (a : Option (Arg Rat)) (c : Col Rat)
    (h : mkHsl q hh s l a = some c) : ∃ h' s' l' a', c = .hsla (Hsla.new q h' s' l' a' true) := by
  unfold mkHsl at h
  split at h
  · cases h
    exact ⟨_, _, _, _, rfl⟩
  · cases h

theorem mkHwb_some (q : CQuirks) (hh w b : Arg Rat) (a : Option (Arg Rat)) (c : Col Rat)
    (h : mkHwb q hh w b a = some c) :
    ∃ h' w' b' a', c = .rgba ((Hwba.new q h' w' b' a').toRgba q) ∨ c = .hwba (Hwba.new q h' w' b' a') := by
  unfold mkHwb at h
  split at h
  next h' w' b' a' _ _ _ _ =>
    cases h
    generalize (if 1 ≤ w' + b' then 0 else h') = h0
    refine ⟨h0, w', b', a', ?_⟩
    split
    · exact Or.inl rfl
    · exact Or.inr rfl
  · cases h

theorem fromName_wf (s : List Char) (c : Rgba Rat) (h : fromName s = some c) : c.WF := by
  obtain ⟨r, g, b, a, rfl⟩ := fromName_some s c h
  exact Rgba.new_wf r g b a _

theorem mkRgb_wf (r g b : Arg Rat) (a : Option (Arg Rat)) (c : Col Rat) (h : mkRgb r g b a = some c) :
    c.WF := by
  obtain ⟨r', g', b', a', rfl⟩ := mkRgb_some r g b a c h
  exact Rgba.new_wf r' g' b' a' _

theorem mkHsl_wf (hh s l : Arg Rat) (a : Option (Arg Rat)) (c : Col Rat)
    (h : mkHsl CQuirks.spec hh s l a = some c) : c.WF := by
  obtain ⟨h', s', l', a', rfl⟩ := mkHsl_some _ hh s l a c h
  exact Hsla.new_wf _ rfl rfl h' s' l' a' _

theorem mkHwb_wf (h w b : Arg Rat) (a : Option (Arg Rat)) (c : Col Rat)
    (hc : mkHwb CQuirks.spec h w b a = some c) : c.WF := by
  obtain ⟨h', w', b', a', rfl | rfl⟩ := mkHwb_some _ h w b a c hc
  · exact Hwba.toRgba_wf _ _
  · exact Hwba.new_wf _ rfl h' w' b' a'

end Color
