/-
`cmin`/`cmax`/`cap`/`clamp` as `min`/`max`, and floor, remainder, `deg_mod` and rounding of the
exact-rational carrier.
-/
import RsassModel.Color.Conv
import RsassModel.Color.RatInst
import Mathlib.Tactic.Linarith
import Mathlib.Tactic.Ring
import Mathlib.Tactic.FieldSimp
import Mathlib.Tactic.Positivity
import Mathlib.Tactic.SplitIfs
import Mathlib.Tactic.NormNum
import Mathlib.Algebra.Order.Field.Rat
namespace Color

theorem cmin_eq_min (a b : Rat) : cmin a b = min a b := (min_def a b).symm
theorem cmax_eq_max (a b : Rat) : cmax a b = max a b := (max_def a b).symm

theorem cmax_ge_left (a b : Rat) : a ≤ cmax a b := cmax_eq_max a b ▸ le_max_left a b
theorem cmax_ge_right (a b : Rat) : b ≤ cmax a b := cmax_eq_max a b ▸ le_max_right a b
theorem cmin_le_left (a b : Rat) : cmin a b ≤ a := cmin_eq_min a b ▸ min_le_left a b
theorem cmin_le_right (a b : Rat) : cmin a b ≤ b := cmin_eq_min a b ▸ min_le_right a b
theorem le_cmin (a b c : Rat) (h1 : c ≤ a) (h2 : c ≤ b) : c ≤ cmin a b :=
  cmin_eq_min a b ▸ le_min h1 h2
theorem cmax_le (a b c : Rat) (h1 : a ≤ c) (h2 : b ≤ c) : cmax a b ≤ c :=
  cmax_eq_max a b ▸ max_le h1 h2
theorem cmin_mem (a b : Rat) : cmin a b = a ∨ cmin a b = b := cmin_eq_min a b ▸ min_choice a b

theorem cap_range (n mx : Rat) (h : 0 ≤ mx) : 0 ≤ cap n mx ∧ cap n mx ≤ mx := by
  unfold cap
  exact ⟨le_cmin _ _ _ (cmax_ge_left _ _) h, cmin_le_right _ _⟩

theorem cap_id (n mx : Rat) (h0 : 0 ≤ n) (h1 : n ≤ mx) : cap n mx = n := by
  rw [cap, cmax_eq_max, cmin_eq_min, max_eq_right h0, min_eq_left h1]

theorem clamp_range (lo hi x : Rat) (h : lo ≤ hi) : lo ≤ clamp lo hi x ∧ clamp lo hi x ≤ hi := by
  unfold clamp
  exact ⟨le_cmin _ _ _ (cmax_ge_left _ _) h, cmin_le_right _ _⟩

theorem clamp_id (lo hi x : Rat) (h0 : lo ≤ x) (h1 : x ≤ hi) : clamp lo hi x = x := by
  rw [clamp, cmax_eq_max, cmin_eq_min, max_eq_right h0, min_eq_left h1]

theorem cminmax_range (a : Rat) : 0 ≤ cmin (cmax a 0) 1 ∧ cmin (cmax a 0) 1 ≤ 1 :=
  ⟨le_cmin _ _ _ (cmax_ge_right _ _) (by norm_num), cmin_le_right _ _⟩

theorem pct_range (x : Rat) (h : 0 ≤ x ∧ x ≤ 1) : 0 ≤ x * 100 ∧ x * 100 ≤ 100 :=
  ⟨by linarith [h.1], by linarith [h.2]⟩

theorem floor_eq (x : Rat) (n : Int) (h1 : (n : Rat) ≤ x) (h2 : x < (n : Rat) + 1) : x.floor = n :=
  le_antisymm (Int.lt_add_one_iff.mp (Rat.floor_lt_iff.mpr (by push_cast; exact h2)))
    (Rat.le_floor_iff.mpr h1)

theorem fmod_nonneg (x m : Rat) (hm : 0 < m) (hx : 0 ≤ x) :
    0 ≤ CExtra.fmod x m ∧ CExtra.fmod x m < m := by
  show 0 ≤ x - m * ((ratTrunc (x / m) : Int) : Rat) ∧ x - m * ((ratTrunc (x / m) : Int) : Rat) < m
  rw [ratTrunc, if_pos (div_nonneg hx hm.le)]
  have h1 := Rat.floor_le (x / m)
  have h2 := Rat.lt_floor_add_one (x / m)
  push_cast at h2
  rw [div_lt_iff₀ hm] at h2
  rw [le_div_iff₀ hm] at h1
  constructor <;> linarith

theorem fmod_neg (x m : Rat) (hm : 0 < m) (hx : x < 0) :
    -m < CExtra.fmod x m ∧ CExtra.fmod x m ≤ 0 := by
  show -m < x - m * ((ratTrunc (x / m) : Int) : Rat) ∧ x - m * ((ratTrunc (x / m) : Int) : Rat) ≤ 0
  rw [ratTrunc, if_neg (not_le.mpr (div_neg_of_neg_of_pos hx hm)), ← neg_div]
  have h1 := Rat.floor_le (-x / m)
  have h2 := Rat.lt_floor_add_one (-x / m)
  push_cast at h2 ⊢
  rw [div_lt_iff₀ hm] at h2
  rw [le_div_iff₀ hm] at h1
  constructor <;> linarith

theorem fmod_abs_lt (x m : Rat) (hm : 0 < m) : -m < CExtra.fmod x m ∧ CExtra.fmod x m < m := by
  rcases le_or_gt 0 x with h | h
  · have := fmod_nonneg x m hm h
    constructor <;> linarith
  · have := fmod_neg x m hm h
    constructor <;> linarith

theorem cabs_of_nonneg (x : Rat) (h : 0 ≤ x) : (CExtra.abs x : Rat) = x := by
  show (if x < 0 then -x else x) = x
  rw [if_neg (not_lt.mpr h)]

theorem degMod_spec_range (q : CQuirks) (hq : q.degModNegZero = false) (v : Rat) :
    0 ≤ degMod q v ∧ degMod q v < 360 := by
  unfold degMod
  simp only [hq, Bool.false_eq_true, if_false]
  have h := fmod_abs_lt v 360 (by norm_num)
  by_cases hr : CExtra.fmod v (360 : Rat) < 0
  · simp only [hr, if_true]
    constructor <;> linarith
  · simp only [hr, if_false]
    rw [cabs_of_nonneg _ (not_lt.mp hr)]
    constructor <;> linarith

theorem fmod_id (x m : Rat) (hm : 0 < m) (h0 : 0 ≤ x) (h1 : x < m) : CExtra.fmod x m = x := by
  show x - m * ((ratTrunc (x / m) : Int) : Rat) = x
  have hq : 0 ≤ x / m := div_nonneg h0 hm.le
  rw [ratTrunc, if_pos hq, floor_eq (x / m) 0 (by simpa using hq) (by simpa using (div_lt_one hm).mpr h1)]
  simp

theorem degMod_id (q : CQuirks) (v : Rat) (h0 : 0 ≤ v) (h1 : v < 360) : degMod q v = v := by
  unfold degMod
  have e := fmod_id v 360 (by norm_num) h0 h1
  have hs : (CExtra.signNeg v) = false := by
    show decide (v < 0) = false
    simp
    exact h0
  rw [e, hs]
  have : ¬ (v < 0) := not_lt.mpr h0
  cases q.degModNegZero <;> simp [this, cabs_of_nonneg v h0]

theorem round_range (x : Rat) (hi : Int) (h0 : 0 ≤ x) (h1 : x ≤ (hi : Rat)) :
    (0 : Rat) ≤ CExtra.round x ∧ CExtra.round x ≤ (hi : Rat) := by
  show (0 : Rat) ≤ ((ratRound x : Int) : Rat) ∧ ((ratRound x : Int) : Rat) ≤ (hi : Rat)
  rw [ratRound, if_pos h0]
  have a : (0 : Int) ≤ (x + 1 / 2).floor := Rat.le_floor_iff.mpr (by rw [Int.cast_zero]; linarith)
  have b : (x + 1 / 2).floor < hi + 1 := Rat.floor_lt_iff.mpr (by rw [Int.cast_add, Int.cast_one]; linarith)
  exact ⟨Int.cast_nonneg a, Int.cast_le.mpr (Int.lt_add_one_iff.mp b)⟩

end Color
