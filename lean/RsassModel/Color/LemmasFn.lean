/-
Equality of colours through their rgba channels, what `Hsla::new` and `set_alpha` do on values in
range, and `deg_mod` one turn above the range.  Specified model, exact rationals.
-/
import RsassModel.Color.LemmasWF
namespace Color

theorem small_pos : decide (CExtra.abs (0 : Rat) < (CExtra.small : Rat)) = true := by decide +kernel

theorem chanEq_self (x : Rat) : chanEq x x = true := by
  unfold chanEq
  rw [sub_self]
  exact small_pos

theorem eqv_spec_of_chan (x y : Col Rat)
    (hr : (x.toRgba CQuirks.spec).r = (y.toRgba CQuirks.spec).r)
    (hg : (x.toRgba CQuirks.spec).g = (y.toRgba CQuirks.spec).g)
    (hb : (x.toRgba CQuirks.spec).b = (y.toRgba CQuirks.spec).b)
    (ha : (x.toRgba CQuirks.spec).a = (y.toRgba CQuirks.spec).a) :
    x.eqv CQuirks.spec y = true := by
  show (x.toRgba CQuirks.spec).eqv (y.toRgba CQuirks.spec) = true
  unfold Rgba.eqv
  rw [hr, hg, hb, ha]
  simp only [chanEq_self, Bool.and_self]

theorem Col.eqv_spec_refl (x : Col Rat) : x.eqv CQuirks.spec x = true :=
  eqv_spec_of_chan x x rfl rfl rfl rfl

theorem eqv_spec_of_toRgba (x y : Col Rat) (e : x.toRgba CQuirks.spec = y.toRgba CQuirks.spec) :
    x.eqv CQuirks.spec y = true :=
  eqv_spec_of_chan x y (by rw [e]) (by rw [e]) (by rw [e]) (by rw [e])

theorem cminmax_id (a : Rat) (h0 : 0 ≤ a) (h1 : a ≤ 1) : cmin (cmax a 0) 1 = a := by
  rw [cmax_eq_max, cmin_eq_min, max_eq_left h0, min_eq_left h1]

theorem Hsla.new_spec (h s l a : Rat) (f : Bool) (hs : 0 ≤ s ∧ s ≤ 1) (hl : 0 ≤ l ∧ l ≤ 1)
    (ha : 0 ≤ a ∧ a ≤ 1) :
    Hsla.new CQuirks.spec h s l a f = { h := degMod CQuirks.spec h, s := s, l := l, a := a, fmt := f } := by
  unfold Hsla.new
  simp only [CQuirks.spec, Bool.false_eq_true, if_false, clamp_id _ _ _ hs.1 hs.2, clamp_id _ _ _ hl.1 hl.2,
    cminmax_id _ ha.1 ha.2]

theorem Hsla.new_of_range (h s l a : Rat) (f : Bool) (hh : 0 ≤ h ∧ h < 360) (hs : 0 ≤ s ∧ s ≤ 1)
    (hl : 0 ≤ l ∧ l ≤ 1) (ha : 0 ≤ a ∧ a ≤ 1) :
    Hsla.new CQuirks.spec h s l a f = { h := h, s := s, l := l, a := a, fmt := f } := by
  rw [Hsla.new_spec h s l a f hs hl ha, degMod_id _ _ hh.1 hh.2]

theorem Hsla.new_id (c : Hsla Rat) (h : c.WF) (f : Bool) :
    Hsla.new CQuirks.spec c.h c.s c.l c.a f = { c with fmt := f } :=
  Hsla.new_of_range _ _ _ _ f h.1 h.2.1 h.2.2.1 h.2.2.2

theorem Hsla.toRgba_fmt (c : Hsla Rat) (f : Bool) : ({ c with fmt := f } : Hsla Rat).toRgba = c.toRgba := rfl

theorem fmod_sub (x m : Rat) (hm : 0 < m) (h0 : m ≤ x) (h1 : x < 2 * m) : CExtra.fmod x m = x - m := by
  show x - m * ((ratTrunc (x / m) : Int) : Rat) = x - m
  have hq : 0 ≤ x / m := div_nonneg (by linarith) hm.le
  unfold ratTrunc
  rw [if_pos hq]
  have : (x / m).floor = 1 := by
    apply floor_eq
    · simp; rw [le_div_iff₀ hm]; linarith
    · simp; rw [div_lt_iff₀ hm]; linarith
  rw [this]; simp

theorem degMod_turn (v : Rat) (h0 : 360 ≤ v) (h1 : v < 720) : degMod CQuirks.spec v = v - 360 := by
  unfold degMod
  have e := fmod_sub v 360 (by norm_num) h0 (by linarith)
  rw [e]
  have : ¬ (v - 360 < 0) := by linarith
  simp [CQuirks.spec, this, cabs_of_nonneg (v - 360) (by linarith)]

theorem degMod_add_360 (h : Rat) (h0 : 0 ≤ h) (h1 : h < 360) : degMod CQuirks.spec (h + 360) = h := by
  rw [degMod_turn _ (by linarith) (by linarith)]; ring

theorem degMod_half_half (h : Rat) (h0 : 0 ≤ h) (h1 : h < 360) :
    degMod CQuirks.spec (degMod CQuirks.spec (h + 180) + 180) = h := by
  by_cases hh : h < 180
  · rw [degMod_id _ (h + 180) (by linarith) (by linarith)]
    rw [degMod_turn _ (by linarith) (by linarith)]; ring
  · rw [degMod_turn (h + 180) (by linarith) (by linarith)]
    rw [degMod_id _ _ (by linarith) (by linarith)]; ring

theorem clamp_clamp (x : Rat) : clamp 0 1 (clamp 0 1 x) = clamp 0 1 x :=
  clamp_id _ _ _ (clamp_range 0 1 x (by norm_num)).1 (clamp_range 0 1 x (by norm_num)).2

theorem Col.setAlpha_alpha (c : Col Rat) (a : Rat) : (c.setAlpha a).alpha = clamp 0 1 (clamp 0 1 a) := by
  cases c <;> rfl

theorem Col.setAlpha_setAlpha (c : Col Rat) (a b : Rat) : (c.setAlpha a).setAlpha b = c.setAlpha b := by
  cases c <;> rfl

theorem Col.setAlpha_id (c : Col Rat) (h : c.WF) : c.setAlpha c.alpha = c := by
  have ha := Col.alpha_range c h
  have e : clamp 0 1 (clamp 0 1 c.alpha) = c.alpha := by
    rw [clamp_clamp, clamp_id _ _ _ ha.1 ha.2]
  cases c with
  | rgba c => simp only [Col.setAlpha]; rw [e]; rfl
  | hsla c => simp only [Col.setAlpha]; rw [e]; rfl
  | hwba c => simp only [Col.setAlpha]; rw [e]; rfl

theorem Rgba.toHsla_alpha (c : Rgba Rat) (q : CQuirks) (a0 : 0 ≤ c.a) (a1 : c.a ≤ 1) :
    (c.toHsla q).a = c.a := by
  unfold Rgba.toHsla
  simp only []
  split <;> simp only [Hsla.new, cminmax_id _ a0 a1]

theorem Col.toHsla_alpha (c : Col Rat) (h : c.WF) : (c.toHsla CQuirks.spec).a = c.alpha := by
  cases c with
  | rgba c => exact Rgba.toHsla_alpha c _ h.2.2.2.1 h.2.2.2.2
  | hsla c => rfl
  | hwba c =>
    show (Hsla.new CQuirks.spec _ _ _ c.a false).a = c.a
    simp only [Hsla.new, cminmax_id _ h.2.2.2.1 h.2.2.2.2]

end Color
