/-
Helper lemmas for the C33 theorems (printer model).
-/
import RsassModel.Color.Fmt
import RsassModel.Color.LemmasFn
namespace Color

theorem lookup_all {κ β : Type} [BEq κ] [LawfulBEq κ] (l : List (κ × β)) (p : κ × β → Bool)
    (h : l.all p = true) (k : κ) (v : β) (hk : l.lookup k = some v) : p (k, v) = true := by
  induction l with
  | nil => simp at hk
  | cons x xs ih =>
    obtain ⟨k', v'⟩ := x
    simp only [List.all_cons, Bool.and_eq_true] at h
    simp only [List.lookup] at hk
    split at hk
    · rename_i heq
      have : k = k' := by simpa using heq
      subst this
      cases hk
      exact h.1
    · exact ih h.2 hk

/-- The probes are the sorted CSS names plus near-miss names, and the answers of `Rgba::from_name`
are kept in probe order; so the table of answers is the sorted CSS list itself exactly when every
answer is the CSS value and every CSS name is answered. -/
theorem n2v_eq_cssNames : Generated.n2v = cssNames := by decide +kernel

theorem hexVal_digit (d : Nat) (h : d < 16) : hexVal (hexDigitChar d) = some d := by
  have : ∀ d, d < 16 → hexVal (hexDigitChar d) = some d := by decide +kernel
  exact this d h

theorem hexVal_hi (n : Nat) (h : n < 256) : hexVal (hexDigitChar (n / 16 % 16)) = some (n / 16) := by
  have e : n / 16 % 16 = n / 16 := by omega
  rw [e]; exact hexVal_digit _ (by omega)

theorem hexVal_lo (n : Nat) : hexVal (hexDigitChar (n % 16)) = some (n % 16) :=
  hexVal_digit _ (by omega)

theorem readHex6 (a b c d e f : Char) (va vb vc vd ve vf : Nat)
    (ha : hexVal a = some va) (hb : hexVal b = some vb) (hc : hexVal c = some vc)
    (hd : hexVal d = some vd) (he : hexVal e = some ve) (hf : hexVal f = some vf) :
    readHex ['#', a, b, c, d, e, f] = some (va * 16 + vb, vc * 16 + vd, ve * 16 + vf) := by
  unfold readHex
  simp only [ha, hb, hc, hd, he, hf]

theorem readHex3 (a b c : Char) (va vb vc : Nat)
    (ha : hexVal a = some va) (hb : hexVal b = some vb) (hc : hexVal c = some vc) :
    readHex ['#', a, b, c] = some (va * 17, vb * 17, vc * 17) := by
  unfold readHex
  simp only [ha, hb, hc]

theorem tryByte_close (v : Rat) (n : Nat) (h0 : 0 ≤ v) (h1 : v ≤ 255) (h : tryByte v = some n) :
    CExtra.abs ((CExtra.ofNat n : Rat) - v) < (CExtra.small : Rat) ∧ n ≤ 255 := by
  unfold tryByte at h
  split at h
  · rename_i hc
    simp only [Option.some.injEq] at h
    have rr := round_range v 255 h0 (by exact_mod_cast h1)
    have e : (CExtra.round v : Rat) = ((ratRound v : Int) : Rat) := rfl
    have k0 : 0 ≤ ratRound v := by
      have := rr.1; rw [e] at this; exact_mod_cast this
    have k1 : ratRound v ≤ 255 := by
      have := rr.2; rw [e] at this; exact_mod_cast this
    have tb : CExtra.toByte (CExtra.round v : Rat) = (ratRound v).toNat := by
      show min ((((ratRound v : Int) : Rat)).floor.toNat) 255 = (ratRound v).toNat
      rw [Rat.floor_intCast]; omega
    rw [tb] at h
    subst h
    have cast : ((CExtra.ofNat (ratRound v).toNat : Rat)) = ((ratRound v : Int) : Rat) := by
      show (((ratRound v).toNat : Nat) : Rat) = ((ratRound v : Int) : Rat)
      have : (((ratRound v).toNat : Nat) : Int) = ratRound v := Int.toNat_of_nonneg k0
      exact_mod_cast this
    constructor
    · rw [cast, ← e]; exact hc
    · omega
  · simp at h

theorem Rgba.tryBytes_some (c : Rgba Rat) (r g b : Nat) (h : c.tryBytes = some (r, g, b)) :
    1 ≤ c.a ∧ tryByte c.r = some r ∧ tryByte c.g = some g ∧ tryByte c.b = some b := by
  unfold Rgba.tryBytes at h
  split at h
  · rename_i ha
    split at h
    · rename_i hr hg hb
      cases h
      exact ⟨ha, hr, hg, hb⟩
    · cases h
  · cases h

theorem decode_hex6 (r g b : Nat) :
    decodeTok (Tok.hex6 r g b : Tok Rat) = some (CExtra.ofNat r, CExtra.ofNat g, CExtra.ofNat b, 1) := rfl

theorem decode_rgbBytes (r g b : Nat) :
    decodeTok (Tok.rgbBytes r g b : Tok Rat) = some (CExtra.ofNat r, CExtra.ofNat g, CExtra.ofNat b, 1) := rfl

theorem decode_hex3 (r g b : Nat) (sr : r % 17 = 0) (sg : g % 17 = 0) (sb : b % 17 = 0) :
    decodeTok (Tok.hex3 (r / 17) (g / 17) (b / 17) : Tok Rat)
      = some (CExtra.ofNat r, CExtra.ofNat g, CExtra.ofNat b, 1) := by
  have e : ∀ n : Nat, n % 17 = 0 → n / 17 * 17 = n := by intro n h; omega
  simp only [decodeTok, e r sr, e g sg, e b sb]

/-- `tbl` is theorem `C33.colorNames_match_css_v2n`, re-checked on the regenerated table every run -/
theorem decode_name (r g b : Nat) (n : List Char) (hr : r < 256) (hg : g < 256) (hb : b < 256)
    (tbl : Generated.v2n.all (fun p => cssNames.lookup p.2 == some p.1 && decide (p.1 < 16777216)) = true)
    (h : nameOfBytes r g b = some n) :
    decodeTok (Tok.name n : Tok Rat) = some (CExtra.ofNat r, CExtra.ofNat g, CExtra.ofNat b, 1) := by
  have := lookup_all _ _ tbl _ _ h
  simp only [Bool.and_eq_true, beq_iff_eq, decide_eq_true_eq] at this
  have e1 : (r * 65536 + g * 256 + b) / 65536 = r := by omega
  have e2 : (r * 65536 + g * 256 + b) / 256 % 256 = g := by omega
  have e3 : (r * 65536 + g * 256 + b) % 256 = b := by omega
  simp only [decodeTok, this.1, e1, e2, e3]

/-- `hs`: the `ShortHex` source format is never constructed (`C33.ctor_src_not_shortHex`) -/
theorem bytesTok_cases (comp : Bool) (src : RgbFormat) (hs : src ≠ .shortHex) (r g b : Nat) :
    (∃ n, nameOfBytes r g b = some n ∧ (bytesTok comp src r g b : Tok Rat) = .name n) ∨
    (bytesTok comp src r g b : Tok Rat) = .hex6 r g b ∨
    (bytesTok comp src r g b : Tok Rat) = .rgbBytes r g b ∨
    ((r % 17 = 0 ∧ g % 17 = 0 ∧ b % 17 = 0) ∧
      (bytesTok comp src r g b : Tok Rat) = .hex3 (r / 17) (g / 17) (b / 17)) := by
  unfold bytesTok
  cases comp
  · cases src with
    | longHex => exact Or.inr (Or.inl rfl)
    | shortHex => exact absurd rfl hs
    | rgb => exact Or.inr (Or.inr (Or.inl rfl))
    | name =>
      cases nameOfBytes r g b with
      | none => exact Or.inr (Or.inl rfl)
      | some n => exact Or.inl ⟨n, rfl, rfl⟩
  · by_cases sh : (r % 17 == 0 && g % 17 == 0 && b % 17 == 0) = true
    · have sh' : r % 17 = 0 ∧ g % 17 = 0 ∧ b % 17 = 0 := by
        simpa only [Bool.and_eq_true, beq_iff_eq, and_assoc] using sh
      simp only [sh, if_true]
      cases nameOfBytes r g b with
      | none => exact Or.inr (Or.inr (Or.inr ⟨sh', rfl⟩))
      | some n =>
        simp only []
        split
        · exact Or.inl ⟨n, rfl, rfl⟩
        · exact Or.inr (Or.inr (Or.inr ⟨sh', rfl⟩))
    · simp only [sh, Bool.false_eq_true, if_false, if_true]
      cases nameOfBytes r g b with
      | none => exact Or.inr (Or.inl rfl)
      | some n =>
        simp only []
        split
        · exact Or.inl ⟨n, rfl, rfl⟩
        · exact Or.inr (Or.inl rfl)

theorem bytesTok_decode (comp : Bool) (src : RgbFormat) (hs : src ≠ .shortHex) (r g b : Nat)
    (hr : r < 256) (hg : g < 256) (hb : b < 256)
    (tbl : Generated.v2n.all (fun p => cssNames.lookup p.2 == some p.1 && decide (p.1 < 16777216)) = true) :
    decodeTok (bytesTok comp src r g b : Tok Rat)
      = some (CExtra.ofNat r, CExtra.ofNat g, CExtra.ofNat b, 1) := by
  rcases bytesTok_cases comp src hs r g b with ⟨n, hn, e⟩ | e | e | ⟨⟨sr, sg, sb⟩, e⟩ <;> rw [e]
  · exact decode_name r g b n hr hg hb tbl hn
  · exact decode_hex6 r g b
  · exact decode_rgbBytes r g b
  · exact decode_hex3 r g b sr sg sb

theorem Hsla.toRgba_src (c : Hsla Rat) : c.toRgba.src = .name := by
  unfold Hsla.toRgba; simp only []; split <;> rfl

end Color
