/-
Round-trip lemmas (C31 `rgb_hsl_rgb`, `rgb_hwb_rgb`): the sector analysis of
`max_min_largest` × `hue2rgb`, over exact rationals, specified model; what follows from them for
the colour functions of C32 (the hsl form of a colour is `==` to it; `deg_mod` is periodic, so
hwb colours may be compared modulo 360); and the tie analysis of the old `max_min_largest` (`qTie`).
-/
import RsassModel.Color.Fn
import RsassModel.Color.LemmasFn
namespace Color

theorem minOf_le (a b c : Rat) : minOf a b c ≤ a ∧ minOf a b c ≤ b ∧ minOf a b c ≤ c := by
  unfold minOf
  exact ⟨le_trans (cmin_le_left _ _) (cmin_le_left _ _), le_trans (cmin_le_left _ _) (cmin_le_right _ _),
    cmin_le_right _ _⟩

theorem minOf_ge (a b c m : Rat) (ha : m ≤ a) (hb : m ≤ b) (hc : m ≤ c) : m ≤ minOf a b c := by
  unfold minOf; exact le_cmin _ _ _ (le_cmin _ _ _ ha hb) hc

theorem minOf_mem (a b c : Rat) : minOf a b c = a ∨ minOf a b c = b ∨ minOf a b c = c := by
  unfold minOf
  rcases cmin_mem (cmin a b) c with e | e
  · rw [e]
    exact (cmin_mem a b).elim Or.inl (fun e' => Or.inr (Or.inl e'))
  · exact Or.inr (Or.inr e)

theorem maxOf_mem (q : CQuirks) (a b c : Rat) : maxOf q a b c = a ∨ maxOf q a b c = b ∨ maxOf q a b c = c := by
  unfold maxOf; split <;> simp

theorem largestOf_spec_cases (a b c : Rat) :
    (largestOf CQuirks.spec a b c = 0 ∧ maxOf CQuirks.spec a b c = a ∧ b ≤ a ∧ c ≤ a) ∨
    (largestOf CQuirks.spec a b c = 1 ∧ maxOf CQuirks.spec a b c = b ∧ a ≤ b ∧ c ≤ b) ∨
    (largestOf CQuirks.spec a b c = 2 ∧ maxOf CQuirks.spec a b c = c ∧ a ≤ c ∧ b ≤ c) := by
  unfold maxOf largestOf
  simp only [CQuirks.spec, Bool.false_eq_true, if_false]
  by_cases h0 : a ≥ b ∧ a ≥ c
  · rw [if_pos h0]
    exact Or.inl ⟨rfl, rfl, h0.1, h0.2⟩
  · rw [if_neg h0]
    by_cases h1 : b ≥ c
    · rw [if_pos h1]
      refine Or.inr (Or.inl ⟨rfl, rfl, ?_, h1⟩)
      by_contra hh
      exact h0 ⟨(not_le.mp hh).le, by linarith⟩
    · rw [if_neg h1]
      refine Or.inr (Or.inr ⟨rfl, rfl, ?_, (not_le.mp h1).le⟩)
      by_contra hh
      exact h0 ⟨by linarith, (not_le.mp hh).le⟩

theorem le_maxOf (a b c : Rat) :
    a ≤ maxOf CQuirks.spec a b c ∧ b ≤ maxOf CQuirks.spec a b c ∧ c ≤ maxOf CQuirks.spec a b c := by
  rcases largestOf_spec_cases a b c with ⟨-, e, h1, h2⟩ | ⟨-, e, h1, h2⟩ | ⟨-, e, h1, h2⟩ <;> rw [e]
  exacts [⟨le_rfl, h1, h2⟩, ⟨h1, le_rfl, h2⟩, ⟨h1, h2, le_rfl⟩]

/-- the "triangle" profile of `hue2rgb`: `hue2rgb p q t = p + (q - p) * tri T`, `T = frac(t) * 6` -/
def tri (T : Rat) : Rat := max 0 (min 1 (min T (4 - T)))

theorem tri_up (T : Rat) (h0 : 0 ≤ T) (h1 : T ≤ 1) : tri T = T := by
  rw [tri, min_eq_left (by linarith : T ≤ 4 - T), min_eq_right h1, max_eq_right h0]

theorem tri_top (T : Rat) (h1 : 1 ≤ T) (h3 : T ≤ 3) : tri T = 1 := by
  rw [tri, min_eq_left (le_min h1 (by linarith)), max_eq_right zero_le_one]

theorem tri_down (T : Rat) (h3 : 3 ≤ T) (h4 : T ≤ 4) : tri T = 4 - T := by
  rw [tri, min_eq_right (by linarith : 4 - T ≤ T), min_eq_right (by linarith : 4 - T ≤ 1),
    max_eq_right (by linarith)]

theorem tri_high (T : Rat) (h : 4 ≤ T) : tri T = 0 :=
  max_eq_left (le_trans (min_le_right _ _) (le_trans (min_le_right _ _) (by linarith)))

theorem hue2rgb_tri (p q T : Rat) (n : Int) (h0 : 0 ≤ T) (h6 : T < 6) :
    hue2rgb p q (T / 6 + n) = p + (q - p) * tri T := by
  have hf : (CExtra.floor (T / 6 + n) : Rat) = (n : Rat) := by
    show (((T / 6 + n).floor : Int) : Rat) = n
    rw [floor_eq _ n (by linarith) (by linarith)]
  have hT : (T / 6 + n - n) * 6 = T := by ring
  unfold hue2rgb
  simp only [hf, hT]
  split_ifs with a b c
  · rw [tri_up T h0 a.le]
  · rw [tri_top T (not_lt.mp a) b.le]
    ring
  · rw [tri_down T (not_lt.mp b) c.le]
    ring
  · rw [tri_high T (not_lt.mp c)]
    ring

/-- the three channel positions for a hue `k / 6` turns, `0 ≤ k < 6` -/
def triR (k : Rat) : Rat := tri (if k < 4 then k + 2 else k - 4)
def triB (k : Rat) : Rat := tri (if k < 2 then k + 4 else k - 2)

theorem chanR (p q k : Rat) (k0 : 0 ≤ k) (k6 : k < 6) :
    hue2rgb p q (k * 60 / 360 + 1 / 3) = p + (q - p) * triR k := by
  unfold triR
  split_ifs with h
  · rw [← hue2rgb_tri p q (k + 2) 0 (by linarith) (by linarith)]
    congr 1
    push_cast
    ring
  · rw [← hue2rgb_tri p q (k - 4) 1 (by linarith) (by linarith)]
    congr 1
    push_cast
    ring

theorem chanG (p q k : Rat) (k0 : 0 ≤ k) (k6 : k < 6) :
    hue2rgb p q (k * 60 / 360) = p + (q - p) * tri k := by
  rw [← hue2rgb_tri p q k 0 k0 k6]
  congr 1
  push_cast
  ring

theorem chanB (p q k : Rat) (k0 : 0 ≤ k) (k6 : k < 6) :
    hue2rgb p q (k * 60 / 360 - 1 / 3) = p + (q - p) * triB k := by
  unfold triB
  split_ifs with h
  · rw [← hue2rgb_tri p q (k + 4) (-1) (by linarith) (by linarith)]
    congr 1
    push_cast
    ring
  · rw [← hue2rgb_tri p q (k - 2) 0 (by linarith) (by linarith)]
    congr 1
    push_cast
    ring

/-- the hue number `k` (hue = 60·k degrees) that `Rgba.toHsla` computes -/
def hueK (q : CQuirks) (R G B : Rat) : Rat :=
  let d := maxOf q R G B - minOf R G B
  match largestOf q R G B with
  | 0 => (G - B) / d + (if G < B then 6 else 0)
  | 1 => (B - R) / d + 2
  | _ => (R - G) / d + 4

/-- The three channel profiles at hue number `b + x`, `|x| ≤ 1`, for `b = 0` (taken modulo 6),
`2`, `4`: the channel at `b` reads 1, the next one `max 0 x`, the previous one `max 0 (-x)`. -/
theorem profile_R (x : Rat) (h0 : -1 ≤ x) (h1 : x ≤ 1) :
    triR (x + if x < 0 then 6 else 0) = 1 ∧ tri (x + if x < 0 then 6 else 0) = max 0 x ∧
    triB (x + if x < 0 then 6 else 0) = max 0 (-x) := by
  by_cases hx : x < 0
  · rw [if_pos hx, max_eq_left hx.le, max_eq_right (by linarith)]
    refine ⟨?_, tri_high _ (by linarith), ?_⟩
    · rw [triR, if_neg (by linarith), tri_top _ (by linarith) (by linarith)]
    · rw [triB, if_neg (by linarith), tri_down _ (by linarith) (by linarith)]
      ring
  · rw [not_lt] at hx
    rw [if_neg (by linarith), add_zero, max_eq_right hx, max_eq_left (by linarith)]
    refine ⟨?_, tri_up _ hx h1, ?_⟩
    · rw [triR, if_pos (by linarith), tri_top _ (by linarith) (by linarith)]
    · rw [triB, if_pos (by linarith), tri_high _ (by linarith)]

theorem profile_G (x : Rat) (h0 : -1 ≤ x) (h1 : x ≤ 1) :
    triR (x + 2) = max 0 (-x) ∧ tri (x + 2) = 1 ∧ triB (x + 2) = max 0 x := by
  refine ⟨?_, tri_top _ (by linarith) (by linarith), ?_⟩
  all_goals by_cases hx : x < 0
  · rw [max_eq_right (by linarith), triR, if_pos (by linarith), tri_down _ (by linarith) (by linarith)]
    ring
  · rw [max_eq_left (by linarith), triR, if_pos (by linarith), tri_high _ (by linarith)]
  · rw [max_eq_left hx.le, triB, if_pos (by linarith), tri_high _ (by linarith)]
  · rw [max_eq_right (by linarith), triB, if_neg (by linarith), tri_up _ (by linarith) (by linarith)]
    ring

theorem profile_B (x : Rat) (h0 : -1 ≤ x) (h1 : x ≤ 1) :
    triR (x + 4) = max 0 x ∧ tri (x + 4) = max 0 (-x) ∧ triB (x + 4) = 1 := by
  refine ⟨?_, ?_, ?_⟩
  · by_cases hx : x < 0
    · rw [max_eq_left hx.le, triR, if_pos (by linarith), tri_high _ (by linarith)]
    · rw [max_eq_right (by linarith), triR, if_neg (by linarith), tri_up _ (by linarith) (by linarith)]
      ring
  · by_cases hx : x < 0
    · rw [max_eq_right (by linarith), tri_down _ (by linarith) (by linarith)]
      ring
    · rw [max_eq_left (by linarith), tri_high _ (by linarith)]
  · rw [triB, if_neg (by linarith), tri_top _ (by linarith) (by linarith)]

/-- One third of the hue circle.  `M` is the largest channel, `N` the one after it and `P` the one
before it in the order red, green, blue; `m` is the least.  The offset `x = (N - P) / (M - m)` of the
hue from the position of `M` lies in `[-1, 1]`, and the middle channel is `m + (M - m) * |x|`: it is
`N` when `x ≥ 0` and `P` when `x < 0`. -/
theorem third (M N P m : Rat) (hN : N ≤ M) (hP : P ≤ M) (mN : m ≤ N) (mP : m ≤ P)
    (hm : m = M ∨ m = N ∨ m = P) (hd : 0 < M - m) :
    -1 ≤ (N - P) / (M - m) ∧ (N - P) / (M - m) ≤ 1 ∧ ((N - P) / (M - m) < 0 ↔ N < P) ∧
    m + (M - m) * max 0 ((N - P) / (M - m)) = N ∧ m + (M - m) * max 0 (-((N - P) / (M - m))) = P := by
  have hx : (M - m) * ((N - P) / (M - m)) = N - P := mul_div_cancel₀ _ hd.ne'
  have hs : (N - P) / (M - m) < 0 ↔ N < P := by rw [div_lt_iff₀ hd, zero_mul, sub_neg]
  have hm := hm.resolve_left (fun e => by linarith)
  rcases le_or_gt P N with h | h
  · have e : m = P := hm.elim (fun e => le_antisymm mP (e ▸ h)) id
    have x0 : 0 ≤ (N - P) / (M - m) := div_nonneg (sub_nonneg.mpr h) hd.le
    rw [max_eq_right x0, max_eq_left (neg_nonpos.mpr x0), div_le_one hd, mul_zero, add_zero]
    exact ⟨by linarith only [x0], by linarith only [hN, e], hs, by linarith only [hx, e], e⟩
  · have e : m = N := hm.elim id (fun e => le_antisymm mN (e ▸ h.le))
    have x0 : (N - P) / (M - m) < 0 := hs.mpr h
    rw [max_eq_left x0.le, max_eq_right (neg_nonneg.mpr x0.le), le_div_iff₀ hd, mul_zero, add_zero]
    exact ⟨by linarith only [hP, e], by linarith only [x0], hs, e, by linarith only [hx, e]⟩

/-- In each third every channel is the least one plus the spread times its profile. -/
theorem sector (R G B : Rat) (hne : maxOf CQuirks.spec R G B ≠ minOf R G B) :
    0 < maxOf CQuirks.spec R G B - minOf R G B ∧ 0 ≤ hueK CQuirks.spec R G B ∧ hueK CQuirks.spec R G B < 6 ∧
    minOf R G B + (maxOf CQuirks.spec R G B - minOf R G B) * triR (hueK CQuirks.spec R G B) = R ∧
    minOf R G B + (maxOf CQuirks.spec R G B - minOf R G B) * tri (hueK CQuirks.spec R G B) = G ∧
    minOf R G B + (maxOf CQuirks.spec R G B - minOf R G B) * triB (hueK CQuirks.spec R G B) = B := by
  obtain ⟨mR, mG, mB⟩ := minOf_le R G B
  have hm := minOf_mem R G B
  rcases largestOf_spec_cases R G B with ⟨hL, hmx, h1, h2⟩ | ⟨hL, hmx, h1, h2⟩ | ⟨hL, hmx, h1, h2⟩
  all_goals rw [hmx] at hne ⊢
  · have hd : 0 < R - minOf R G B := sub_pos.mpr (lt_of_le_of_ne mR hne.symm)
    obtain ⟨x0, x1, hs, eN, eP⟩ := third R G B _ h1 h2 mG mB hm hd
    have hk : hueK CQuirks.spec R G B = (G - B) / (R - minOf R G B) +
        (if (G - B) / (R - minOf R G B) < 0 then 6 else 0) := by
      simp only [hueK, hL, hmx, hs]
    obtain ⟨pR, pG, pB⟩ := profile_R _ x0 x1
    rw [hk, pR, pG, pB, mul_one]
    generalize (G - B) / (R - minOf R G B) = x at *
    refine ⟨hd, ?_, ?_, by ring, eN, eP⟩
    · split_ifs <;> linarith
    · split_ifs <;> linarith
  · have hd : 0 < G - minOf R G B := sub_pos.mpr (lt_of_le_of_ne mG hne.symm)
    obtain ⟨x0, x1, -, eN, eP⟩ := third G B R _ h2 h1 mB mR hm.rotate hd
    have hk : hueK CQuirks.spec R G B = (B - R) / (G - minOf R G B) + 2 := by
      simp only [hueK, hL, hmx]
    obtain ⟨pR, pG, pB⟩ := profile_G _ x0 x1
    rw [hk, pR, pG, pB, mul_one]
    exact ⟨hd, by linarith only [x0], by linarith only [x1], eP, by ring, eN⟩
  · have hd : 0 < B - minOf R G B := sub_pos.mpr (lt_of_le_of_ne mB hne.symm)
    obtain ⟨x0, x1, -, eN, eP⟩ := third B R G _ h1 h2 mR mG hm.rotate.rotate hd
    have hk : hueK CQuirks.spec R G B = (R - G) / (B - minOf R G B) + 4 := by
      simp only [hueK, hL, hmx]
    obtain ⟨pR, pG, pB⟩ := profile_B _ x0 x1
    rw [hk, pR, pG, pB, mul_one]
    exact ⟨hd, by linarith only [x0], by linarith only [x1], eN, eP, by ring⟩

theorem Rgba.toHsla_gray (q : CQuirks) (c : Rgba Rat)
    (he : maxOf q (c.r / 255) (c.g / 255) (c.b / 255) = minOf (c.r / 255) (c.g / 255) (c.b / 255)) :
    c.toHsla q = Hsla.new q 0 0 (maxOf q (c.r / 255) (c.g / 255) (c.b / 255)) c.a false := by
  unfold Rgba.toHsla
  simp only [beq_iff_eq.mpr he, if_true]

theorem Rgba.toHsla_nongray (q : CQuirks) (c : Rgba Rat)
    (hne : maxOf q (c.r / 255) (c.g / 255) (c.b / 255) ≠ minOf (c.r / 255) (c.g / 255) (c.b / 255)) :
    c.toHsla q =
      Hsla.new q (hueK q (c.r / 255) (c.g / 255) (c.b / 255) * (360 / 6))
        ((maxOf q (c.r / 255) (c.g / 255) (c.b / 255) - minOf (c.r / 255) (c.g / 255) (c.b / 255)) /
          (if 1 < maxOf q (c.r / 255) (c.g / 255) (c.b / 255) + minOf (c.r / 255) (c.g / 255) (c.b / 255)
           then -(maxOf q (c.r / 255) (c.g / 255) (c.b / 255) + minOf (c.r / 255) (c.g / 255) (c.b / 255)) + 2
           else maxOf q (c.r / 255) (c.g / 255) (c.b / 255) + minOf (c.r / 255) (c.g / 255) (c.b / 255)))
        ((maxOf q (c.r / 255) (c.g / 255) (c.b / 255) + minOf (c.r / 255) (c.g / 255) (c.b / 255)) / 2)
        c.a false := by
  unfold Rgba.toHsla
  simp only [beq_eq_false_iff_ne.mpr hne, Bool.false_eq_true, if_false]
  rfl

theorem Rgba.WF.unit {c : Rgba Rat} (h : c.WF) :
    (0 ≤ c.r / 255 ∧ c.r / 255 ≤ 1) ∧ (0 ≤ c.g / 255 ∧ c.g / 255 ≤ 1) ∧ (0 ≤ c.b / 255 ∧ c.b / 255 ≤ 1) ∧
    0 ≤ minOf (c.r / 255) (c.g / 255) (c.b / 255) ∧
    minOf (c.r / 255) (c.g / 255) (c.b / 255) ≤ maxOf CQuirks.spec (c.r / 255) (c.g / 255) (c.b / 255) ∧
    maxOf CQuirks.spec (c.r / 255) (c.g / 255) (c.b / 255) ≤ 1 := by
  have key : ∀ x : Rat, 0 ≤ x ∧ x ≤ 255 → 0 ≤ x / 255 ∧ x / 255 ≤ 1 := fun x hx =>
    ⟨div_nonneg hx.1 (by norm_num), (div_le_one (by norm_num)).mpr hx.2⟩
  have hR := key _ h.1
  have hG := key _ h.2.1
  have hB := key _ h.2.2.1
  refine ⟨hR, hG, hB, minOf_ge _ _ _ 0 hR.1 hG.1 hB.1, (minOf_le _ _ _).1.trans (le_maxOf _ _ _).1, ?_⟩
  rcases maxOf_mem CQuirks.spec (c.r / 255) (c.g / 255) (c.b / 255) with e | e | e <;> rw [e]
  exacts [hR.2, hG.2, hB.2]

/-- saturation `S` and lightness `L = (mx + mn) / 2` as `Rgba.toHsla` computes them from the extremes:
`S` is in range, and `Hsla.toRgba` recovers `q = mx` from them (hence `p = 2 L - q = mn`) -/
theorem sat_lum (mx mn : Rat) (hlt : mn < mx) (mn0 : 0 ≤ mn) (mx1 : mx ≤ 1) :
    0 < (mx - mn) / (if 1 < mx + mn then -(mx + mn) + 2 else mx + mn) ∧
    (mx - mn) / (if 1 < mx + mn then -(mx + mn) + 2 else mx + mn) ≤ 1 ∧
    (if (mx + mn) / 2 < 1 / 2
      then (mx + mn) / 2 * ((mx - mn) / (if 1 < mx + mn then -(mx + mn) + 2 else mx + mn) + 1)
      else (mx + mn) / 2 + (mx - mn) / (if 1 < mx + mn then -(mx + mn) + 2 else mx + mn) -
        (mx + mn) / 2 * ((mx - mn) / (if 1 < mx + mn then -(mx + mn) + 2 else mx + mn))) = mx := by
  have d0 : 0 < mx - mn := sub_pos.mpr hlt
  by_cases h1 : 1 < mx + mn
  · have hn : 0 < -(mx + mn) + 2 := by linarith
    simp only [if_pos h1]
    refine ⟨div_pos d0 hn, (div_le_one hn).mpr (by linarith), ?_⟩
    rw [if_neg (by linarith)]
    field_simp
    ring
  · have hn : 0 < mx + mn := by linarith
    simp only [if_neg h1]
    refine ⟨div_pos d0 hn, (div_le_one hn).mpr (by linarith), ?_⟩
    split_ifs with h2
    · field_simp
      ring
    · have e : mx + mn = 1 := by linarith
      rw [e]
      linarith

/-- hsl→rgb of the values `Rgba.toHsla` produces, given the sector facts -/
theorem hsl_back (mx mn k a : Rat) (hlt : mn < mx) (mn0 : 0 ≤ mn) (mx1 : mx ≤ 1)
    (k0 : 0 ≤ k) (k6 : k < 6) (a0 : 0 ≤ a) (a1 : a ≤ 1) :
    let hs := Hsla.new CQuirks.spec (k * (360 / 6))
      ((mx - mn) / (if 1 < mx + mn then -(mx + mn) + 2 else mx + mn)) ((mx + mn) / 2) a false
    hs.toRgba.r = cap ((mn + (mx - mn) * triR k) * 255) 255 ∧
    hs.toRgba.g = cap ((mn + (mx - mn) * tri k) * 255) 255 ∧
    hs.toRgba.b = cap ((mn + (mx - mn) * triB k) * 255) 255 ∧
    hs.toRgba.a = a := by
  obtain ⟨Spos, S1, hq⟩ := sat_lum mx mn hlt mn0 mx1
  generalize (mx - mn) / (if 1 < mx + mn then -(mx + mn) + 2 else mx + mn) = S at *
  intro hs
  have e : hs = { h := k * (360 / 6), s := S, l := (mx + mn) / 2, a := a, fmt := false } :=
    Hsla.new_of_range _ _ _ _ _ ⟨by linarith, by linarith⟩ ⟨Spos.le, S1⟩ ⟨by linarith, by linarith⟩ ⟨a0, a1⟩
  have hp : (mx + mn) / 2 * 2 - mx = mn := by ring
  have ek : k * (360 / 6) / 360 = k * 60 / 360 := by ring
  rw [e]
  simp only [Hsla.toRgba, beq_eq_false_iff_ne.mpr Spos.ne', Bool.false_eq_true, if_false, hq, hp, ek,
    chanR mn mx k k0 k6, chanG mn mx k k0 k6, chanB mn mx k k0 k6, Rgba.new]
  exact ⟨trivial, trivial, trivial, cap_id a 1 a0 a1⟩

theorem Rgba.hsl_roundtrip (c : Rgba Rat) (h : c.WF) :
    (c.toHsla CQuirks.spec).toRgba.r = c.r ∧ (c.toHsla CQuirks.spec).toRgba.g = c.g ∧
    (c.toHsla CQuirks.spec).toRgba.b = c.b ∧ (c.toHsla CQuirks.spec).toRgba.a = c.a := by
  obtain ⟨hR, -, -, mn0, hle, mx1⟩ := h.unit
  obtain ⟨⟨r0, r1⟩, ⟨g0, g1⟩, ⟨b0, b1⟩, ⟨a0, a1⟩⟩ := h
  have hr : c.r / 255 * 255 = c.r := by field_simp
  have hg : c.g / 255 * 255 = c.g := by field_simp
  have hb : c.b / 255 * 255 = c.b := by field_simp
  by_cases he : maxOf CQuirks.spec (c.r / 255) (c.g / 255) (c.b / 255) = minOf (c.r / 255) (c.g / 255) (c.b / 255)
  · -- grey: all three channels are the minimum `m`, and `hsl(0, 0, m)` is the grey `m * 255`
    obtain ⟨x1, x2, x3⟩ := le_maxOf (c.r / 255) (c.g / 255) (c.b / 255)
    obtain ⟨y1, y2, y3⟩ := minOf_le (c.r / 255) (c.g / 255) (c.b / 255)
    rw [Rgba.toHsla_gray _ c he, he]
    rw [he] at x1 x2 x3
    generalize minOf (c.r / 255) (c.g / 255) (c.b / 255) = m at *
    rw [Hsla.new_of_range 0 0 m c.a false ⟨le_rfl, by norm_num⟩ ⟨le_rfl, zero_le_one⟩
      ⟨mn0, (le_antisymm x1 y1) ▸ hR.2⟩ ⟨a0, a1⟩]
    have z : ((0 : Rat) == 0) = true := by decide +kernel
    simp only [Hsla.toRgba, z, if_true, Rgba.new]
    refine ⟨?_, ?_, ?_, cap_id _ _ a0 a1⟩
    · rw [← le_antisymm x1 y1, hr, cap_id _ _ r0 r1]
    · rw [← le_antisymm x2 y2, hg, cap_id _ _ g0 g1]
    · rw [← le_antisymm x3 y3, hb, cap_id _ _ b0 b1]
  · obtain ⟨-, k0, k6, sR, sG, sB⟩ := sector (c.r / 255) (c.g / 255) (c.b / 255) he
    rw [Rgba.toHsla_nongray _ c he]
    obtain ⟨eR, eG, eB, eA⟩ := hsl_back _ _ (hueK CQuirks.spec (c.r / 255) (c.g / 255) (c.b / 255)) c.a
      (lt_of_le_of_ne hle (Ne.symm he)) mn0 mx1 k0 k6 a0 a1
    rw [eR, eG, eB, eA, sR, sG, sB, hr, hg, hb, cap_id _ _ r0 r1, cap_id _ _ g0 g1, cap_id _ _ b0 b1]
    exact ⟨rfl, rfl, rfl, rfl⟩

theorem eqv_hsla_of_rgba (c : Rgba Rat) (h : c.WF) (f : Bool) :
    (Col.hsla { c.toHsla CQuirks.spec with fmt := f }).eqv CQuirks.spec (Col.rgba c) = true := by
  obtain ⟨e1, e2, e3, e4⟩ := Rgba.hsl_roundtrip c h
  rw [← Hsla.toRgba_fmt _ f] at e1 e2 e3 e4
  exact eqv_spec_of_chan (.hsla _) (.rgba c) e1 e2 e3 e4

theorem Col.eqv_toHsla (c : Col Rat) (h : c.WF) (f : Bool) :
    (Col.hsla { c.toHsla CQuirks.spec with fmt := f }).eqv CQuirks.spec c = true := by
  cases c with
  | rgba r => exact eqv_hsla_of_rgba r h f
  | hsla s => exact eqv_spec_of_toRgba _ _ (Hsla.toRgba_fmt s f)
  | hwba w => exact eqv_spec_of_toRgba _ _ (Hsla.toRgba_fmt (w.toHsla CQuirks.spec) f)

theorem Col.eqv_toHsla_self (c : Col Rat) (h : c.WF) :
    (Col.hsla (c.toHsla CQuirks.spec)).eqv CQuirks.spec c = true :=
  Col.eqv_toHsla c h (c.toHsla CQuirks.spec).fmt

theorem maxOf_spec_eq_max (a b c : Rat) : maxOf CQuirks.spec a b c = max (max a b) c := by
  rcases largestOf_spec_cases a b c with ⟨-, e, h1, h2⟩ | ⟨-, e, h1, h2⟩ | ⟨-, e, h1, h2⟩ <;> rw [e]
  · rw [max_eq_left h1, max_eq_left h2]
  · rw [max_eq_right h1, max_eq_left h2]
  · rw [max_eq_right (max_le h1 h2)]

/-- `min(r, b, g) / 255` (convert.rs `From<&Rgba> for Hwba`) is the `min` of `max_min_largest` -/
theorem min3_div (r g b : Rat) :
    cmin (cmin r b) g / 255 = minOf (r / 255) (g / 255) (b / 255) := by
  simp only [minOf, cmin_eq_min, min_div_div_right (by norm_num : (0 : Rat) ≤ 255)]
  rw [min_right_comm]

theorem max3_div (r g b : Rat) :
    cmax (cmax r b) g / 255 = maxOf CQuirks.spec (r / 255) (g / 255) (b / 255) := by
  simp only [maxOf_spec_eq_max, cmax_eq_max, max_div_div_right (by norm_num : (0 : Rat) ≤ 255)]
  rw [max_right_comm]

/-- `Hwba.toHsla` on the value `Rgba.toHwba` builds, in terms of the extremes `mx`, `mn` -/
theorem hwb_toHsla_eval (h mx mn a : Rat) (mn0 : 0 ≤ mn) (hle : mn ≤ mx) (mx1 : mx ≤ 1)
    (a0 : 0 ≤ a) (a1 : a ≤ 1) :
    (Hwba.new CQuirks.spec h mn (1 - mx) a).toHsla CQuirks.spec =
      Hsla.new CQuirks.spec h
        (if ((mx + mn) / 2 == 0 || (mx + mn) / 2 == 1) = true then 0
         else (mx - (mx + mn) / 2) / cmin ((mx + mn) / 2) (1 - (mx + mn) / 2))
        ((mx + mn) / 2) a false := by
  have hs : ¬ (1 < mn + (1 - mx)) := by linarith
  simp only [Hwba.new, CQuirks.spec, Bool.false_eq_true, if_false,
    clamp_id 0 1 mn mn0 (by linarith), clamp_id 0 1 (1 - mx) (by linarith) (by linarith), hs,
    clamp_id 0 1 a a0 a1, Hwba.toHsla, midpoint]
  have e1 : (1 - (1 - mx) + mn) / 2 = (mx + mn) / 2 := by ring
  have e2 : ∀ l : Rat, 1 - (1 - mx) - l = mx - l := by intro l; ring
  rw [e1]
  simp only [e2]

theorem Hsla.new_hue_idem (h s l a s' l' a' : Rat) (f f' : Bool) :
    Hsla.new CQuirks.spec (Hsla.new CQuirks.spec h s l a f).h s' l' a' f' =
      Hsla.new CQuirks.spec h s' l' a' f' := by
  have r := degMod_spec_range CQuirks.spec rfl h
  simp only [Hsla.new, degMod_id _ _ r.1 r.2]

theorem Rgba.hwb_toHsla_eq (c : Rgba Rat) (h : c.WF) :
    (c.toHwba CQuirks.spec).toHsla CQuirks.spec = c.toHsla CQuirks.spec := by
  obtain ⟨-, -, -, mn0, hle, mx1⟩ := h.unit
  obtain ⟨a0, a1⟩ := h.2.2.2
  have step : (c.toHwba CQuirks.spec).toHsla CQuirks.spec =
      (Hwba.new CQuirks.spec (c.toHsla CQuirks.spec).h (minOf (c.r / 255) (c.g / 255) (c.b / 255))
        (1 - maxOf CQuirks.spec (c.r / 255) (c.g / 255) (c.b / 255)) c.a).toHsla CQuirks.spec := by
    unfold Rgba.toHwba
    simp only [min3_div, max3_div, Rgba.toHsla_alpha c CQuirks.spec a0 a1]
  rw [step, hwb_toHsla_eval _ _ _ _ mn0 hle mx1 a0 a1]
  by_cases he : maxOf CQuirks.spec (c.r / 255) (c.g / 255) (c.b / 255) = minOf (c.r / 255) (c.g / 255) (c.b / 255)
  · rw [Rgba.toHsla_gray _ c he, Hsla.new_hue_idem, he]
    generalize minOf (c.r / 255) (c.g / 255) (c.b / 255) = m
    rw [(by ring : (m + m) / 2 = m), sub_self, zero_div, ite_self]
  · rw [Rgba.toHsla_nongray _ c he, Hsla.new_hue_idem]
    have hlt := lt_of_le_of_ne hle (Ne.symm he)
    generalize maxOf CQuirks.spec (c.r / 255) (c.g / 255) (c.b / 255) = mx at *
    generalize minOf (c.r / 255) (c.g / 255) (c.b / 255) = mn at *
    -- the lightness is strictly inside 0..1, and the hwb saturation formula is the hsl one
    have l0 : ((mx + mn) / 2 == (0 : Rat)) = false := beq_eq_false_iff_ne.mpr (ne_of_gt (by linarith))
    have l1 : ((mx + mn) / 2 == (1 : Rat)) = false := beq_eq_false_iff_ne.mpr (ne_of_lt (by linarith))
    simp only [l0, l1, Bool.or_self, Bool.false_eq_true, if_false, cmin_eq_min]
    congr 1
    by_cases h1 : 1 < mx + mn
    · rw [if_pos h1, min_eq_right (by linarith),
        div_eq_div_iff (ne_of_gt (by linarith)) (ne_of_gt (by linarith))]
      ring
    · rw [if_neg h1, min_eq_left (by linarith),
        div_eq_div_iff (ne_of_gt (by linarith)) (ne_of_gt (by linarith))]
      ring

theorem Rgba.hwb_roundtrip (c : Rgba Rat) (h : c.WF) :
    ((c.toHwba CQuirks.spec).toRgba CQuirks.spec).r = c.r ∧ ((c.toHwba CQuirks.spec).toRgba CQuirks.spec).g = c.g ∧
    ((c.toHwba CQuirks.spec).toRgba CQuirks.spec).b = c.b ∧ ((c.toHwba CQuirks.spec).toRgba CQuirks.spec).a = c.a := by
  show (((c.toHwba CQuirks.spec).toHsla CQuirks.spec).toRgba).r = c.r ∧ _
  unfold Hwba.toRgba
  rw [Rgba.hwb_toHsla_eq c h]
  exact Rgba.hsl_roundtrip c h

theorem Hwba.new_id (w : Hwba Rat) (h : w.WF) (hue : Rat) :
    Hwba.new CQuirks.spec hue w.w w.b w.a = { w with h := hue } := by
  obtain ⟨⟨w0, w1⟩, ⟨b0, b1⟩, hs, ⟨a0, a1⟩⟩ := h
  have : ¬ (1 < w.w + w.b) := by linarith
  simp only [Hwba.new, CQuirks.spec, Bool.false_eq_true, if_false, clamp_id 0 1 w.w w0 w1,
    clamp_id 0 1 w.b b0 b1, this, clamp_id 0 1 w.a a0 a1]

theorem Hwba.toHsla_hue_congr (w : Hwba Rat) (h1 h2 : Rat)
    (e : degMod CQuirks.spec h1 = degMod CQuirks.spec h2) :
    ({ w with h := h1 } : Hwba Rat).toHsla CQuirks.spec = ({ w with h := h2 } : Hwba Rat).toHsla CQuirks.spec := by
  simp only [Hwba.toHsla, Hsla.new, e]

theorem degMod_int (v : Rat) : ∃ n : Int, degMod CQuirks.spec v = v - 360 * (n : Rat) := by
  unfold degMod
  simp only [CQuirks.spec, Bool.false_eq_true, if_false]
  have hr : CExtra.fmod v (360 : Rat) = v - 360 * ((ratTrunc (v / 360) : Int) : Rat) := rfl
  by_cases h : CExtra.fmod v (360 : Rat) < 0
  · rw [if_pos h]
    refine ⟨ratTrunc (v / 360) - 1, ?_⟩
    rw [hr]; push_cast; ring
  · rw [if_neg h, cabs_of_nonneg _ (not_lt.mp h)]
    exact ⟨ratTrunc (v / 360), hr⟩

theorem degMod_periodic (x : Rat) : degMod CQuirks.spec (x + 360) = degMod CQuirks.spec x := by
  obtain ⟨n1, e1⟩ := degMod_int (x + 360)
  obtain ⟨n2, e2⟩ := degMod_int x
  have r1 := degMod_spec_range CQuirks.spec rfl (x + 360)
  have r2 := degMod_spec_range CQuirks.spec rfl x
  have hd : degMod CQuirks.spec (x + 360) - degMod CQuirks.spec x = 360 * ((1 - n1 + n2 : Int) : Rat) := by
    rw [e1, e2]; push_cast; ring
  have hlt : ((1 - n1 + n2 : Int) : Rat) < 1 := by
    have : 360 * ((1 - n1 + n2 : Int) : Rat) < 360 := by rw [← hd]; linarith
    linarith
  have hgt : (-1 : Rat) < ((1 - n1 + n2 : Int) : Rat) := by
    have : -360 < 360 * ((1 - n1 + n2 : Int) : Rat) := by rw [← hd]; linarith
    linarith
  have h1 : (1 - n1 + n2 : Int) < 1 := by exact_mod_cast hlt
  have h2 : (-1 : Int) < (1 - n1 + n2 : Int) := by exact_mod_cast hgt
  have hz : (1 - n1 + n2 : Int) = 0 := by omega
  rw [hz] at hd
  simp at hd
  linarith

theorem rotateHue_hsla (s : Hsla Rat) (h : s.WF) (v : Rat) :
    (Col.hsla s).rotateHue CQuirks.spec v = Col.hsla { s with h := degMod CQuirks.spec (s.h + v) } := by
  show Col.hsla (Hsla.new CQuirks.spec (s.h + v) s.s s.l s.a s.fmt) = _
  rw [Hsla.new_spec _ _ _ _ _ h.2.1 h.2.2.1 h.2.2.2]

theorem lightenBy_hsla (s : Hsla Rat) (h : s.WF) (a : Rat) (up : Bool) :
    lightenBy CQuirks.spec (.hsla s) a up =
      .hsla { s with l := clamp 0 1 (if up then s.l + a else s.l - a), fmt := false } := by
  show Col.hsla (Hsla.new CQuirks.spec s.h s.s (clamp 0 1 (if up then s.l + a else s.l - a)) s.a false) = _
  rw [Hsla.new_of_range _ _ _ _ _ h.1 h.2.1 (clamp_range 0 1 _ zero_le_one) h.2.2.2]

theorem saturateBy_hsla (s : Hsla Rat) (h : s.WF) (a : Rat) :
    saturateBy CQuirks.spec (.hsla s) a = .hsla { s with s := clamp 0 1 (s.s + a), fmt := false } := by
  show Col.hsla (Hsla.new CQuirks.spec s.h (clamp 0 1 (s.s + a)) s.l s.a false) = _
  rw [Hsla.new_of_range _ _ _ _ _ h.1 (clamp_range 0 1 _ zero_le_one) h.2.2.1 h.2.2.2]

/-- `desaturate` leaves the clamping to `Hsla::new` -/
theorem desaturateBy_hsla (s : Hsla Rat) (h : s.WF) (a : Rat) :
    desaturateBy CQuirks.spec (.hsla s) a = .hsla { s with s := clamp 0 1 (s.s - a), fmt := false } := by
  have e : Hsla.new CQuirks.spec s.h (s.s - a) s.l s.a false
      = Hsla.new CQuirks.spec s.h (clamp 0 1 (s.s - a)) s.l s.a false := by
    simp only [Hsla.new, CQuirks.spec, Bool.false_eq_true, if_false, clamp_clamp]
  show Col.hsla (Hsla.new CQuirks.spec s.h (s.s - a) s.l s.a false) = _
  rw [e, Hsla.new_of_range _ _ _ _ _ h.1 (clamp_range 0 1 _ zero_le_one) h.2.2.1 h.2.2.2]

theorem rotateHue_hwba (w : Hwba Rat) (h : w.WF) (v : Rat) :
    (Col.hwba w).rotateHue CQuirks.spec v = Col.hwba { w with h := w.h + v } := by
  show Col.hwba (Hwba.new CQuirks.spec (w.h + v) w.w w.b w.a) = _
  rw [Hwba.new_id w h]

theorem hwba_hue_eqv (w : Hwba Rat) (x : Rat) (hd : degMod CQuirks.spec x = degMod CQuirks.spec w.h) :
    (Col.hwba { w with h := x }).eqv CQuirks.spec (Col.hwba w) = true := by
  apply eqv_spec_of_toRgba
  show (({ w with h := x } : Hwba Rat).toHsla CQuirks.spec).toRgba
    = (({ w with h := w.h } : Hwba Rat).toHsla CQuirks.spec).toRgba
  rw [Hwba.toHsla_hue_congr w x w.h hd]

/-- the code before fix a02d8f5: only the `max_min_largest` deviation switched on -/
def qTie : CQuirks := { CQuirks.spec with maxTieRedGreen := true }

/-- Unless red = green > blue the old `max_min_largest` returns a channel that is a maximum, though
at a tie not the one the specified code returns; two maximal channels give the same hue number. -/
theorem maxTie_core (a b c : Rat) (hx : ¬ (a = b ∧ c < a)) :
    maxOf qTie a b c = maxOf CQuirks.spec a b c ∧
    (maxOf CQuirks.spec a b c ≠ minOf a b c → hueK qTie a b c = hueK CQuirks.spec a b c) := by
  have hT : largestOf qTie a b c = if a > b ∧ a > c then 0 else if b > a ∧ b > c then 1 else 2 := rfl
  have hm := minOf_mem a b c
  rcases largestOf_spec_cases a b c with ⟨hS, hM, h1, h2⟩ | ⟨hS, hM, h1, h2⟩ | ⟨hS, hM, h1, h2⟩
  · by_cases h0 : a > b ∧ a > c
    · rw [if_pos h0] at hT
      have hM' : maxOf qTie a b c = a := by simp only [maxOf, hT]
      exact ⟨hM'.trans hM.symm, fun _ => by simp only [hueK, hT, hS, hM, hM']⟩
    · rw [if_neg h0, if_neg (fun h => not_le.mpr h.1 h1)] at hT
      have hM' : maxOf qTie a b c = c := by simp only [maxOf, hT]
      have eac : a = c := by
        by_contra hne
        have hca : c < a := lt_of_le_of_ne h2 (Ne.symm hne)
        rcases h1.lt_or_eq with hba | hba
        · exact h0 ⟨hba, hca⟩
        · exact hx ⟨hba.symm, hca⟩
      subst eac
      refine ⟨hM'.trans hM.symm, fun hne => ?_⟩
      rw [hM] at hne
      -- red = blue is the maximum, so green is the minimum: both formulas give 5
      have hmb : minOf a b a = b := by
        rcases hm with e | e | e
        exacts [absurd e.symm hne, e, absurd e.symm hne]
      rw [hmb] at hne
      have hba : b < a := lt_of_le_of_ne h1 (Ne.symm hne)
      have hd : a - b ≠ 0 := sub_ne_zero.mpr hne
      simp only [hueK, hT, hS, hM, hM', hmb, if_pos hba]
      field_simp
      ring
  · have n0 : ¬ (a > b ∧ a > c) := fun h => not_le.mpr h.1 h1
    rw [if_neg n0] at hT
    by_cases h0 : b > a ∧ b > c
    · rw [if_pos h0] at hT
      have hM' : maxOf qTie a b c = b := by simp only [maxOf, hT]
      exact ⟨hM'.trans hM.symm, fun _ => by simp only [hueK, hT, hS, hM, hM']⟩
    · rw [if_neg h0] at hT
      have hM' : maxOf qTie a b c = c := by simp only [maxOf, hT]
      have ebc : b = c := by
        by_contra hne
        have hcb : c < b := lt_of_le_of_ne h2 (Ne.symm hne)
        rcases h1.lt_or_eq with hab | hab
        · exact h0 ⟨hab, hcb⟩
        · exact hx ⟨hab, hab ▸ hcb⟩
      subst ebc
      refine ⟨hM'.trans hM.symm, fun hne => ?_⟩
      rw [hM] at hne
      -- green = blue is the maximum, so red is the minimum: both formulas give 3
      have hma : minOf a b b = a := by
        rcases hm with e | e | e
        exacts [e, absurd e.symm hne, absurd e.symm hne]
      rw [hma] at hne
      have hd : b - a ≠ 0 := sub_ne_zero.mpr hne
      simp only [hueK, hT, hS, hM, hM', hma]
      field_simp
      ring
  · have n0 : ¬ (a > b ∧ a > c) := fun h => not_le.mpr h.2 h1
    have n1 : ¬ (b > a ∧ b > c) := fun h => not_le.mpr h.2 h2
    rw [if_neg n0, if_neg n1] at hT
    have hM' : maxOf qTie a b c = c := by simp only [maxOf, hT]
    exact ⟨hM'.trans hM.symm, fun _ => by simp only [hueK, hT, hS, hM, hM']⟩

theorem Hsla.new_qTie (h s l a : Rat) (f : Bool) :
    Hsla.new qTie h s l a f = Hsla.new CQuirks.spec h s l a f := rfl

theorem Rgba.toHsla_qTie (c : Rgba Rat) (hx : ¬ (c.r / 255 = c.g / 255 ∧ c.b / 255 < c.r / 255)) :
    c.toHsla qTie = c.toHsla CQuirks.spec := by
  obtain ⟨hm, hk⟩ := maxTie_core (c.r / 255) (c.g / 255) (c.b / 255) hx
  by_cases he : maxOf CQuirks.spec (c.r / 255) (c.g / 255) (c.b / 255) = minOf (c.r / 255) (c.g / 255) (c.b / 255)
  · rw [Rgba.toHsla_gray _ c he, Rgba.toHsla_gray _ c (hm.trans he), hm, Hsla.new_qTie]
  · rw [Rgba.toHsla_nongray _ c he, Rgba.toHsla_nongray _ c (hm ▸ he), hm, hk he, Hsla.new_qTie]

end Color
