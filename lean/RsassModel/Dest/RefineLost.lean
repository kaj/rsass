/-
Dest/RefineLost.lean — `emit_refines_log` without assuming that failed `Drop`s are errors
(`closeSwallows = true`, the code before 34ff818): the lost-counter never decreases, and a run
that lost nothing refines the evaluation log.  `Good` is `Sim id` of `Dest/Refine.lean` written
out; the two theorems are `emit_sim` at `g = id`.
-/
import RsassModel.Dest.Refine
namespace Dest
variable {σ : Type}

/-- `Sim id`: `st'` comes after `st`, never with fewer lost errors; if none was lost in between,
the view grew by exactly `L` and the frames are as before -/
def Good (st st' : St σ) (L : List (Entry σ)) : Prop :=
  st.lost ≤ st'.lost ∧
  (st'.lost = st.lost →
    view st'.stack st'.root = view st.stack st.root ++ L ∧ skel st'.stack = skel st.stack)

theorem good_iff_sim (st st' : St σ) (L : List (Entry σ)) : Good st st' L ↔ Sim id st st' L := by
  simp only [Good, Sim, List.map_id]

theorem emitItem_good (q : Quirks) (hh : q.atRuleHoists = false) (hm : q.mediaInMediaNested = true)
    (ops : Ops σ) (c : SelCtx σ) :
    ∀ (i : Core σ) (st st' : St σ), emitItem q ops c i st = .ok st' →
      Good st st' (logItem q ops c i (skel st.stack)) :=
  fun i st st' h => (good_iff_sim _ _ _).mpr ((emit_sim hh (keeps_id q hh hm ops)).item c i st st' h)

theorem emitBody_good (q : Quirks) (hh : q.atRuleHoists = false) (hm : q.mediaInMediaNested = true)
    (ops : Ops σ) (c : SelCtx σ) :
    ∀ (b : List (Core σ)) (st st' : St σ), emitBody q ops c b st = .ok st' →
      Good st st' (logBody q ops c b (skel st.stack)) :=
  fun b st st' h => (good_iff_sim _ _ _).mpr ((emit_sim hh (keeps_id q hh hm ops)).body c b st st' h)

end Dest
