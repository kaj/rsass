/-
Dest/Refine.lean — the frame-stack machine refines the evaluation log, for ARBITRARY statement
trees: `view (after) = view (before) ++ log`, where `log` is computed from the program and the
content-free skeleton of the stack only.  Setting: order-preserving at-rule frames
(`atRuleHoists = false`).  The simulation `emit_sim` is stated once, for a run that lost
nothing and for views compared through any map `g` of the entries under which `deliver`
keeps the view (`Keeps`); `g = id` with `@media` in `@media` kept nested gives the theorems of
this file, path normalisation gives those of `Dest/LemmasMerge.lean`.
-/
import RsassModel.Dest.View
namespace Dest
variable {σ : Type}

/-- where `push_property` puts a declaration: (at-rule path, selector, prefixed name) -/
def propTarget (join : σ → σ → σ) : List (Frame σ) → σ → Option (List (AtKind σ) × Option σ × σ)
  | [], _ => none
  | .rule s _ :: rest, n => some (pathOf rest, some s, n)
  | .ns nm :: rest, n => propTarget join rest (join nm n)
  | .at k (some (s, _)) _ :: rest, n => some (pathOf rest ++ [k], some s, n)
  | .at k none _ :: rest, n => some (pathOf rest ++ [k], none, n)

/-- where `push_comment` puts a comment -/
def commentTarget : List (Frame σ) → List (AtKind σ) × Option σ
  | [] => ([], none)
  | .rule s _ :: rest => (pathOf rest, some s)
  | .ns _ :: rest => commentTarget rest
  | .at k (some (s, _)) _ :: rest => (pathOf rest ++ [k], some s)
  | .at k none _ :: rest => (pathOf rest ++ [k], none)

theorem propTarget_skel (join : σ → σ → σ) (stk : List (Frame σ)) (n : σ) :
    propTarget join (skel stk) n = propTarget join stk n := by
  induction stk generalizing n with
  | nil => rfl
  | cons f rest ih =>
    cases f with
    | rule s cur => simp [skel, skelFrame, propTarget, ← pathOf_skel rest]
    | ns nm => simpa [skel, skelFrame, propTarget] using ih (join nm n)
    | «at» k r body => cases r <;> simp [skel, skelFrame, propTarget, ← pathOf_skel rest]

theorem commentTarget_skel (stk : List (Frame σ)) : commentTarget (skel stk) = commentTarget stk := by
  induction stk with
  | nil => rfl
  | cons f rest ih =>
    cases f with
    | rule s cur => simp [skel, skelFrame, commentTarget, ← pathOf_skel rest]
    | ns nm => simpa [skel, skelFrame, commentTarget] using ih
    | «at» k r body => cases r <;> simp [skel, skelFrame, commentTarget, ← pathOf_skel rest]

theorem pushPropertyAux_view (join : σ → σ → σ) (stk stk' : List (Frame σ)) (n v : σ)
    (h : pushPropertyAux join stk n v = .ok stk') :
    ∃ p s n', propTarget join stk n = some (p, s, n') ∧
      viewStack stk' = viewStack stk ++ [⟨p, s, .prop n' v⟩] ∧ skel stk' = skel stk := by
  induction stk generalizing n stk' with
  | nil => simp [pushPropertyAux] at h
  | cons f rest ih =>
    cases f with
    | rule s cur =>
      simp only [pushPropertyAux] at h; cases h
      exact ⟨_, _, _, rfl, by simp [viewStack, flatBody], rfl⟩
    | ns nm =>
      simp only [pushPropertyAux] at h
      split at h
      · cases h
      · next rest' hr =>
        cases h
        obtain ⟨p, s, n', ht, hv, hs⟩ := ih _ _ hr
        exact ⟨p, s, n', ht, hv, congrArg (Frame.ns nm :: ·) hs⟩
    | «at» k r body =>
      cases r with
      | none =>
        simp only [pushPropertyAux] at h; cases h
        exact ⟨_, _, _, rfl, by simp [viewStack, flatItems_append, flatItems, flatItem], rfl⟩
      | some p =>
        obtain ⟨s, cur⟩ := p
        simp only [pushPropertyAux] at h; cases h
        exact ⟨_, _, _, rfl, by simp [viewStack, flatBody], rfl⟩

theorem pushCommentAux_view (t : σ) (stk : List (Frame σ)) (root : List (Item σ)) :
    view (pushCommentAux t stk root).1 (pushCommentAux t stk root).2
      = view stk root ++ [⟨(commentTarget stk).1, (commentTarget stk).2, .comment t⟩] ∧
    skel (pushCommentAux t stk root).1 = skel stk := by
  induction stk with
  | nil => simp [pushCommentAux, view, viewStack, flatItems_append, flatItems, flatItem, commentTarget, skel]
  | cons f rest ih =>
    cases f with
    | rule s cur => simp [pushCommentAux, view, viewStack, flatBody, commentTarget, skel, skelFrame]
    | ns nm =>
      obtain ⟨hv, hs⟩ := ih
      exact ⟨hv, congrArg (Frame.ns nm :: ·) hs⟩
    | «at» k r body =>
      cases r with
      | none => simp [pushCommentAux, view, viewStack, flatItems_append, flatItems, flatItem, commentTarget, skel, skelFrame]
      | some p =>
        obtain ⟨s, cur⟩ := p
        simp [pushCommentAux, view, viewStack, flatBody, commentTarget, skel, skelFrame]

/-- where `push_item` puts a body-less at-rule -/
def aruleTarget : List (Frame σ) → List (AtKind σ) × Option σ
  | .rule s _ :: rest => (pathOf rest, some s)
  | stk => (pathOf stk, none)

theorem aruleTarget_skel (stk : List (Frame σ)) : aruleTarget (skel stk) = aruleTarget stk := by
  cases stk with
  | nil => rfl
  | cons f rest =>
    cases f with
    | rule s cur => simp [skel, skelFrame, aruleTarget, ← pathOf_skel rest]
    | ns nm => simp [skel, skelFrame, aruleTarget, pathOf, ← pathOf_skel rest]
    | «at» k r body => simp [skel, skelFrame, aruleTarget, pathOf, ← pathOf_skel rest]

theorem copySel_skel (stk : List (Frame σ)) : copySel (skel stk) = copySel stk := by
  rcases stk with _ | ⟨_ | _ | ⟨_, _ | _, _⟩, _⟩ <;> rfl

/-- the frame `start_atmedia` / `start_atrule` opens -/
def atFrame (k : AtKind σ) (copy : Bool) (stk : List (Frame σ)) : Frame σ :=
  .at k (if copy then (copySel stk).map fun s => (s, []) else none) []

mutual
/-- THE EVALUATION LOG: the declarations, comments and body-less at-rules a statement
reaches, in source order, each with the at-rule path and selector it belongs to — computed
from the statement and the content-free skeleton of the enclosing destinations. -/
def logItem (q : Quirks) (ops : Ops σ) (c : SelCtx σ) : Core σ → List (Frame σ) → List (Entry σ)
  | .decl n v, sk =>
      match propTarget ops.nsJoin sk n with
      | some (p, s, n') => [⟨p, s, .prop n' v⟩]
      | none => []
  | .comment t, sk => [⟨(commentTarget sk).1, (commentTarget sk).2, .comment t⟩]
  | .arule n a, sk => [⟨(aruleTarget sk).1, (aruleTarget sk).2, .arule n a⟩]
  | .rule sel body, sk =>
      logBody q ops { s := some (ops.nest c.s c.backref sel), backref := none } body
        (.rule (ops.nest c.s c.backref sel) [] :: sk)
  | .ns name value body, sk =>
      (match value with
       | some v =>
         (match propTarget ops.nsJoin sk name with
          | some (p, s, n') => [⟨p, s, .prop n' v⟩]
          | none => [])
       | none => []) ++ logBody q ops c body (.ns name :: sk)
  | .media a body, sk =>
      logBody q ops { c with excluded := false } body (atFrame (.media a) (!c.excluded || q.atRootKeepsRule) sk :: sk)
  | .atrule n a body, sk =>
      logBody q ops (if ops.isKeyframes n then {} else { c with excluded := false }) body
        (atFrame (.atrule n a) (!(ops.isFlat n || !(!c.excluded || q.atRootKeepsRule))) sk :: sk)
  | .atroot (some sel) body, sk =>
      logBody q ops { s := some (ops.resolveRef c.getBackref sel), backref := c.getBackref } body
        (.rule (ops.resolveRef c.getBackref sel) [] :: sk)
  | .atroot none body, sk =>
      logBody q ops { s := none, backref := c.getBackref, excluded := true } body sk
def logBody (q : Quirks) (ops : Ops σ) (c : SelCtx σ) : List (Core σ) → List (Frame σ) → List (Entry σ)
  | [], _ => []
  | i :: r, sk => logItem q ops c i sk ++ logBody q ops c r sk
end

theorem atFrame_view (k : AtKind σ) (copy : Bool) (stk : List (Frame σ)) :
    viewStack (atFrame k copy stk :: stk) = viewStack stk := by
  unfold atFrame
  cases copy <;> cases copySel stk <;> simp [viewStack, flatItems, flatBody]

theorem atFrame_skel (k : AtKind σ) (copy : Bool) (stk : List (Frame σ)) :
    skel (atFrame k copy stk :: stk) = atFrame k copy (skel stk) :: skel stk := by
  unfold atFrame
  rw [copySel_skel]
  cases copy <;> cases copySel stk <;> simp [skel, skelFrame]

theorem skel_cons (f : Frame σ) (stk : List (Frame σ)) : skel (f :: stk) = skelFrame f :: skel stk := rfl

theorem startMedia_eq (copy : Bool) (a : σ) (st : St σ) :
    startMedia copy a st = { st with stack := atFrame (.media a) copy st.stack :: st.stack } := rfl

theorem startAtRule_eq (ops : Ops σ) (copy : Bool) (n a : σ) (st : St σ) :
    startAtRule ops copy n a st
      = { st with stack := atFrame (.atrule n a) (!(ops.isFlat n || !copy)) st.stack :: st.stack } := by
  simp only [startAtRule, atFrame]
  cases ops.isFlat n <;> cases copy <;> simp

theorem keeps_id (q : Quirks) (hh : q.atRuleHoists = false) (hm : q.mediaInMediaNested = true) (ops : Ops σ) :
    Keeps q ops id := by
  intro stk root its stk' root' h
  simpa only [List.map_id] using deliver_preserves_order q hh hm ops stk root its stk' root' h

/-- `st'` comes after `st`, never with fewer lost errors; if none was lost in between, the view
(seen through `g`) grew by exactly `L` and the frames are as before -/
def Sim (g : Entry σ → Entry σ) (st st' : St σ) (L : List (Entry σ)) : Prop :=
  st.lost ≤ st'.lost ∧
  (st'.lost = st.lost →
    (view st'.stack st'.root).map g = (view st.stack st.root ++ L).map g ∧ skel st'.stack = skel st.stack)

variable {g : Entry σ → Entry σ}

theorem Sim.of_eq {st st' : St σ} {L : List (Entry σ)} (hl : st'.lost = st.lost)
    (hv : (view st'.stack st'.root).map g = (view st.stack st.root ++ L).map g)
    (hk : skel st'.stack = skel st.stack) : Sim g st st' L :=
  ⟨Nat.le_of_eq hl.symm, fun _ => ⟨hv, hk⟩⟩

/-- one step after another; the log of the second is computed from the skeleton, which the
first has left alone -/
theorem Sim.trans {a b c : St σ} {L1 : List (Entry σ)} {L2 : List (Frame σ) → List (Entry σ)}
    (h1 : Sim g a b L1) (h2 : Sim g b c (L2 (skel b.stack))) : Sim g a c (L1 ++ L2 (skel a.stack)) := by
  refine ⟨Nat.le_trans h1.1 h2.1, fun heq => ?_⟩
  obtain ⟨v1, k1⟩ := h1.2 (by have := h1.1; have := h2.1; omega)
  obtain ⟨v2, k2⟩ := h2.2 (by have := h1.1; have := h2.1; omega)
  refine ⟨?_, k2.trans k1⟩
  rw [v2, List.map_append, v1, k1, ← List.map_append, List.append_assoc]

theorem Sim.exact {st st' : St σ} {L : List (Entry σ)} (h : Sim id st st' L) (hl : st'.lost = st.lost) :
    view st'.stack st'.root = view st.stack st.root ++ L ∧ skel st'.stack = skel st.stack := by
  simpa only [List.map_id] using h.2 hl

theorem close_sim {q : Quirks} {ops : Ops σ} (hh : q.atRuleHoists = false) (hd : Keeps q ops g)
    {st st' : St σ} (h : close q ops st = .ok st') :
    st.lost ≤ st'.lost ∧
    (st'.lost = st.lost →
      (view st'.stack st'.root).map g = (view st.stack st.root).map g ∧ skel st'.stack = skel st.stack.tail) := by
  have hv := viewStack_handover q hh st.stack
  rcases close_ok h with ⟨he, rfl⟩ | ⟨stk', root', hdl, rfl⟩ | ⟨_, rfl⟩
  · refine ⟨Nat.le_refl _, fun _ => ⟨?_, rfl⟩⟩
    rw [he] at hv
    simp only [view, hv, flatItems, List.append_nil]
  · obtain ⟨hv', hk⟩ := hd _ _ _ _ _ hdl
    refine ⟨Nat.le_refl _, fun _ => ⟨?_, hk⟩⟩
    rw [hv']
    simp only [view, hv, List.append_assoc]
  · exact ⟨Nat.le_succ _, fun hl => absurd hl (Nat.succ_ne_self _)⟩

/-- open an empty frame, evaluate a body into it, drop it -/
theorem block_sim {q : Quirks} {ops : Ops σ} (hh : q.atRuleHoists = false) (hd : Keeps q ops g)
    {st st2 st' : St σ} (f : Frame σ) {L : List (Entry σ)}
    (hf : viewStack (f :: st.stack) = viewStack st.stack)
    (hb : Sim g { st with stack := f :: st.stack } st2 L)
    (hc : close q ops st2 = .ok st') : Sim g st st' L := by
  obtain ⟨hle, hcl⟩ := close_sim hh hd hc
  obtain ⟨hb1, hb2⟩ := hb
  simp only at hb1 hb2
  refine ⟨Nat.le_trans hb1 hle, fun heq => ?_⟩
  obtain ⟨bv, bk⟩ := hb2 (by omega)
  obtain ⟨hv, hk⟩ := hcl (by omega)
  constructor
  · rw [hv, bv]
    simp only [view, hf]
  · rw [hk, skel, List.map_tail]
    exact congrArg List.tail bk

theorem aruleTarget_of_not_rule {stk : List (Frame σ)} (h : ∀ s cur rest, stk ≠ .rule s cur :: rest) :
    aruleTarget stk = (pathOf stk, none) := by
  unfold aruleTarget
  split
  · next s cur rest => exact absurd rfl (h s cur rest)
  · rfl

/-- The simulation: a successful evaluation of a statement (list), from any state with any open
frames, never lowers the lost-counter; if the counter stays, it appends exactly the evaluation
log to what the destination holds, in source order, and leaves the frames as they were. -/
theorem emit_sim {q : Quirks} {ops : Ops σ} (hh : q.atRuleHoists = false) (hd : Keeps q ops g) :
    EmitClosed q ops (fun c i st st' => Sim g st st' (logItem q ops c i (skel st.stack)))
      (fun c b st st' => Sim g st st' (logBody q ops c b (skel st.stack))) where
  decl c n v st st' h := by
    obtain ⟨stk', hp, rfl⟩ := pushProperty_ok h
    obtain ⟨p, s, n', ht, hv, hk⟩ := pushPropertyAux_view _ _ _ _ _ hp
    refine .of_eq rfl (congrArg _ ?_) hk
    simp only [logItem, propTarget_skel, ht, view, hv, List.append_assoc]
  comment c t st := by
    obtain ⟨hv, hk⟩ := pushCommentAux_view t st.stack st.root
    refine .of_eq rfl (congrArg _ ?_) hk
    simpa only [pushComment, logItem, commentTarget_skel] using hv
  arule c n a st st' h := by
    rcases pushARule_ok h with ⟨s, cur, rest, heq, rfl⟩ | ⟨hne, stk', root', hdl, rfl⟩
    · refine .of_eq rfl (congrArg _ ?_) (by simp [heq, skel, skelFrame])
      simp only [logItem, aruleTarget_skel]
      simp [heq, aruleTarget, view, viewStack, flatBody]
    · obtain ⟨hv, hk⟩ := hd _ _ _ _ _ hdl
      refine .of_eq rfl ?_ hk
      rw [hv]
      simp only [logItem, aruleTarget_skel, aruleTarget_of_not_rule hne, flatItems, flatItem, List.append_nil]
  rule c sel body st st2 st' hb hc := by
    simpa only [logItem, skel_cons, skelFrame] using
      block_sim hh hd (.rule _ []) (by simp [viewStack, flatBody]) hb hc
  ns c name value body st st0 st2 st' hv hn hb hc := by
    have hblock : Sim g st0 st' (logBody q ops c body (.ns name :: skel st0.stack)) :=
      block_sim hh hd (.ns name) rfl hb hc
    cases value with
    | none =>
      rw [← hn rfl]
      simpa only [logItem, List.nil_append] using hblock
    | some v =>
      simpa only [logItem] using
        Sim.trans (L2 := fun sk => logBody q ops c body (.ns name :: sk)) (hv v rfl) hblock
  media c a body st st2 st' hb hc := by
    rw [startMedia_eq] at hb
    simpa only [logItem, atFrame_skel] using block_sim hh hd _ (atFrame_view _ _ _) hb hc
  atrule c n a body st st2 st' hb hc := by
    rw [startAtRule_eq] at hb
    simpa only [logItem, atFrame_skel] using block_sim hh hd _ (atFrame_view _ _ _) hb hc
  atrootSel c sel body st st2 st' hb hc := by
    simpa only [logItem, skel_cons, skelFrame] using
      block_sim hh hd (.rule _ []) (by simp [viewStack, flatBody]) hb hc
  atroot c body st st' hb := by
    simpa only [logItem] using hb
  nil c st := .of_eq rfl (by simp only [logBody, List.append_nil]) rfl
  cons c i rest st st1 st' h1 h2 := by
    simpa only [logBody] using Sim.trans (L2 := fun sk => logBody q ops c rest sk) h1 h2

theorem emitTop_sim {q : Quirks} {ops : Ops σ} (hh : q.atRuleHoists = false) (hd : Keeps q ops g)
    {p : List (Core σ)} {st : St σ} (h : emitTop q ops p = .ok st) (hl : st.lost = 0) :
    (flatItems [] st.root).map g = (logBody q ops {} p []).map g ∧ st.stack = [] := by
  obtain ⟨hv, hk⟩ := ((emit_sim hh hd).body {} p {} st h).2 hl
  have hnil : st.stack = [] := List.map_eq_nil_iff.mp hk
  refine ⟨?_, hnil⟩
  simpa only [view, hnil, viewStack, List.append_nil, flatItems, List.nil_append, skel, List.map_nil] using hv

theorem emitItem_refines (q : Quirks) (hh : q.atRuleHoists = false) (hm : q.mediaInMediaNested = true)
    (hs : q.closeSwallows = false) (ops : Ops σ) (c : SelCtx σ) :
    ∀ (i : Core σ) (st st' : St σ), emitItem q ops c i st = .ok st' →
      view st'.stack st'.root = view st.stack st.root ++ logItem q ops c i (skel st.stack) ∧
      skel st'.stack = skel st.stack :=
  fun i st st' h =>
    ((emit_sim hh (keeps_id q hh hm ops)).item c i st st' h).exact (((emit_lost q ops).item c i st st' h).2 hs)

/-- `emit_refines_log` (body): for EVERY statement list, every state (any frame stack) and
every selector algebra — a successful evaluation appends exactly the evaluation log to what
the destination holds, in source order, and leaves the frames as they were. -/
theorem emitBody_refines (q : Quirks) (hh : q.atRuleHoists = false) (hm : q.mediaInMediaNested = true)
    (hs : q.closeSwallows = false) (ops : Ops σ) (c : SelCtx σ) :
    ∀ (b : List (Core σ)) (st st' : St σ), emitBody q ops c b st = .ok st' →
      view st'.stack st'.root = view st.stack st.root ++ logBody q ops c b (skel st.stack) ∧
      skel st'.stack = skel st.stack :=
  fun b st st' h =>
    ((emit_sim hh (keeps_id q hh hm ops)).body c b st st' h).exact (((emit_lost q ops).body c b st st' h).2 hs)

end Dest
