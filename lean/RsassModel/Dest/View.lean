/-
Dest/View.lean — the flattened view of a destination state: every declaration / comment /
body-less at-rule held anywhere (root list or open frames) with the at-rule path and the
selector it will be printed under, in output order.  Used to state order preservation for
ARBITRARY frame stacks.
-/
import RsassModel.Dest.Lemmas
namespace Dest
variable {σ : Type}

structure Entry (σ : Type) where
  path : List (AtKind σ)
  sel : Option σ
  item : BodyItem σ

def flatBody (p : List (AtKind σ)) (s : σ) (b : List (BodyItem σ)) : List (Entry σ) :=
  b.map fun i => ⟨p, some s, i⟩

mutual
def flatItem (p : List (AtKind σ)) : Item σ → List (Entry σ)
  | .comment t => [⟨p, none, .comment t⟩]
  | .rule s b => flatBody p s b
  | .prop n v => [⟨p, none, .prop n v⟩]
  | .media a b => flatItems (p ++ [.media a]) b
  | .atrule n a b => flatItems (p ++ [.atrule n a]) b
  | .arule n a => [⟨p, none, .arule n a⟩]
def flatItems (p : List (AtKind σ)) : List (Item σ) → List (Entry σ)
  | [] => []
  | i :: r => flatItem p i ++ flatItems p r
end

theorem flatItems_append (p : List (AtKind σ)) (a b : List (Item σ)) :
    flatItems p (a ++ b) = flatItems p a ++ flatItems p b := by
  induction a with
  | nil => simp [flatItems]
  | cons x xs ih => simp [flatItems, ih]

theorem flatItems_commit (p : List (AtKind σ)) (s : σ) (cur : List (BodyItem σ)) :
    flatItems p (commitItems s cur) = flatBody p s cur := by
  unfold commitItems
  cases cur with
  | nil => simp [flatItems, flatBody]
  | cons x xs => simp [flatItems, flatItem]

/-- the at-rules around the innermost frame, outermost first -/
def pathOf : List (Frame σ) → List (AtKind σ)
  | [] => []
  | .at k _ _ :: rest => pathOf rest ++ [k]
  | _ :: rest => pathOf rest

/-- entries held by the open frames, outermost frame first; inside an at-rule frame the
items received so far come before the declarations still collected in its rule copy
(the order of the specification, `atRuleHoists = false`) -/
def viewStack : List (Frame σ) → List (Entry σ)
  | [] => []
  | .rule s cur :: rest => viewStack rest ++ flatBody (pathOf rest) s cur
  | .ns _ :: rest => viewStack rest
  | .at k r body :: rest =>
      viewStack rest ++ flatItems (pathOf rest ++ [k]) body ++
        (match r with
         | some (s, cur) => flatBody (pathOf rest ++ [k]) s cur
         | none => [])

/-- everything the state holds, in the order it will be printed -/
def view (stack : List (Frame σ)) (root : List (Item σ)) : List (Entry σ) :=
  flatItems [] root ++ viewStack stack

theorem flatItems_toItem (p : List (AtKind σ)) (k : AtKind σ) (b : List (Item σ)) :
    flatItems p [k.toItem b] = flatItems (p ++ [k]) b := by
  cases k <;> simp [AtKind.toItem, flatItems, flatItem]

/-- With order-preserving at-rule frames, what the innermost frame holds is, in print order,
what it hands to its parent when it is dropped. -/
theorem viewStack_handover (q : Quirks) (hh : q.atRuleHoists = false) (stk : List (Frame σ)) :
    viewStack stk = viewStack stk.tail ++ flatItems (pathOf stk.tail) (handover q stk) := by
  cases stk with
  | nil => simp [viewStack, handover, flatItems]
  | cons f rest =>
    cases f with
    | rule s cur => simp [viewStack, handover, flatItems_commit]
    | ns nm => simp [viewStack, handover, flatItems]
    | «at» k r body =>
      cases r with
      | none => simp [viewStack, handover, atResult, flatItems_toItem]
      | some p =>
        obtain ⟨s, cur⟩ := p
        cases k <;>
          simp [viewStack, handover, atResult, hh, flatItems_toItem, flatItems_append, flatItems_commit, flatItems,
            flatItem]

/-- the frames without their contents -/
def skelFrame : Frame σ → Frame σ
  | .rule s _ => .rule s []
  | .ns n => .ns n
  | .at k r _ => .at k (r.map fun p => (p.1, [])) []
def skel (stk : List (Frame σ)) : List (Frame σ) := stk.map skelFrame

theorem pathOf_skel (stk : List (Frame σ)) : pathOf (skel stk) = pathOf stk := by
  induction stk with
  | nil => rfl
  | cons f rest ih => cases f <;> simp_all [skel, skelFrame, pathOf]

theorem pathOf_eq_of_skel {a b : List (Frame σ)} (h : skel a = skel b) : pathOf a = pathOf b := by
  rw [← pathOf_skel a, ← pathOf_skel b, h]

/-- handing items up the parent chain keeps, seen through `g`, everything held in order and
adds the items under the at-rule path of the stack; the frames stay as they are -/
def Keeps (q : Quirks) (ops : Ops σ) (g : Entry σ → Entry σ) : Prop :=
  ∀ stk root its stk' root', deliver q ops stk root its = .ok (stk', root') →
    (view stk' root').map g = (view stk root ++ flatItems (pathOf stk) its).map g ∧ skel stk' = skel stk

/-- For ANY stack (rule frames, at-rule frames, any nesting) with order-preserving at-rule
frames: what the rule frames on the way had collected keeps its place, an at-rule frame appends
what it is handed.  Where `@media` in `@media` bubbles, the one thing needed of `g` is that it
does not see the difference between what `splitMedia` passes on and keeps, and the frame's
body followed by the items. -/
theorem deliver_keeps (q : Quirks) (hh : q.atRuleHoists = false) (ops : Ops σ) (g : Entry σ → Entry σ)
    (hsplit : q.mediaInMediaNested = false → ∀ (p : List (AtKind σ)) (q0 : σ) (its body : List (Item σ)),
      (flatItems p (splitMedia ops q0 its body []).2 ++ flatItems (p ++ [.media q0]) (splitMedia ops q0 its body []).1).map g
        = (flatItems (p ++ [.media q0]) body ++ flatItems (p ++ [.media q0]) its).map g) :
    Keeps q ops g := by
  intro stk root its stk' root' h
  induction stk generalizing its stk' root' with
  | nil =>
    simp only [deliver] at h
    cases h
    exact ⟨congrArg _ (by simp [view, viewStack, flatItems_append, pathOf]), rfl⟩
  | cons f rest ih =>
    cases f with
    | ns nm => simp [deliver] at h
    | rule s cur =>
      obtain ⟨rest', rfl, hd⟩ := deliver_rule_ok h
      have ⟨hv, hs⟩ := ih _ _ _ hd
      constructor
      · simp only [view, viewStack, flatBody, List.map_nil, List.append_nil] at hv ⊢
        rw [hv]
        refine congrArg _ ?_
        simp [flatItems_append, flatItems_commit, pathOf, flatBody, List.append_assoc]
      · simp [skel, skelFrame] at hs ⊢
        exact hs
    | «at» k r body =>
      have keep : (∀ q0, k = .media q0 → q.mediaInMediaNested = true) →
          (view stk' root').map g = (view (.at k r body :: rest) root ++ flatItems (pathOf (.at k r body :: rest)) its).map g ∧
            skel stk' = skel (.at k r body :: rest) := by
        intro hk
        rw [deliver_at_keeps hh ops k hk] at h
        cases h
        cases r with
        | none =>
          exact ⟨congrArg _ (by simp [view, viewStack, flushed, flatItems_append, pathOf, List.append_assoc]),
            by simp [skel, skelFrame, flushed]⟩
        | some p =>
          exact ⟨congrArg _ (by simp [view, viewStack, flushed, flatItems_append, flatItems_commit, flatBody, pathOf,
            List.append_assoc]), by simp [skel, skelFrame, flushed]⟩
      cases k with
      | atrule n a => exact keep (by intro q0 hq; cases hq)
      | media q0 =>
        cases hm : q.mediaInMediaNested with
        | true => exact keep (fun _ _ => hm)
        | false =>
          have hvs : viewStack (.at (.media q0) r body :: rest)
              = viewStack rest ++ flatItems (pathOf rest ++ [.media q0]) (flushed r body).2 := by
            cases r with
            | none => simp [viewStack, flushed]
            | some pr => simp [viewStack, flushed, flatItems_append, flatItems_commit, List.append_assoc]
          have hview : ∀ (b2 : List (Item σ)) (rst : List (Frame σ)),
              viewStack (.at (.media q0) (flushed r body).1 b2 :: rst)
                = viewStack rst ++ flatItems (pathOf rst ++ [.media q0]) b2 := by
            intro b2 rst
            cases r with
            | none => simp [viewStack, flushed]
            | some pr => simp [viewStack, flushed, flatBody]
          have hsk : ∀ b2 : List (Item σ),
              skelFrame (.at (.media q0) (flushed r body).1 b2) = skelFrame (.at (.media q0) r body) := by
            intro b2
            cases r <;> rfl
          -- the one place where `g` has to be blind to the regrouping `splitMedia` does
          have hsp := hsplit hm (pathOf rest) q0 its (flushed r body).2
          obtain ⟨rest', rfl, hrest⟩ := deliver_media_ok hh hm h
          rcases hrest with ⟨hup, rfl, rfl⟩ | hd
          · rw [hup] at hsp
            simp only [flatItems, List.nil_append] at hsp
            constructor
            · simp only [view, hview, hvs, pathOf, List.map_append, List.append_assoc] at hsp ⊢
              rw [hsp]
            · simp only [skel, List.map_cons, hsk]
          · obtain ⟨hv, hs⟩ := ih _ _ _ hd
            have hp := pathOf_eq_of_skel hs
            constructor
            · simp only [view, hview, hvs, hp, pathOf, List.map_append, List.append_assoc] at hv hsp ⊢
              rw [← List.append_assoc ((flatItems [] root').map g), hv]
              simp only [List.append_assoc]
              rw [← hsp]
            · simp only [skel, List.map_cons, hsk] at hs ⊢
              rw [hs]

theorem deliver_preserves_order (q : Quirks) (hh : q.atRuleHoists = false) (hm : q.mediaInMediaNested = true)
    (ops : Ops σ) (stk : List (Frame σ)) (root its : List (Item σ))
    (stk' : List (Frame σ)) (root' : List (Item σ))
    (h : deliver q ops stk root its = .ok (stk', root')) :
    view stk' root' = view stk root ++ flatItems (pathOf stk) its ∧ skel stk' = skel stk := by
  simpa only [List.map_id] using
    deliver_keeps q hh ops id (fun hf => absurd (hm.symm.trans hf) (by decide)) stk root its stk' root' h

end Dest
