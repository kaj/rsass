/-
Dest/LemmasMerge.lean — the refinement `view' = view ++ log` for the FULL specification, where an
`@media` inside (rules inside) an `@media` bubbles to the parent with merged queries
(`mediaInMediaNested = false`).  Entries are compared after merging adjacent `@media` steps of
their at-rule path (`normPath`); the only assumption on the text algebra is that query
conjunction is associative (true for the driver's `a ++ " and " ++ b`).
-/
import RsassModel.Dest.Refine
namespace Dest
variable {σ : Type}

/-- adjacent `@media` steps of a path merged into one -/
def normPath (ops : Ops σ) : List (AtKind σ) → List (AtKind σ)
  | [] => []
  | .media a :: r =>
    match normPath ops r with
    | .media b :: r' => .media (ops.mergeMedia a b) :: r'
    | r' => .media a :: r'
  | .atrule n a :: r => .atrule n a :: normPath ops r

/-- the entry with its path normalised -/
def nE (ops : Ops σ) (e : Entry σ) : Entry σ := { e with path := normPath ops e.path }

/-- the normalised view: a list of entries, each with its path normalised -/
def NV (ops : Ops σ) (l : List (Entry σ)) : List (Entry σ) := l.map (nE ops)

theorem NV_append (ops : Ops σ) (a b : List (Entry σ)) : NV ops (a ++ b) = NV ops a ++ NV ops b := by
  simp [NV]

def Assoc (ops : Ops σ) : Prop :=
  ∀ a b c, ops.mergeMedia (ops.mergeMedia a b) c = ops.mergeMedia a (ops.mergeMedia b c)

theorem normPath_prefix (ops : Ops σ) (p x y : List (AtKind σ)) (h : normPath ops x = normPath ops y) :
    normPath ops (p ++ x) = normPath ops (p ++ y) := by
  induction p with
  | nil => simpa using h
  | cons k p ih =>
    cases k with
    | media a => simp only [List.cons_append, normPath, ih]
    | atrule n a => simp only [List.cons_append, normPath, ih]

theorem normPath_merge (ops : Ops σ) (hassoc : Assoc ops) (a b : σ) (r : List (AtKind σ)) :
    normPath ops (.media a :: .media b :: r) = normPath ops (.media (ops.mergeMedia a b) :: r) := by
  simp only [normPath]
  cases h : normPath ops r with
  | nil => rfl
  | cons k r' =>
    cases k with
    | media c => simp [hassoc a b c]
    | atrule n c => rfl

/-- two paths that normalise alike under every extension -/
def SamePath (ops : Ops σ) (p1 p2 : List (AtKind σ)) : Prop :=
  ∀ r, normPath ops (p1 ++ r) = normPath ops (p2 ++ r)

theorem SamePath.snoc {ops : Ops σ} {p1 p2 : List (AtKind σ)} (h : SamePath ops p1 p2) (k : AtKind σ) :
    SamePath ops (p1 ++ [k]) (p2 ++ [k]) := by
  intro r
  simpa [List.append_assoc] using h (k :: r)

theorem samePath_merge (ops : Ops σ) (hassoc : Assoc ops) (p : List (AtKind σ)) (a b : σ) :
    SamePath ops (p ++ [.media a] ++ [.media b]) (p ++ [.media (ops.mergeMedia a b)]) := by
  intro r
  simp only [List.append_assoc, List.cons_append, List.nil_append]
  exact normPath_prefix ops p _ _ (normPath_merge ops hassoc a b r)

mutual
theorem flatItem_samePath (ops : Ops σ) (p1 p2 : List (AtKind σ)) (h : SamePath ops p1 p2) :
    ∀ (i : Item σ), NV ops (flatItem p1 i) = NV ops (flatItem p2 i)
  | .comment t => by
    have := h []; simp at this
    simp [flatItem, NV, nE, this]
  | .rule s b => by
    have := h []; simp at this
    simp [flatItem, flatBody, NV, nE, this]
  | .prop n v => by
    have := h []; simp at this
    simp [flatItem, NV, nE, this]
  | .media a b => by
    simp only [flatItem]
    exact flatItems_samePath ops _ _ (h.snoc _) b
  | .atrule n a b => by
    simp only [flatItem]
    exact flatItems_samePath ops _ _ (h.snoc _) b
  | .arule n a => by
    have := h []; simp at this
    simp [flatItem, NV, nE, this]
theorem flatItems_samePath (ops : Ops σ) (p1 p2 : List (AtKind σ)) (h : SamePath ops p1 p2) :
    ∀ (l : List (Item σ)), NV ops (flatItems p1 l) = NV ops (flatItems p2 l)
  | [] => by simp [flatItems]
  | i :: r => by
    simp only [flatItems, NV_append]
    rw [flatItem_samePath ops p1 p2 h i, flatItems_samePath ops p1 p2 h r]
end

/-- what `splitMedia` does to the view: the frame's items and the delivered items are all still
there, in order, the bubbled ones under the merged query -/
theorem splitMedia_view (ops : Ops σ) (hassoc : Assoc ops) (p : List (AtKind σ)) (q0 : σ)
    (its body up : List (Item σ)) :
    NV ops (flatItems p (splitMedia ops q0 its body up).2 ++ flatItems (p ++ [.media q0]) (splitMedia ops q0 its body up).1)
      = NV ops (flatItems p up ++ flatItems (p ++ [.media q0]) body ++ flatItems (p ++ [.media q0]) its) := by
  induction its generalizing body up with
  | nil => simp [splitMedia, flatItems]
  | cons it its ih =>
    rcases it.media_or_not with ⟨q1, b, rfl⟩ | hne
    · simp only [splitMedia]
      rw [ih]
      -- the bubbled item sits under the merged query instead of the two nested ones
      have hm : NV ops (flatItems (p ++ [.media (ops.mergeMedia q0 q1)]) b)
          = NV ops (flatItems (p ++ [.media q0] ++ [.media q1]) b) :=
        (flatItems_samePath ops _ _ (samePath_merge ops hassoc p q0 q1) b).symm
      cases body <;> simp [flatItems_append, flatItems, flatItem, NV_append, hm, List.append_assoc]
    · rw [splitMedia_cons_of_ne ops q0 hne, ih]
      simp [flatItems_append, flatItems, NV_append, List.append_assoc]

/-- ANY stack, full specification (media bubbles and merges): the
hand-over keeps everything, in order; paths agree after merging adjacent `@media` steps. -/
theorem deliver_view_merge (q : Quirks) (hh : q.atRuleHoists = false) (ops : Ops σ) (hassoc : Assoc ops)
    (stk : List (Frame σ)) (root its : List (Item σ)) (stk' : List (Frame σ)) (root' : List (Item σ))
    (h : deliver q ops stk root its = .ok (stk', root')) :
    NV ops (view stk' root') = NV ops (view stk root ++ flatItems (pathOf stk) its) ∧ skel stk' = skel stk := by
  refine deliver_keeps q hh ops (nE ops) (fun _ p q0 its body => ?_) stk root its stk' root' h
  simpa only [NV, flatItems, List.nil_append] using splitMedia_view ops hassoc p q0 its body []

theorem keeps_nE (q : Quirks) (hh : q.atRuleHoists = false) (ops : Ops σ) (hassoc : Assoc ops) :
    Keeps q ops (nE ops) :=
  fun stk root its stk' root' h => deliver_view_merge q hh ops hassoc stk root its stk' root' h

theorem emitItem_merge (q : Quirks) (hh : q.atRuleHoists = false) (hs : q.closeSwallows = false)
    (ops : Ops σ) (hassoc : Assoc ops) (c : SelCtx σ) :
    ∀ (i : Core σ) (st st' : St σ), emitItem q ops c i st = .ok st' →
      NV ops (view st'.stack st'.root) = NV ops (view st.stack st.root ++ logItem q ops c i (skel st.stack)) ∧
      skel st'.stack = skel st.stack :=
  fun i st st' h =>
    ((emit_sim hh (keeps_nE q hh ops hassoc)).item c i st st' h).2 (((emit_lost q ops).item c i st st' h).2 hs)

/-- `emit_refines_log` for the FULL specification (media merging included): any statement
list, any state, any selector algebra with associative query conjunction. -/
theorem emitBody_merge (q : Quirks) (hh : q.atRuleHoists = false) (hs : q.closeSwallows = false)
    (ops : Ops σ) (hassoc : Assoc ops) (c : SelCtx σ) :
    ∀ (b : List (Core σ)) (st st' : St σ), emitBody q ops c b st = .ok st' →
      NV ops (view st'.stack st'.root) = NV ops (view st.stack st.root ++ logBody q ops c b (skel st.stack)) ∧
      skel st'.stack = skel st.stack :=
  fun b st st' h =>
    ((emit_sim hh (keeps_nE q hh ops hassoc)).body c b st st' h).2 (((emit_lost q ops).body c b st st' h).2 hs)

end Dest
