/-
Dest/Text.lean — the concrete instance of `Ops String` used by the drivers, and the
canonical one-line rendering of an output tree that is compared with the canonical tree
the Python side parses out of rsass's CSS.

The selector functions here cover only the selector shapes the generators emit (comma
lists of plain complex selectors, `&` as a textual parent reference); the selector algebra
proper belongs to other properties.  The theorems hold for every `Ops σ`; of this file they
mention only `strOps`, whose query conjunction `C20.strOps_assoc` shows associative.
-/
import RsassModel.Dest.Expand
import RsassModel.Basic.Proto
namespace Dest

def trimS (s : String) : String :=
  String.ofList ((s.toList.dropWhile (· == ' ')).reverse.dropWhile (· == ' ')).reverse

def splitComma (s : String) : List String := (s.splitOn ",").map trimS

def hasAmp (s : String) : Bool := s.toList.contains '&'

def replaceAmp (s parent : String) : String :=
  String.join (s.toList.map fun c => if c == '&' then parent else String.singleton c)

/-- `[[a1, b1], [a2, b2]]` ↦ `[a1, a2, b1, b2]` (the loops at the end of
`CssSelectorSet::nest` and `SelectorSet::resolve_ref`) -/
def roundRobin (fuel : Nat) (ls : List (List String)) : List String :=
  match fuel with
  | 0 => []
  | n + 1 =>
    let heads := ls.filterMap List.head?
    if heads.isEmpty then [] else heads ++ roundRobin n (ls.map List.tail)

def maxLen (ls : List (List String)) : Nat := ls.foldl (fun m l => max m l.length) 0

def joinSel (l : List String) : String := ", ".intercalate l

def nestStr (s backref : Option String) (inner : String) : String :=
  let parents : List String :=
    match s with
    | some p => splitComma p
    | none => match backref with
      | some b => splitComma b
      | none => []
  let parts := (splitComma inner).map fun o =>
    if hasAmp o then parents.map (replaceAmp o)
    else match s with
      | some p => (splitComma p).map fun x => x ++ " " ++ o
      | none => [o]
  joinSel (roundRobin (maxLen parts + 1) parts)

def resolveRefStr (backref : Option String) (sel : String) : String :=
  let parents := match backref with
    | some b => splitComma b
    | none => []
  let parts := (splitComma sel).map fun o =>
    if hasAmp o then parents.map (replaceAmp o) else [o]
  joinSel (roundRobin (maxLen parts + 1) parts)

def cssAtRules : List String :=
  ["charset", "color-profile", "counter-style", "document", "font-face", "font-feature-values",
   "import", "keyframes", "layer", "media", "namespace", "page", "property", "scroll-timeline",
   "supports", "viewport"]

/-- `name_in(name, CSS_AT_RULES)` -/
def isCssAtRule (name : String) : Bool :=
  if name.startsWith "-" then
    cssAtRules.any fun e => name.endsWith ("-" ++ e)
  else cssAtRules.contains name

/-- `keyframes`, or (specification) a vendor-prefixed `-x-keyframes` -/
def isKeyframesName (vendor : Bool) (n : String) : Bool :=
  n == "keyframes" || (vendor && n.startsWith "-" && n.endsWith "-keyframes")

/-- `exact = true`: names compared as the code does (`name == "keyframes"`) -/
def strOps (exact : Bool) : Ops String where
  nest := nestStr
  resolveRef := resolveRefStr
  nsJoin := fun a b => a ++ "-" ++ b
  isFlat := fun n => n == "font-face" || isKeyframesName (!exact) n
  isKeyframes := isKeyframesName (!exact)
  isSupports := fun n => n == "supports"
  mergeMedia := fun a b => a ++ " and " ++ b
  concat := String.join
  isHash := fun t => t.startsWith "#"
  isSourceMap := fun t => t.startsWith "# sourceMappingURL=" || t.startsWith "# sourceURL="

open Proto

/-- `existing` of `Comment::write`: least indentation of the continuation lines (a line that
does not start with `*` counts two less); `none` when there is no continuation line -/
def commentExisting (t : String) : Option Nat :=
  let ls := t.splitOn "\n"
  let ls := if ls.getLast? == some "" then ls.dropLast else ls
  let ns := (ls.drop 1).map fun l =>
    let cs := l.toList
    let i := (cs.takeWhile (· == ' ')).length
    if (cs.drop i).headD '*' == '*' then i else i - 2
  match ns with
  | [] => none
  | n :: r => some (r.foldl min n)

/-- the text `Comment::write` prints in COMPRESSED style at block depth `depth`
(`indent = 2 * depth`): `Ordering::Less` ⇒ `replace("", "\n")`, `Greater` ⇒ line breaks removed -/
def commentCompressed (garbled : Bool) (depth : Nat) (t : String) : String :=
  match commentExisting t with
  | none => t
  | some e =>
    if 2 * depth < e then
      if garbled then "\n" ++ String.join (t.toList.map fun c => String.singleton c ++ "\n") else t
    else if e < 2 * depth then String.join (t.splitOn "\n") else t

/-- comment text as written: only the compressed style changes more than white space -/
def cText (compressed garbled : Bool) (depth : Nat) (t : String) : String :=
  if compressed then commentCompressed garbled depth t else t

def canonBody (cg : Bool × Bool) (drop : String → Bool) (depth : Nat) : List (BodyItem String) → String
  | [] => ""
  | .prop n v :: r => "D" ++ hexOfString n ++ ":" ++ hexOfString v ++ ";" ++ canonBody cg drop depth r
  | .comment t :: r =>
      (if drop t then "" else "C" ++ hexOfString (cText cg.1 cg.2 depth t) ++ ";") ++ canonBody cg drop depth r
  | .arule n a :: r => "a" ++ hexOfString n ++ "|" ++ hexOfString a ++ ";" ++ canonBody cg drop depth r

/- what the writer prints of one item: `Rule::write` prints nothing for an empty body,
`MediaRule::write` nothing for an empty item list; `cg` = (compressed, garbling deviation on),
`depth` = number of enclosing blocks; `drop` = the comments `Comment::write` prints nothing for
(the emptiness tests of `Rule::write`/`MediaRule::write` look at the items, dropped comments included) -/
mutual
def canonItem (cg : Bool × Bool) (drop : String → Bool) (depth : Nat) : Item String → String
  | .comment t => if drop t then "" else "C" ++ hexOfString (cText cg.1 cg.2 depth t) ++ ";"
  | .rule s b => if b.isEmpty then "" else "R" ++ hexOfString s ++ "{" ++ canonBody cg drop (depth + 1) b ++ "}"
  | .prop n v => "D" ++ hexOfString n ++ ":" ++ hexOfString v ++ ";"
  | .media a b => if b.isEmpty then "" else "M" ++ hexOfString a ++ "{" ++ canonItems cg drop (depth + 1) b ++ "}"
  | .atrule n a b => "A" ++ hexOfString n ++ "|" ++ hexOfString a ++ "{" ++ canonItems cg drop (depth + 1) b ++ "}"
  | .arule n a => "a" ++ hexOfString n ++ "|" ++ hexOfString a ++ ";"
def canonItems (cg : Bool × Bool) (drop : String → Bool) (depth : Nat) : List (Item String) → String
  | [] => ""
  | i :: r => canonItem cg drop depth i ++ canonItems cg drop depth r
end

end Dest
