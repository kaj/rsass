/-
Dest/LemmasFlat.lean — flatness under the merging specification: no `@media` item sits directly in
the body of an `@media` item, anywhere in the output tree or in the open frames.
-/
import RsassModel.Dest.Refine
namespace Dest
variable {σ : Type}

def isMedia : Item σ → Bool
  | .media _ _ => true
  | _ => false

def noMedia : List (Item σ) → Bool
  | [] => true
  | i :: r => !isMedia i && noMedia r

mutual
/-- no `@media` directly inside an `@media`, at any depth of the tree -/
def flatOK : Item σ → Bool
  | .media _ b => noMedia b && flatOKs b
  | .atrule _ _ b => flatOKs b
  | _ => true
def flatOKs : List (Item σ) → Bool
  | [] => true
  | i :: r => flatOK i && flatOKs r
end

theorem noMedia_append (a b : List (Item σ)) : noMedia (a ++ b) = (noMedia a && noMedia b) := by
  induction a with
  | nil => simp [noMedia]
  | cons x xs ih => simp [noMedia, ih, Bool.and_assoc]

theorem flatOKs_append (a b : List (Item σ)) : flatOKs (a ++ b) = (flatOKs a && flatOKs b) := by
  induction a with
  | nil => simp [flatOKs]
  | cons x xs ih => simp [flatOKs, ih, Bool.and_assoc]

theorem commit_flat (s : σ) (cur : List (BodyItem σ)) :
    noMedia (commitItems s cur) = true ∧ flatOKs (commitItems s cur) = true := by
  unfold commitItems
  split <;> simp [noMedia, flatOKs, flatOK, isMedia]

def frameOK : Frame σ → Bool
  | .at (.media _) _ body => noMedia body && flatOKs body
  | .at (.atrule _ _) _ body => flatOKs body
  | _ => true

def stackOK : List (Frame σ) → Bool
  | [] => true
  | f :: r => frameOK f && stackOK r

theorem isMedia_of_ne {it : Item σ} (h : ∀ a b, it ≠ .media a b) : isMedia it = false := by
  cases it <;> first | rfl | exact absurd rfl (h _ _)

theorem splitMedia_flat (ops : Ops σ) (q0 : σ) (its body up : List (Item σ)) (hi : flatOKs its = true)
    (hb : noMedia body = true) (hf : flatOKs body = true) (hu : flatOKs up = true) :
    noMedia (splitMedia ops q0 its body up).1 = true ∧ flatOKs (splitMedia ops q0 its body up).1 = true ∧
      flatOKs (splitMedia ops q0 its body up).2 = true := by
  induction its generalizing body up with
  | nil => simp [splitMedia, hb, hf, hu]
  | cons it its ih =>
    simp only [flatOKs, Bool.and_eq_true] at hi
    rcases it.media_or_not with ⟨q1, b, rfl⟩ | hne
    · simp only [flatOK, Bool.and_eq_true] at hi
      apply ih [] _ hi.2 rfl rfl
      cases body.isEmpty <;> simp [flatOKs_append, flatOKs, flatOK, hu, hb, hf, hi.1.1, hi.1.2]
    · rw [splitMedia_cons_of_ne ops q0 hne]
      exact ih _ up hi.2 (by simp [noMedia_append, noMedia, isMedia_of_ne hne, hb])
        (by simp [flatOKs_append, flatOKs, hi.1, hf]) hu

theorem flushed_flat (r : Option (σ × List (BodyItem σ))) (body : List (Item σ)) :
    noMedia (flushed r body).2 = noMedia body ∧ flatOKs (flushed r body).2 = flatOKs body := by
  cases r with
  | none => exact ⟨rfl, rfl⟩
  | some p => simp [flushed, noMedia_append, flatOKs_append, (commit_flat p.1 p.2).1, (commit_flat p.1 p.2).2]

theorem deliver_flat (q : Quirks) (hh : q.atRuleHoists = false) (hm : q.mediaInMediaNested = false) (ops : Ops σ)
    (stk : List (Frame σ)) (root its : List (Item σ)) (stk' : List (Frame σ)) (root' : List (Item σ))
    (hs : stackOK stk = true) (hr : flatOKs root = true) (hi : flatOKs its = true)
    (h : deliver q ops stk root its = .ok (stk', root')) :
    stackOK stk' = true ∧ flatOKs root' = true := by
  induction stk generalizing its stk' root' with
  | nil =>
    simp only [deliver] at h; cases h
    simp [stackOK, flatOKs_append, hr, hi]
  | cons f rest ih =>
    simp only [stackOK, Bool.and_eq_true] at hs
    cases f with
    | ns nm => simp [deliver] at h
    | rule s cur =>
      obtain ⟨rest', rfl, hd⟩ := deliver_rule_ok h
      have := ih _ _ _ hs.2 (by simp [flatOKs_append, (commit_flat s cur).2, hi]) hd
      simp [stackOK, frameOK, this.1, this.2]
    | «at» k r body =>
      cases k with
      | atrule n a =>
        rw [deliver_at_keeps hh ops _ (by intro q0 hq; cases hq)] at h
        cases h
        have hb : flatOKs body = true := by simpa [frameOK] using hs.1
        simp [stackOK, frameOK, flatOKs_append, (flushed_flat r body).2, hb, hi, hs.2, hr]
      | media q0 =>
        have hb : noMedia body = true ∧ flatOKs body = true := by simpa [frameOK] using hs.1
        obtain ⟨rest', rfl, hrest⟩ := deliver_media_ok hh hm h
        obtain ⟨s1, s2, s3⟩ := splitMedia_flat ops q0 its _ [] hi ((flushed_flat r body).1.trans hb.1)
          ((flushed_flat r body).2.trans hb.2) rfl
        rcases hrest with ⟨_, rfl, rfl⟩ | hd
        · simp [stackOK, frameOK, s1, s2, hs.2, hr]
        · have := ih _ _ _ hs.2 s3 hd
          simp [stackOK, frameOK, s1, s2, this.1, this.2]

/-- the state holds no `@media` directly inside an `@media` -/
def WF (st : St σ) : Prop := stackOK st.stack = true ∧ flatOKs st.root = true

theorem frameOK_at_copy (k : AtKind σ) (r r' : Option (σ × List (BodyItem σ))) (body : List (Item σ)) :
    frameOK (.at k r body) = frameOK (.at k r' body) := by
  cases k <;> rfl

theorem frameOK_at_snoc (k : AtKind σ) (r : Option (σ × List (BodyItem σ))) (body : List (Item σ)) (it : Item σ)
    (hm : isMedia it = false) (hf : flatOK it = true) (h : frameOK (.at k r body) = true) :
    frameOK (.at k r (body ++ [it])) = true := by
  cases k <;> simp_all [frameOK, noMedia_append, flatOKs_append, noMedia, flatOKs]

theorem pushPropertyAux_flat (join : σ → σ → σ) (stk stk' : List (Frame σ)) (n v : σ)
    (h : pushPropertyAux join stk n v = .ok stk') (hs : stackOK stk = true) : stackOK stk' = true := by
  induction stk generalizing n stk' with
  | nil => simp [pushPropertyAux] at h
  | cons f rest ih =>
    simp only [stackOK, Bool.and_eq_true] at hs
    cases f with
    | rule s cur =>
      simp only [pushPropertyAux] at h
      cases h
      simpa only [stackOK, frameOK, Bool.true_and] using hs.2
    | ns nm =>
      simp only [pushPropertyAux] at h
      split at h
      · cases h
      · next rest' hr =>
        cases h
        simpa only [stackOK, frameOK, Bool.true_and] using ih _ _ hr hs.2
    | «at» k r body =>
      cases r with
      | none =>
        simp only [pushPropertyAux] at h
        cases h
        simp only [stackOK, Bool.and_eq_true]
        exact ⟨frameOK_at_snoc k none body _ rfl rfl hs.1, hs.2⟩
      | some p =>
        simp only [pushPropertyAux] at h
        cases h
        simp only [stackOK, Bool.and_eq_true]
        exact ⟨frameOK_at_copy k _ _ body ▸ hs.1, hs.2⟩

theorem pushCommentAux_flat (t : σ) (stk : List (Frame σ)) (root : List (Item σ))
    (hs : stackOK stk = true) (hr : flatOKs root = true) :
    stackOK (pushCommentAux t stk root).1 = true ∧ flatOKs (pushCommentAux t stk root).2 = true := by
  induction stk with
  | nil => simp [pushCommentAux, stackOK, flatOKs_append, flatOKs, flatOK, hr]
  | cons f rest ih =>
    simp only [stackOK, Bool.and_eq_true] at hs
    cases f with
    | rule s cur => simp [pushCommentAux, stackOK, frameOK, hs.2, hr]
    | ns nm =>
      have := ih hs.2
      simp [pushCommentAux, stackOK, frameOK, this.1, this.2]
    | «at» k r body =>
      cases r with
      | none =>
        simp only [pushCommentAux, stackOK, Bool.and_eq_true]
        exact ⟨⟨frameOK_at_snoc k none body _ rfl rfl hs.1, hs.2⟩, hr⟩
      | some p =>
        simp only [pushCommentAux, stackOK, Bool.and_eq_true]
        exact ⟨⟨frameOK_at_copy k _ _ body ▸ hs.1, hs.2⟩, hr⟩

theorem atResult_flat (q : Quirks) (hh : q.atRuleHoists = false) (k : AtKind σ)
    (r : Option (σ × List (BodyItem σ))) (body : List (Item σ)) (h : frameOK (.at k r body) = true) :
    flatOKs [atResult q k r body] = true := by
  cases k with
  | media a =>
    have hb : noMedia body = true ∧ flatOKs body = true := by simpa [frameOK] using h
    cases r with
    | none => simp [atResult, AtKind.toItem, flatOKs, flatOK, hb.1, hb.2]
    | some p =>
      obtain ⟨s, cur⟩ := p
      simp [atResult, hh, AtKind.toItem, flatOKs, flatOK, noMedia_append, flatOKs_append, hb.1, hb.2,
        (commit_flat s cur).1, (commit_flat s cur).2]
  | atrule n a =>
    have hb : flatOKs body = true := by simpa [frameOK] using h
    cases r with
    | none => simp [atResult, AtKind.toItem, flatOKs, flatOK, hb]
    | some p =>
      obtain ⟨s, cur⟩ := p
      simp [atResult, hh, AtKind.toItem, flatOKs, flatOK, flatOKs_append, hb]

theorem stackOK_tail {stk : List (Frame σ)} (h : stackOK stk = true) : stackOK stk.tail = true := by
  cases stk with
  | nil => rfl
  | cons f rest =>
    simp only [stackOK, Bool.and_eq_true] at h
    exact h.2

theorem handover_flat (q : Quirks) (hh : q.atRuleHoists = false) {stk : List (Frame σ)} (h : stackOK stk = true) :
    flatOKs (handover q stk) = true := by
  cases stk with
  | nil => rfl
  | cons f rest =>
    simp only [stackOK, Bool.and_eq_true] at h
    cases f with
    | rule s cur => exact (commit_flat s cur).2
    | ns nm => rfl
    | «at» k r body => exact atResult_flat q hh k r body h.1

theorem close_flat (q : Quirks) (hh : q.atRuleHoists = false) (hm : q.mediaInMediaNested = false) (ops : Ops σ)
    (st st' : St σ) (h : close q ops st = .ok st') (hw : WF st) : WF st' := by
  rcases close_ok h with ⟨_, rfl⟩ | ⟨stk', root', hd, rfl⟩ | ⟨_, rfl⟩
  · exact ⟨stackOK_tail hw.1, hw.2⟩
  · exact deliver_flat q hh hm ops _ _ _ _ _ (stackOK_tail hw.1) hw.2 (handover_flat q hh hw.1) hd
  · exact ⟨stackOK_tail hw.1, hw.2⟩

theorem atFrame_flat (k : AtKind σ) (copy : Bool) (stk : List (Frame σ)) : frameOK (atFrame k copy stk) = true := by
  unfold atFrame
  cases k <;> simp [frameOK, noMedia, flatOKs]

/-- every operation of the destination keeps the state flat -/
theorem emit_flat (q : Quirks) (hh : q.atRuleHoists = false) (hm : q.mediaInMediaNested = false) (ops : Ops σ) :
    EmitClosed q ops (fun _ _ st st' => WF st → WF st') (fun _ _ st st' => WF st → WF st') := by
  refine .of_steps (fun _ hw => hw) (fun h1 h2 hw => h2 (h1 hw)) ?_ ?_ ?_ ?_ ?_ ?_ ?_ (close_flat q hh hm ops)
  · intro s st hw
    exact ⟨by simpa [stackOK, frameOK] using hw.1, hw.2⟩
  · intro n st hw
    exact ⟨by simpa [stackOK, frameOK] using hw.1, hw.2⟩
  · intro copy a st hw
    rw [startMedia_eq]
    exact ⟨by simp [stackOK, atFrame_flat, hw.1], hw.2⟩
  · intro copy n a st hw
    rw [startAtRule_eq]
    exact ⟨by simp [stackOK, atFrame_flat, hw.1], hw.2⟩
  · intro n v st st' h hw
    obtain ⟨stk', hp, rfl⟩ := pushProperty_ok h
    exact ⟨pushPropertyAux_flat _ _ _ _ _ hp hw.1, hw.2⟩
  · intro t st hw
    exact pushCommentAux_flat t st.stack st.root hw.1 hw.2
  · intro n a st st' h hw
    rcases pushARule_ok h with ⟨s, cur, rest, heq, rfl⟩ | ⟨_, stk', root', hd, rfl⟩
    · obtain ⟨hs, hr⟩ := hw
      rw [heq] at hs
      exact ⟨by simpa [stackOK, frameOK] using hs, hr⟩
    · exact deliver_flat q hh hm ops _ _ _ _ _ hw.1 hw.2 (by simp [flatOKs, flatOK]) hd

theorem emitItem_flat (q : Quirks) (hh : q.atRuleHoists = false) (hm : q.mediaInMediaNested = false)
    (ops : Ops σ) (c : SelCtx σ) :
    ∀ (i : Core σ) (st st' : St σ), emitItem q ops c i st = .ok st' → WF st → WF st' :=
  (emit_flat q hh hm ops).item c

theorem emitBody_flat (q : Quirks) (hh : q.atRuleHoists = false) (hm : q.mediaInMediaNested = false)
    (ops : Ops σ) (c : SelCtx σ) :
    ∀ (b : List (Core σ)) (st st' : St σ), emitBody q ops c b st = .ok st' → WF st → WF st' :=
  (emit_flat q hh hm ops).body c

end Dest
