/-
Dest/Lemmas.lean — what the operations of the destination return (`deliver` per frame kind,
`close` as hand-over to the parent chain, the successful cases of `push_*`/`start_*`), and rule
induction over the ways `emitItem`/`emitBody` succeed (`EmitClosed`).
-/
import RsassModel.Dest.Expand
namespace Dest
variable {σ : Type}

/-- a chain of open `RuleDest`s, innermost first: (selector, collected body) -/
abbrev Rules (σ : Type) := List (σ × List (BodyItem σ))

def ruleStack (rs : Rules σ) : List (Frame σ) := rs.map fun p => .rule p.1 p.2
def emptied (rs : Rules σ) : List (Frame σ) := rs.map fun p => .rule p.1 []
/-- what the chain commits when an item passes through it: outermost rule first -/
def commitsOf (rs : Rules σ) : List (Item σ) := rs.reverse.flatMap fun p => commitItems p.1 p.2

def declsOf (l : List (σ × σ)) : List (Core σ) := l.map fun p => .decl p.1 p.2
def propsOf (l : List (σ × σ)) : List (BodyItem σ) := l.map fun p => .prop p.1 p.2

theorem commitsOf_cons (p : σ × List (BodyItem σ)) (rs : Rules σ) :
    commitsOf (p :: rs) = commitsOf rs ++ commitItems p.1 p.2 := by
  simp [commitsOf]

theorem deliver_ruleStack (q : Quirks) (ops : Ops σ) (rs : Rules σ) (root its : List (Item σ)) :
    deliver q ops (ruleStack rs) root its = .ok (emptied rs, root ++ commitsOf rs ++ its) := by
  induction rs generalizing its with
  | nil => simp [ruleStack, emptied, commitsOf, deliver]
  | cons p rs ih =>
    have h := ih (commitItems p.1 p.2 ++ its)
    simp only [ruleStack, List.map_cons] at h ⊢
    simp only [deliver, h, commitsOf_cons, emptied, List.map_cons, List.append_assoc]

/-- Declarations evaluated on a frame that keeps a declaration itself, as one more `mk n v` at
the end of the list `x` it holds (`f x` is the frame): they arrive in order. -/
theorem emitBody_decls_frame {α : Type} (q : Quirks) (ops : Ops σ) (c : SelCtx σ)
    (hc : (c.excluded && !q.atRootKeepsRule) = false) (f : List α → Frame σ) (mk : σ → σ → α)
    (rest : List (Frame σ))
    (hf : ∀ x n v, pushPropertyAux ops.nsJoin (f x :: rest) n v = .ok (f (x ++ [mk n v]) :: rest))
    (l : List (σ × σ)) (x : List α) (root : List (Item σ)) (lost : Nat) :
    emitBody q ops c (declsOf l) { stack := f x :: rest, root := root, lost := lost }
      = .ok { stack := f (x ++ l.map fun p => mk p.1 p.2) :: rest, root := root, lost := lost } := by
  induction l generalizing x with
  | nil => simp [declsOf, emitBody]
  | cons p l ih =>
    have := ih (x ++ [mk p.1 p.2])
    simp only [declsOf, List.map_cons] at this ⊢
    simp [emitBody, emitItem, hc, pushProperty, hf, liftInv, this]

theorem emitBody_decls_rule (q : Quirks) (ops : Ops σ) (c : SelCtx σ) (l : List (σ × σ))
    (hc : (c.excluded && !q.atRootKeepsRule) = false)
    (s : σ) (cur : List (BodyItem σ)) (rest : List (Frame σ)) (root : List (Item σ)) (lost : Nat) :
    emitBody q ops c (declsOf l) { stack := .rule s cur :: rest, root := root, lost := lost }
      = .ok { stack := .rule s (cur ++ propsOf l) :: rest, root := root, lost := lost } :=
  emitBody_decls_frame q ops c hc (.rule s) .prop rest (fun _ _ _ => rfl) l cur root lost

theorem emitBody_decls_at (q : Quirks) (ops : Ops σ) (c : SelCtx σ) (l : List (σ × σ))
    (hc : (c.excluded && !q.atRootKeepsRule) = false) (k : AtKind σ)
    (s : σ) (cur : List (BodyItem σ)) (body : List (Item σ)) (rest : List (Frame σ))
    (root : List (Item σ)) (lost : Nat) :
    emitBody q ops c (declsOf l) { stack := .at k (some (s, cur)) body :: rest, root := root, lost := lost }
      = .ok { stack := .at k (some (s, cur ++ propsOf l)) body :: rest, root := root, lost := lost } :=
  emitBody_decls_frame q ops c hc (fun cur => .at k (some (s, cur)) body) .prop rest (fun _ _ _ => rfl) l cur
    root lost

theorem emitBody_decls_atNone (q : Quirks) (ops : Ops σ) (c : SelCtx σ) (l : List (σ × σ))
    (hc : (c.excluded && !q.atRootKeepsRule) = false) (k : AtKind σ)
    (body : List (Item σ)) (rest : List (Frame σ)) (root : List (Item σ)) (lost : Nat) :
    emitBody q ops c (declsOf l) { stack := .at k none body :: rest, root := root, lost := lost }
      = .ok { stack := .at k none (body ++ l.map fun p => .prop p.1 p.2) :: rest, root := root, lost := lost } :=
  emitBody_decls_frame q ops c hc (.at k none) .prop rest (fun _ _ _ => rfl) l body root lost

theorem propsOf_isEmpty (l : List (σ × σ)) (hl : l ≠ []) : (propsOf l).isEmpty = false := by
  cases l with
  | nil => exact absurd rfl hl
  | cons p l => simp [propsOf]

theorem Item.media_or_not (it : Item σ) : (∃ a b, it = .media a b) ∨ ∀ a b, it ≠ .media a b := by
  cases it <;> simp

theorem splitMedia_cons_of_ne (ops : Ops σ) (q0 : σ) {it : Item σ} (h : ∀ a b, it ≠ .media a b)
    (its body up : List (Item σ)) :
    splitMedia ops q0 (it :: its) body up = splitMedia ops q0 its (body ++ [it]) up := by
  cases it <;> first | rfl | exact absurd rfl (h _ _)

/-- what an at-rule frame's rule copy and body become when an item arrives: the collected copy
is committed first (order-preserving frames) -/
def flushed : Option (σ × List (BodyItem σ)) → List (Item σ) → Option (σ × List (BodyItem σ)) × List (Item σ)
  | some (s, cur), body => (some (s, []), body ++ commitItems s cur)
  | none, body => (none, body)

/-- an `@media` frame of the specification receives items: it keeps what `splitMedia` leaves it
and passes the bubbling `@media` items on, if there are any -/
theorem deliver_media_ok {q : Quirks} (hh : q.atRuleHoists = false) (hm : q.mediaInMediaNested = false)
    {ops : Ops σ} {q0 : σ} {r : Option (σ × List (BodyItem σ))} {body : List (Item σ)} {rest : List (Frame σ)}
    {root its : List (Item σ)} {stk' : List (Frame σ)} {root' : List (Item σ)}
    (h : deliver q ops (.at (.media q0) r body :: rest) root its = .ok (stk', root')) :
    ∃ rest', stk' = .at (.media q0) (flushed r body).1 (splitMedia ops q0 its (flushed r body).2 []).1 :: rest' ∧
      (((splitMedia ops q0 its (flushed r body).2 []).2 = [] ∧ rest' = rest ∧ root' = root) ∨
        deliver q ops rest root (splitMedia ops q0 its (flushed r body).2 []).2 = .ok (rest', root')) := by
  have key : ∀ (r' : Option (σ × List (BodyItem σ))) (sm : List (Item σ) × List (Item σ)),
      (if sm.2.isEmpty = true then
          (.ok (.at (.media q0) r' sm.1 :: rest, root) : Except Invalid (List (Frame σ) × List (Item σ)))
        else
          match deliver q ops rest root sm.2 with
          | .error e => .error e
          | .ok (rest', root') => .ok (.at (.media q0) r' sm.1 :: rest', root'))
        = .ok (stk', root') →
      ∃ rest', stk' = .at (.media q0) r' sm.1 :: rest' ∧
        ((sm.2 = [] ∧ rest' = rest ∧ root' = root) ∨ deliver q ops rest root sm.2 = .ok (rest', root')) := by
    intro r' sm hres
    split at hres
    · next he =>
      cases hres
      exact ⟨rest, rfl, .inl ⟨List.isEmpty_iff.mp he, rfl, rfl⟩⟩
    · split at hres
      · cases hres
      · next rest' root1 hd =>
        cases hres
        exact ⟨rest', rfl, .inr hd⟩
  cases r with
  | none =>
    simp only [deliver, hh, hm] at h
    exact key none _ h
  | some p =>
    obtain ⟨s, cur⟩ := p
    simp only [deliver, hh, hm] at h
    exact key (some (s, [])) _ h

theorem deliver_rule_ok {q : Quirks} {ops : Ops σ} {s : σ} {cur : List (BodyItem σ)} {rest : List (Frame σ)}
    {root its : List (Item σ)} {stk' : List (Frame σ)} {root' : List (Item σ)}
    (h : deliver q ops (.rule s cur :: rest) root its = .ok (stk', root')) :
    ∃ rest', stk' = .rule s [] :: rest' ∧ deliver q ops rest root (commitItems s cur ++ its) = .ok (rest', root') := by
  simp only [deliver] at h
  split at h
  · cases h
  · next rest' root1 hd =>
    cases h
    exact ⟨rest', rfl, hd⟩

theorem deliver_at_keeps {q : Quirks} (hh : q.atRuleHoists = false) (ops : Ops σ) (k : AtKind σ)
    (hk : ∀ q0, k = .media q0 → q.mediaInMediaNested = true)
    (r : Option (σ × List (BodyItem σ))) (body : List (Item σ)) (rest : List (Frame σ)) (root its : List (Item σ)) :
    deliver q ops (.at k r body :: rest) root its
      = .ok (.at k (flushed r body).1 ((flushed r body).2 ++ its) :: rest, root) := by
  cases k with
  | atrule n a => cases r <;> simp [deliver, hh, flushed]
  | media q0 => cases r <;> simp [deliver, hh, hk q0 rfl, flushed]

theorem liftInv_ok {α} {r : Except Invalid α} {a : α} : liftInv r = .ok a ↔ r = .ok a := by
  cases r <;> simp [liftInv]

theorem startRule_ok {s : σ} {st st' : St σ} (h : startRule s st = .ok st') :
    st' = { st with stack := .rule s [] :: st.stack } := by
  unfold startRule at h
  split at h
  · cases h
  · cases h; rfl

theorem startNs_ok {n : σ} {st st' : St σ} (h : startNs n st = .ok st') :
    st' = { st with stack := .ns n :: st.stack } := by
  unfold startNs at h
  split at h
  · cases h
  · cases h; rfl

theorem pushProperty_ok {ops : Ops σ} {n v : σ} {st st' : St σ} (h : pushProperty ops n v st = .ok st') :
    ∃ stk', pushPropertyAux ops.nsJoin st.stack n v = .ok stk' ∧ st' = { st with stack := stk' } := by
  unfold pushProperty at h
  split at h
  · cases h
  · next stk' hp => cases h; exact ⟨stk', hp, rfl⟩

theorem pushARule_ok {q : Quirks} {ops : Ops σ} {n a : σ} {st st' : St σ}
    (h : pushARule q ops n a st = .ok st') :
    (∃ s cur rest, st.stack = .rule s cur :: rest ∧
      st' = { st with stack := .rule s (cur ++ [.arule n a]) :: rest }) ∨
    ((∀ s cur rest, st.stack ≠ .rule s cur :: rest) ∧ ∃ stk' root',
      deliver q ops st.stack st.root [.arule n a] = .ok (stk', root') ∧
      st' = { st with stack := stk', root := root' }) := by
  unfold pushARule at h
  split at h
  · next s cur rest heq => cases h; exact .inl ⟨s, cur, rest, heq, rfl⟩
  · next hne =>
    split at h
    · cases h
    · next stk' root' hd => cases h; exact .inr ⟨hne, stk', root', hd, rfl⟩

/-- what the innermost frame hands to its parent when it is dropped -/
def handover (q : Quirks) : List (Frame σ) → List (Item σ)
  | .rule s cur :: _ => commitItems s cur
  | .at k r body :: _ => [atResult q k r body]
  | _ => []

/-- what dropping the innermost frame makes of the parent chain's answer to the hand-over -/
def closeResult (q : Quirks) (st : St σ) :
    Except Invalid (List (Frame σ) × List (Item σ)) → Except Invalid (St σ)
  | .ok (stk', root') => .ok { st with stack := stk', root := root' }
  | .error e =>
    if q.closeSwallows then .ok { st with stack := st.stack.tail, lost := st.lost + 1 } else .error e

theorem close_eq (q : Quirks) (ops : Ops σ) (st : St σ) :
    close q ops st =
      if (handover q st.stack).isEmpty then .ok { st with stack := st.stack.tail }
      else closeResult q st (deliver q ops st.stack.tail st.root (handover q st.stack)) := by
  obtain ⟨stk, root, lost⟩ := st
  cases stk with
  | nil => rfl
  | cons f rest =>
    cases f with
    | ns nm => rfl
    | rule s cur =>
      cases cur with
      | nil => rfl
      | cons b cur =>
        simp only [close, handover, commitItems, List.isEmpty_cons, Bool.false_eq_true, if_false, List.tail_cons]
        cases deliver q ops rest root [.rule s (b :: cur)] <;> rfl
    | «at» k r body =>
      simp only [close, handover, List.isEmpty_cons, Bool.false_eq_true, if_false, List.tail_cons]
      cases deliver q ops rest root [atResult q k r body] <;> rfl

/-- the three ways a frame is dropped successfully: nothing to hand over, the parent chain
takes it, or the refusal is only counted -/
theorem close_ok {q : Quirks} {ops : Ops σ} {st st' : St σ} (h : close q ops st = .ok st') :
    (handover q st.stack = [] ∧ st' = { st with stack := st.stack.tail }) ∨
    (∃ stk' root', deliver q ops st.stack.tail st.root (handover q st.stack) = .ok (stk', root') ∧
      st' = { st with stack := stk', root := root' }) ∨
    (q.closeSwallows = true ∧ st' = { st with stack := st.stack.tail, lost := st.lost + 1 }) := by
  rw [close_eq] at h
  split at h
  · next he => cases h; exact .inl ⟨List.isEmpty_iff.mp he, rfl⟩
  · unfold closeResult at h
    split at h
    · next stk' root' hd => cases h; exact .inr (.inl ⟨stk', root', hd, rfl⟩)
    · split at h
      · next hs => cases h; exact .inr (.inr ⟨hs, rfl⟩)
      · cases h

theorem close_on_rules (q : Quirks) (ops : Ops σ) (f : Frame σ) (rs : Rules σ) (root : List (Item σ)) (lost : Nat)
    (h : (handover q [f]).isEmpty = false) :
    close q ops { stack := f :: ruleStack rs, root := root, lost := lost }
      = .ok { stack := emptied rs, root := root ++ commitsOf rs ++ handover q [f], lost := lost } := by
  have hf : handover q (f :: ruleStack rs) = handover q [f] := by cases f <;> rfl
  simp only [close_eq, hf, h, List.tail_cons, deliver_ruleStack, closeResult, Bool.false_eq_true, if_false]

theorem emitItem_rule_decls (q : Quirks) (ops : Ops σ) (c : SelCtx σ) (sel : σ) (l : List (σ × σ))
    (stk : List (Frame σ)) (root : List (Item σ)) (lost : Nat) (hns : ∀ nm rest, stk ≠ .ns nm :: rest) :
    emitItem q ops c (.rule sel (declsOf l)) { stack := stk, root := root, lost := lost }
      = liftInv (close q ops
          { stack := .rule (ops.nest c.s c.backref sel) (propsOf l) :: stk, root := root, lost := lost }) := by
  have hs : startRule (ops.nest c.s c.backref sel) ({ stack := stk, root := root, lost := lost } : St σ)
      = .ok { stack := .rule (ops.nest c.s c.backref sel) [] :: stk, root := root, lost := lost } := by
    unfold startRule
    split
    · next nm rest heq => exact absurd heq (hns nm rest)
    · rfl
  simp only [emitItem, hs, liftInv]
  rw [emitBody_decls_rule q ops _ l (by simp)]
  rfl

theorem emitBody_single (q : Quirks) (ops : Ops σ) (c : SelCtx σ) (i : Core σ) (st : St σ) :
    emitBody q ops c [i] st = emitItem q ops c i st := by
  simp only [emitBody]
  cases emitItem q ops c i st <;> rfl

theorem emitItem_atrule_eq (q : Quirks) (ops : Ops σ) (c : SelCtx σ) (n a : σ) (body : List (Core σ)) (st : St σ) :
    emitItem q ops c (.atrule n a body) st =
      match emitBody q ops (if ops.isKeyframes n then {} else { c with excluded := false })
          body (startAtRule ops (!c.excluded || q.atRootKeepsRule) n a st) with
      | .error e => .error e
      | .ok st2 => liftInv (close q ops st2) := by
  simp only [emitItem]; rfl

theorem emitItem_atroot_none_eq (q : Quirks) (ops : Ops σ) (c : SelCtx σ) (body : List (Core σ)) (st : St σ) :
    emitItem q ops c (.atroot none body) st =
      emitBody q ops { s := none, backref := c.getBackref, excluded := true } body st := by
  simp only [emitItem, Option.map]

theorem deliver_atrule_none (q : Quirks) (ops : Ops σ) (n a : σ) (body : List (Item σ))
    (rest : List (Frame σ)) (root its : List (Item σ)) :
    deliver q ops (.at (.atrule n a) none body :: rest) root its
      = .ok (.at (.atrule n a) none (body ++ its) :: rest, root) := by
  cases h : q.atRuleHoists <;> simp [deliver, h]

/-- `P` (statements) and `PB` (statement lists) are closed under the ways `emitItem` and `emitBody`
succeed: what one step of each kind does to the state, given what the evaluation of its parts did. -/
structure EmitClosed (q : Quirks) (ops : Ops σ)
    (P : SelCtx σ → Core σ → St σ → St σ → Prop) (PB : SelCtx σ → List (Core σ) → St σ → St σ → Prop) : Prop where
  decl : ∀ c n v st st', pushProperty ops n v st = .ok st' → P c (.decl n v) st st'
  comment : ∀ c t st, P c (.comment t) st (pushComment t st)
  arule : ∀ c n a st st', pushARule q ops n a st = .ok st' → P c (.arule n a) st st'
  rule : ∀ c sel body st st2 st',
    PB { s := some (ops.nest c.s c.backref sel), backref := none } body
      { st with stack := .rule (ops.nest c.s c.backref sel) [] :: st.stack } st2 →
    close q ops st2 = .ok st' → P c (.rule sel body) st st'
  ns : ∀ c name value body st st0 st2 st',
    (∀ v, value = some v → P c (.decl name v) st st0) → (value = none → st0 = st) →
    PB c body { st0 with stack := .ns name :: st0.stack } st2 →
    close q ops st2 = .ok st' → P c (.ns name value body) st st'
  media : ∀ c a body st st2 st',
    PB { c with excluded := false } body (startMedia (!c.excluded || q.atRootKeepsRule) a st) st2 →
    close q ops st2 = .ok st' → P c (.media a body) st st'
  atrule : ∀ c n a body st st2 st',
    PB (if ops.isKeyframes n then {} else { c with excluded := false }) body
      (startAtRule ops (!c.excluded || q.atRootKeepsRule) n a st) st2 →
    close q ops st2 = .ok st' → P c (.atrule n a body) st st'
  atrootSel : ∀ c sel body st st2 st',
    PB { s := some (ops.resolveRef c.getBackref sel), backref := c.getBackref } body
      { st with stack := .rule (ops.resolveRef c.getBackref sel) [] :: st.stack } st2 →
    close q ops st2 = .ok st' → P c (.atroot (some sel) body) st st'
  atroot : ∀ c body st st',
    PB { s := none, backref := c.getBackref, excluded := true } body st st' → P c (.atroot none body) st st'
  nil : ∀ c st, PB c [] st st
  cons : ∀ c i rest st st1 st', P c i st st1 → PB c rest st1 st' → PB c (i :: rest) st st'

variable {q : Quirks} {ops : Ops σ} {P : SelCtx σ → Core σ → St σ → St σ → Prop}
  {PB : SelCtx σ → List (Core σ) → St σ → St σ → Prop}

mutual
theorem EmitClosed.item (H : EmitClosed q ops P PB) (c : SelCtx σ) :
    ∀ (i : Core σ) (st st' : St σ), emitItem q ops c i st = .ok st' → P c i st st'
  | .decl n v, st, st', h => by
    simp only [emitItem] at h
    split at h
    · cases h
    · exact H.decl c n v st st' (liftInv_ok.mp h)
  | .comment t, st, st', h => by
    simp only [emitItem] at h
    cases h
    exact H.comment c t st
  | .arule n a, st, st', h => H.arule c n a st st' (liftInv_ok.mp (by simpa only [emitItem] using h))
  | .rule sel body, st, st', h => by
    simp only [emitItem] at h
    split at h
    · cases h
    · next st1 h1 =>
      split at h
      · cases h
      · next st2 h2 =>
        rw [startRule_ok (liftInv_ok.mp h1)] at h2
        exact H.rule c sel body st st2 st' (H.body _ body _ st2 h2) (liftInv_ok.mp h)
  | .ns name value body, st, st', h => by
    simp only [emitItem] at h
    split at h
    · cases h
    · next st0 h0 =>
      split at h
      · cases h
      · next st1 h1 =>
        split at h
        · cases h
        · next st2 h2 =>
          rw [startNs_ok (liftInv_ok.mp h1)] at h2
          refine H.ns c name value body st st0 st2 st' ?_ ?_ (H.body c body _ st2 h2) (liftInv_ok.mp h)
          · rintro v rfl
            simp only at h0
            split at h0
            · cases h0
            · exact H.decl c name v st st0 (liftInv_ok.mp h0)
          · rintro rfl
            cases h0
            rfl
  | .media a body, st, st', h => by
    simp only [emitItem] at h
    split at h
    · cases h
    · next st2 h2 => exact H.media c a body st st2 st' (H.body _ body _ st2 h2) (liftInv_ok.mp h)
  | .atrule n a body, st, st', h => by
    simp only [emitItem] at h
    split at h
    · cases h
    · next st2 h2 => exact H.atrule c n a body st st2 st' (H.body _ body _ st2 h2) (liftInv_ok.mp h)
  | .atroot none body, st, st', h =>
    H.atroot c body st st' (H.body _ body st st' (by simpa only [emitItem, Option.map] using h))
  | .atroot (some sel) body, st, st', h => by
    simp only [emitItem, Option.map] at h
    split at h
    · cases h
    · next st1 h1 =>
      split at h
      · cases h
      · next st2 h2 =>
        rw [startRule_ok (liftInv_ok.mp h1)] at h2
        exact H.atrootSel c sel body st st2 st' (H.body _ body _ st2 h2) (liftInv_ok.mp h)
theorem EmitClosed.body (H : EmitClosed q ops P PB) (c : SelCtx σ) :
    ∀ (b : List (Core σ)) (st st' : St σ), emitBody q ops c b st = .ok st' → PB c b st st'
  | [], st, st', h => by
    simp only [emitBody] at h
    cases h
    exact H.nil c st
  | i :: rest, st, st', h => by
    simp only [emitBody] at h
    split at h
    · cases h
    · next st1 h1 => exact H.cons c i rest st st1 st' (H.item c i st st1 h1) (H.body c rest st1 st' h)
end


/-- For a relation between states that does not look at the statements, closure comes down to
reflexivity, transitivity and one fact for each operation of the destination. -/
theorem EmitClosed.of_steps {R : St σ → St σ → Prop}
    (refl : ∀ st, R st st) (trans : ∀ {a b c}, R a b → R b c → R a c)
    (startRule : ∀ s (st : St σ), R st { st with stack := .rule s [] :: st.stack })
    (startNs : ∀ n (st : St σ), R st { st with stack := .ns n :: st.stack })
    (startMedia : ∀ copy a st, R st (startMedia copy a st))
    (startAtRule : ∀ copy n a st, R st (startAtRule ops copy n a st))
    (pushProperty : ∀ n v st st', pushProperty ops n v st = .ok st' → R st st')
    (pushComment : ∀ t st, R st (pushComment t st))
    (pushARule : ∀ n a st st', pushARule q ops n a st = .ok st' → R st st')
    (close : ∀ st st', close q ops st = .ok st' → R st st') :
    EmitClosed q ops (fun _ _ => R) (fun _ _ => R) where
  decl _ n v st st' h := pushProperty n v st st' h
  comment _ t st := pushComment t st
  arule _ n a st st' h := pushARule n a st st' h
  rule _ _ _ st st2 st' hb hc := trans (trans (startRule _ st) hb) (close st2 st' hc)
  ns _ name value _ st st0 st2 st' hv hn hb hc := by
    have h0 : R st st0 := by
      cases value with
      | none => rw [hn rfl]; exact refl st
      | some v => exact hv v rfl
    exact trans h0 (trans (trans (startNs name st0) hb) (close st2 st' hc))
  media _ _ _ st st2 st' hb hc := trans (trans (startMedia _ _ st) hb) (close st2 st' hc)
  atrule _ _ _ _ st st2 st' hb hc := trans (trans (startAtRule _ _ _ st) hb) (close st2 st' hc)
  atrootSel _ _ _ st st2 st' hb hc := trans (trans (startRule _ st) hb) (close st2 st' hc)
  atroot _ _ _ _ hb := hb
  nil _ st := refl st
  cons _ _ _ _ _ _ h1 h2 := trans h1 h2

/-- the lost-counter never decreases, and stays put when a refused hand-over is an error -/
theorem emit_lost (q : Quirks) (ops : Ops σ) :
    EmitClosed q ops (fun _ _ st st' => st.lost ≤ st'.lost ∧ (q.closeSwallows = false → st'.lost = st.lost))
      (fun _ _ st st' => st.lost ≤ st'.lost ∧ (q.closeSwallows = false → st'.lost = st.lost)) := by
  have same : ∀ st : St σ, st.lost ≤ st.lost ∧ (q.closeSwallows = false → st.lost = st.lost) :=
    fun st => ⟨Nat.le_refl _, fun _ => rfl⟩
  refine .of_steps same (fun h1 h2 => ⟨Nat.le_trans h1.1 h2.1, fun hs => (h2.2 hs).trans (h1.2 hs)⟩)
    (fun _ => same) (fun _ => same) (fun _ _ => same) (fun _ _ _ => same) ?_ (fun _ => same) ?_ ?_
  · intro n v st st' h
    obtain ⟨_, _, rfl⟩ := pushProperty_ok h
    exact same st
  · intro n a st st' h
    rcases pushARule_ok h with ⟨_, _, _, _, rfl⟩ | ⟨_, _, _, _, rfl⟩
    · exact same st
    · exact same st
  · intro st st' h
    rcases close_ok h with ⟨_, rfl⟩ | ⟨_, _, _, rfl⟩ | ⟨hs, rfl⟩
    · exact same st
    · exact same st
    · exact ⟨Nat.le_succ _, fun hs' => by simp [hs] at hs'⟩

end Dest
