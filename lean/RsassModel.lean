-- Root of the `RsassModel` library: every model, lemma and theorem module (generated by tools/gen_lake.py).
import RsassModel.Basic.Proto
import RsassModel.Calc.FloatInst
import RsassModel.Calc.IntInst
import RsassModel.Calc.Lemmas
import RsassModel.Calc.LemmasRead
import RsassModel.Calc.LemmasRender
import RsassModel.Calc.Model
import RsassModel.Color.Conv
import RsassModel.Color.CssNames
import RsassModel.Color.Ctor
import RsassModel.Color.Eval
import RsassModel.Color.FloatInst
import RsassModel.Color.Fmt
import RsassModel.Color.Fn
import RsassModel.Color.Lemmas
import RsassModel.Color.LemmasFmt
import RsassModel.Color.LemmasFn
import RsassModel.Color.LemmasRT
import RsassModel.Color.LemmasWF
import RsassModel.Color.Ops
import RsassModel.Color.Parse
import RsassModel.Color.RatInst
import RsassModel.Core.Args
import RsassModel.Core.Eval
import RsassModel.Core.LemmasArgs
import RsassModel.Core.LemmasEval
import RsassModel.Core.LemmasScope
import RsassModel.Core.Scope
import RsassModel.Core.Syntax
import RsassModel.Core.Term
import RsassModel.Dest.Css
import RsassModel.Dest.Emit
import RsassModel.Dest.Expand
import RsassModel.Dest.Handle
import RsassModel.Dest.Lemmas
import RsassModel.Dest.LemmasFlat
import RsassModel.Dest.LemmasMerge
import RsassModel.Dest.Refine
import RsassModel.Dest.RefineLost
import RsassModel.Dest.Text
import RsassModel.Dest.View
import RsassModel.Expr.Lemmas
import RsassModel.Expr.Prec
import RsassModel.Flow.Basic
import RsassModel.Flow.Display
import RsassModel.Flow.Lemmas
import RsassModel.Generated.ColorNames
import RsassModel.Generated.FnRegistry
import RsassModel.Generated.LoadCandidates
import RsassModel.Generated.PanicSites
import RsassModel.Generated.UnitTable
import RsassModel.Glue.Cli
import RsassModel.Glue.CliLemmas
import RsassModel.Glue.Entry
import RsassModel.Glue.EntryLemmas
import RsassModel.Glue.FnDocPairs
import RsassModel.Glue.FnMinMax
import RsassModel.Glue.FnRegistry
import RsassModel.Glue.FnRegistryLemmas
import RsassModel.Glue.Globals
import RsassModel.Glue.GlobalsLemmas
import RsassModel.Glue.Panics
import RsassModel.Glue.PanicsLemmas
import RsassModel.Glue.Uid
import RsassModel.Glue.UidLemmas
import RsassModel.ListFn.Codec
import RsassModel.ListFn.Lemmas
import RsassModel.ListFn.Model
import RsassModel.Load.Find
import RsassModel.Load.Graph
import RsassModel.Load.Handle
import RsassModel.Load.LemmasClosure
import RsassModel.Load.LemmasFind
import RsassModel.Load.LemmasGraph
import RsassModel.Load.Path
import RsassModel.MathFn.FloatInst
import RsassModel.MathFn.Lemmas
import RsassModel.MathFn.LemmasRat
import RsassModel.MathFn.Model
import RsassModel.MathFn.RatInst
import RsassModel.Mod.Lemmas
import RsassModel.Mod.Module
import RsassModel.Mod.Scenario
import RsassModel.Num.Cmp
import RsassModel.Num.CmpFloat
import RsassModel.Num.FloatInst
import RsassModel.Num.Format
import RsassModel.Num.FormatLemmasBase
import RsassModel.Num.FormatLemmasCases
import RsassModel.Num.FormatLemmasDigits
import RsassModel.Num.FormatLemmasLoop
import RsassModel.Num.FormatLemmasRound
import RsassModel.Num.FormatLemmasShape
import RsassModel.Num.Ops
import RsassModel.Num.RatInst
import RsassModel.Num.XRat
import RsassModel.Num.XRatLaws
import RsassModel.Rewrite.Callables
import RsassModel.Rewrite.Lemmas
import RsassModel.Rewrite.Model
import RsassModel.Sel.Extend
import RsassModel.Sel.ExtendLemmas
import RsassModel.Sel.Induction
import RsassModel.Sel.Nest
import RsassModel.Sel.NestLemmas
import RsassModel.Sel.Parse
import RsassModel.Sel.ParseLemmas
import RsassModel.Sel.Placeholder
import RsassModel.Sel.PlaceholderLemmas
import RsassModel.Sel.Print
import RsassModel.Sel.Super
import RsassModel.Sel.SuperChain
import RsassModel.Sel.SuperFuel
import RsassModel.Sel.SuperLemmas
import RsassModel.Sel.SuperTerm
import RsassModel.Sel.Syntax
import RsassModel.Sel.Term
import RsassModel.Sel.Unify
import RsassModel.Sel.UnifyComplex
import RsassModel.Sel.UnifyLemmas
import RsassModel.Str.Escape
import RsassModel.Str.LemmasHex
import RsassModel.Str.StrFn
import RsassModel.Theorems.C01
import RsassModel.Theorems.C01Sites
import RsassModel.Theorems.C02
import RsassModel.Theorems.C03
import RsassModel.Theorems.C04
import RsassModel.Theorems.C05
import RsassModel.Theorems.C06
import RsassModel.Theorems.C07
import RsassModel.Theorems.C08
import RsassModel.Theorems.C09
import RsassModel.Theorems.C10
import RsassModel.Theorems.C11
import RsassModel.Theorems.C11Pi
import RsassModel.Theorems.C12
import RsassModel.Theorems.C13
import RsassModel.Theorems.C14
import RsassModel.Theorems.C15
import RsassModel.Theorems.C16
import RsassModel.Theorems.C17
import RsassModel.Theorems.C18
import RsassModel.Theorems.C19
import RsassModel.Theorems.C20
import RsassModel.Theorems.C21
import RsassModel.Theorems.C22
import RsassModel.Theorems.C23
import RsassModel.Theorems.C24
import RsassModel.Theorems.C25
import RsassModel.Theorems.C26
import RsassModel.Theorems.C27
import RsassModel.Theorems.C28
import RsassModel.Theorems.C29
import RsassModel.Theorems.C30
import RsassModel.Theorems.C31
import RsassModel.Theorems.C32
import RsassModel.Theorems.C33
import RsassModel.Theorems.C34
import RsassModel.Theorems.C35
import RsassModel.Theorems.C36
import RsassModel.Theorems.C37
import RsassModel.Theorems.C38
import RsassModel.Theorems.C39
import RsassModel.Theorems.C40
import RsassModel.Units.Basic
import RsassModel.Units.Display
import RsassModel.Units.FloatInst
import RsassModel.Units.Lemmas
import RsassModel.Units.LemmasField
import RsassModel.Units.LemmasNormal
import RsassModel.Units.Spec
import RsassModel.Value.Eq
import RsassModel.Value.Lemmas
import RsassModel.Value.Logic
import RsassModel.Value.LogicLemmas
import RsassModel.Value.MapFn
import RsassModel.Value.MapKeys
import RsassModel.Value.OrderMap
import RsassModel.Value.OrderMapLemmas
import RsassModel.Value.SimpleKeys
import RsassModel.Value.StructKeys
import RsassModel.Value.Term
import RsassModel.Value.Value
import RsassModel.Writer.Buf
import RsassModel.Writer.CssString
import RsassModel.Writer.Ident
import RsassModel.Writer.LemmasBalance
import RsassModel.Writer.LemmasFrame
import RsassModel.Writer.LemmasIdent
import RsassModel.Writer.LemmasNoNl
import RsassModel.Writer.LemmasNorm
import RsassModel.Writer.LemmasScan
import RsassModel.Writer.LemmasStyles
import RsassModel.Writer.LemmasWrite
import RsassModel.Writer.Norm
import RsassModel.Writer.Scan
import RsassModel.Writer.Term
import RsassModel.Writer.Tree
